import RxnModel.Base.Bytes
import RxnModel.Base.Types
/-!
Order theory of `Bytes.cmp` (`bytes.Compare`): a strict total order; `≤` (`cmp ≠ .gt`) is transitive and survives `take`; its
interaction with `hasPrefix` and with a common prefix; the big-endian readings `beNat (uNNbe n) = n % 256 ^ width` of the
fixed-width encoders; on equal widths `cmp` is the numeric order of the big-endian values.
Core-only.
-/
namespace Rxn.Bytes

theorem u8_eq_of_not_lt {a b : UInt8} (h1 : ¬ a < b) (h2 : ¬ b < a) : a = b :=
  UInt8.le_antisymm (UInt8.not_lt.mp h2) (UInt8.not_lt.mp h1)

@[simp] theorem cmp_self (a : Bytes) : cmp a a = .eq := by
  induction a with
  | nil => rfl
  | cons x xs ih => simp [cmp, ih]

theorem cmp_eq_iff {a b : Bytes} : cmp a b = .eq ↔ a = b := by
  constructor
  · intro h
    induction a generalizing b with
    | nil => cases b <;> simp_all [cmp]
    | cons x xs ih =>
      cases b with
      | nil => simp [cmp] at h
      | cons y ys =>
        simp only [cmp] at h
        split at h
        · cases h
        · split at h
          · cases h
          · rename_i h1 h2
            rw [u8_eq_of_not_lt h1 h2, ih h]
  · intro h; subst h; exact cmp_self a

theorem cmp_lt_iff_gt {a b : Bytes} : cmp a b = .lt ↔ cmp b a = .gt := by
  induction a generalizing b with
  | nil => cases b <;> simp [cmp]
  | cons x xs ih =>
    cases b with
    | nil => simp [cmp]
    | cons y ys =>
      simp only [cmp]
      by_cases h1 : x < y
      · simp [h1, UInt8.lt_asymm h1]
      · by_cases h2 : y < x
        · simp [h1, h2]
        · simp [h1, h2, ih]

theorem cmp_gt_iff_lt {a b : Bytes} : cmp a b = .gt ↔ cmp b a = .lt := (cmp_lt_iff_gt (a := b) (b := a)).symm

theorem cmp_lt_trans {a b c : Bytes} (h1 : cmp a b = .lt) (h2 : cmp b c = .lt) : cmp a c = .lt := by
  induction a generalizing b c with
  | nil =>
    cases b with
    | nil => simp [cmp] at h1
    | cons y ys => cases c with
      | nil => simp [cmp] at h2
      | cons z zs => simp [cmp]
  | cons x xs ih =>
    cases b with
    | nil => simp [cmp] at h1
    | cons y ys =>
      cases c with
      | nil => simp [cmp] at h2
      | cons z zs =>
        simp only [cmp] at h1 h2 ⊢
        by_cases hxy : x < y
        · by_cases hyz : y < z
          · simp [UInt8.lt_trans hxy hyz]
          · by_cases hzy : z < y
            · simp [hyz, hzy] at h2
            · have : y = z := u8_eq_of_not_lt hyz hzy
              subst this; simp [hxy]
        · by_cases hyx : y < x
          · simp [hxy, hyx] at h1
          · have hxy' : x = y := u8_eq_of_not_lt hxy hyx
            subst hxy'
            simp only [hxy, if_false] at h1
            by_cases hyz : x < z
            · simp [hyz]
            · by_cases hzy : z < x
              · simp [hyz, hzy] at h2
              · simp only [hyz, hzy, if_false] at h2 ⊢
                exact ih h1 h2

theorem cmp_le_lt_trans {a b c : Bytes} (h1 : cmp a b ≠ .gt) (h2 : cmp b c = .lt) : cmp a c = .lt := by
  cases h : cmp a b with
  | lt => exact cmp_lt_trans h h2
  | eq => rw [cmp_eq_iff.mp h]; exact h2
  | gt => exact absurd h h1

theorem cmp_lt_le_trans {a b c : Bytes} (h1 : cmp a b = .lt) (h2 : cmp b c ≠ .gt) : cmp a c = .lt := by
  cases h : cmp b c with
  | lt => exact cmp_lt_trans h1 h
  | eq => rw [← cmp_eq_iff.mp h]; exact h1
  | gt => exact absurd h h2

theorem cmp_ne_gt_trans {a b c : Bytes} (h1 : cmp a b ≠ .gt) (h2 : cmp b c ≠ .gt) : cmp a c ≠ .gt :=
  fun h => h2 (cmp_lt_iff_gt.mp (cmp_lt_le_trans (cmp_gt_iff_lt.mp h) h1))

theorem cmp_lt_of_ne_of_not_gt {a b : Bytes} (hne : a ≠ b) (h : cmp b a ≠ .lt) : cmp a b = .lt := by
  cases hc : cmp a b with
  | lt => rfl
  | eq => exact absurd (cmp_eq_iff.mp hc) hne
  | gt => exact absurd (cmp_gt_iff_lt.mp hc) h

theorem cmp_take_ne_gt (n : Nat) (a b : Bytes) (h : Bytes.cmp a b ≠ .gt) : Bytes.cmp (a.take n) (b.take n) ≠ .gt := by
  induction n generalizing a b with
  | zero => simp
  | succ n ih =>
    cases a with
    | nil =>
      cases b with
      | nil => simp
      | cons y ys => simp [Bytes.cmp]
    | cons x xs =>
      cases b with
      | nil => simp [Bytes.cmp] at h
      | cons y ys =>
        simp only [List.take_succ_cons, Bytes.cmp] at h ⊢
        by_cases h1 : x < y
        · simp [h1]
        · by_cases h2 : y < x
          · simp [h1, h2] at h
          · simp only [h1, h2, if_false] at h ⊢
            exact ih xs ys h

theorem lt_iff_cmp {a b : Bytes} : lt a b = true ↔ cmp a b = .lt := beq_iff_eq

theorem lt_irrefl (a : Bytes) : lt a a = false := by simp [lt]

theorem ne_of_lt {a b : Bytes} (h : lt a b = true) : a ≠ b := fun hab => by
  rw [hab, lt_irrefl] at h
  cases h

theorem lt_trans {a b c : Bytes} (h1 : lt a b = true) (h2 : lt b c = true) : lt a c = true := by
  simp only [lt, beq_iff_eq] at *
  exact cmp_lt_trans h1 h2

theorem lt_asymm {a b : Bytes} (h : lt a b = true) : lt b a = false := by
  simp only [lt, beq_iff_eq, beq_eq_false_iff_ne, ne_eq] at *
  intro h2
  have := cmp_lt_iff_gt.mp h
  rw [h2] at this; cases this

theorem lt_or_eq_or_gt (a b : Bytes) : lt a b = true ∨ a = b ∨ lt b a = true := by
  cases h : cmp a b with
  | lt => left; simp [lt, h]
  | eq => right; left; exact cmp_eq_iff.mp h
  | gt => right; right; simp [lt, cmp_gt_iff_lt.mp h]

@[simp] theorem hasPrefix_nil (b : Bytes) : hasPrefix b [] = true := by cases b <;> rfl

theorem hasPrefix_iff {b p : Bytes} : hasPrefix b p = true ↔ ∃ s, b = p ++ s := by
  induction p generalizing b with
  | nil => simp
  | cons x xs ih =>
    cases b with
    | nil => simp [hasPrefix]
    | cons y ys =>
      simp only [hasPrefix, Bool.and_eq_true, beq_iff_eq, ih, List.cons_append, List.cons.injEq]
      constructor
      · rintro ⟨rfl, s, rfl⟩; exact ⟨s, rfl, rfl⟩
      · rintro ⟨s, rfl, rfl⟩; exact ⟨rfl, s, rfl⟩

theorem hasPrefix_append (p s : Bytes) : hasPrefix (p ++ s) p = true := hasPrefix_iff.mpr ⟨s, rfl⟩

theorem prefix_le {b p : Bytes} (h : hasPrefix b p = true) : cmp p b ≠ .gt := by
  induction p generalizing b with
  | nil => cases b <;> simp [cmp]
  | cons x xs ih =>
    cases b with
    | nil => simp [hasPrefix] at h
    | cons y ys =>
      simp only [hasPrefix, Bool.and_eq_true, beq_iff_eq] at h
      obtain ⟨rfl, h⟩ := h
      simp only [cmp, UInt8.lt_irrefl, if_false]
      exact ih h

theorem hasPrefix_self (p : Bytes) : hasPrefix p p = true := hasPrefix_iff.mpr ⟨[], (List.append_nil p).symm⟩

theorem not_prefix_of_lt {a p : Bytes} (h : cmp a p = .lt) : hasPrefix a p = false := by
  cases hp : hasPrefix a p with
  | false => rfl
  | true => exact absurd (cmp_lt_iff_gt.mp h) (prefix_le hp)

theorem prefix_interval {a b c p : Bytes} (ha : hasPrefix a p = true) (hc : hasPrefix c p = true)
    (hab : cmp a b ≠ .gt) (hbc : cmp b c ≠ .gt) : hasPrefix b p = true := by
  induction p generalizing a b c with
  | nil => simp
  | cons x xs ih =>
    cases a with
    | nil => simp [hasPrefix] at ha
    | cons a0 as =>
      cases c with
      | nil => simp [hasPrefix] at hc
      | cons c0 cs =>
        simp only [hasPrefix, Bool.and_eq_true, beq_iff_eq] at ha hc
        obtain ⟨e1, ha⟩ := ha
        obtain ⟨e2, hc⟩ := hc
        cases b with
        | nil => simp [cmp] at hab
        | cons b0 bs =>
          simp only [cmp] at hab hbc
          rw [e1] at hab
          rw [e2] at hbc
          by_cases h1 : x < b0
          · by_cases h2 : b0 < x
            · exact absurd h2 (UInt8.lt_asymm h1)
            · simp [h1, h2] at hbc
          · by_cases h2 : b0 < x
            · simp [h1, h2] at hab
            · have : x = b0 := u8_eq_of_not_lt h1 h2
              subst this
              simp only [UInt8.lt_irrefl, if_false] at hab hbc
              simp only [hasPrefix, beq_self_eq_true, Bool.true_and]
              exact ih ha hc hab hbc

theorem ne_of_cmp_lt {a b : Bytes} (h : cmp a b = .lt) : a ≠ b := fun e => by rw [e, cmp_self] at h; cases h

theorem ne_of_cmp_gt {a b : Bytes} (h : cmp a b = .gt) : a ≠ b := fun e => by rw [e, cmp_self] at h; cases h

theorem cmp_append_left (p x y : Bytes) : cmp (p ++ x) (p ++ y) = cmp x y := by
  induction p with
  | nil => rfl
  | cons a p ih => simp [cmp, ih]

theorem cmp_append_of_not_prefix : ∀ (a b x y : Bytes), hasPrefix a b = false → hasPrefix b a = false →
    cmp (a ++ x) (b ++ y) = cmp a b := by
  intro a
  induction a with
  | nil => intro b x y _ h2; rw [hasPrefix_nil] at h2; cases h2
  | cons h t ih =>
    intro b x y h1 h2
    cases b with
    | nil => rw [hasPrefix_nil] at h1; cases h1
    | cons h' t' =>
      simp only [List.cons_append, cmp]
      by_cases hlt : h < h'
      · rw [if_pos hlt, if_pos hlt]
      · by_cases hgt : h' < h
        · rw [if_neg hlt, if_neg hlt, if_pos hgt, if_pos hgt]
        · have : h = h' := u8_eq_of_not_lt hlt hgt
          subst this
          simp only [hasPrefix, beq_self_eq_true, Bool.true_and] at h1 h2
          simp only [if_neg hlt]
          exact ih t' x y h1 h2

theorem beNat_foldl (xs : Bytes) (acc : Nat) :
    xs.foldl (fun acc x => acc * 256 + x.toNat) acc = acc * 256 ^ xs.length + beNat xs := by
  induction xs generalizing acc with
  | nil => simp [beNat]
  | cons x xs ih =>
    simp only [List.foldl_cons, beNat, List.length_cons]
    rw [ih (acc * 256 + x.toNat), ih (0 * 256 + x.toNat)]
    simp only [Nat.zero_mul, Nat.zero_add, Nat.pow_succ]
    rw [Nat.add_mul, Nat.mul_assoc, Nat.mul_comm 256 (256 ^ xs.length), Nat.add_assoc]

theorem beNat_append (a b : Bytes) : beNat (a ++ b) = beNat a * 256 ^ b.length + beNat b := by
  unfold beNat
  rw [List.foldl_append, beNat_foldl]
  rfl

theorem beNat_cons (x : UInt8) (xs : Bytes) : beNat (x :: xs) = x.toNat * 256 ^ xs.length + beNat xs := by
  have := beNat_append [x] xs
  simpa [beNat] using this

theorem beNat_lt (xs : Bytes) : beNat xs < 256 ^ xs.length := by
  induction xs with
  | nil => simp [beNat]
  | cons x xs ih =>
    rw [beNat_cons, List.length_cons, Nat.pow_succ]
    have hx : x.toNat < 256 := x.toNat_lt
    have : (x.toNat + 1) * 256 ^ xs.length ≤ 256 * 256 ^ xs.length := Nat.mul_le_mul_right _ hx
    rw [Nat.succ_mul] at this
    rw [Nat.mul_comm (256 ^ xs.length) 256]
    omega

theorem digit_lt {B a b x y : Nat} (hb : b < B) (h : x < y) : x * B + b < y * B + a := by
  have := Nat.mul_le_mul_right B (Nat.succ_le_of_lt h)
  rw [Nat.succ_mul] at this
  omega

theorem cmp_gt_iff_beNat (a b : Bytes) (h : a.length = b.length) :
    Bytes.cmp a b = .gt ↔ Bytes.beNat b < Bytes.beNat a := by
  induction a generalizing b with
  | nil =>
    cases b with
    | nil => simp [Bytes.cmp, Bytes.beNat]
    | cons y ys => cases h
  | cons x xs ih =>
    cases b with
    | nil => cases h
    | cons y ys =>
      have hl : xs.length = ys.length := Nat.succ.inj h
      have ha := beNat_lt xs
      have hb := beNat_lt ys
      rw [beNat_cons, beNat_cons, hl]
      rw [hl] at ha
      simp only [Bytes.cmp]
      by_cases h1 : x < y
      · rw [if_pos h1]
        have := digit_lt (a := Bytes.beNat ys) ha (UInt8.lt_iff_toNat_lt.mp h1)
        exact ⟨fun hc => (nomatch hc), fun hc => absurd hc (Nat.lt_asymm this)⟩
      · rw [if_neg h1]
        by_cases h2 : y < x
        · rw [if_pos h2]
          exact ⟨fun _ => digit_lt hb (UInt8.lt_iff_toNat_lt.mp h2), fun _ => rfl⟩
        · rw [if_neg h2, Bytes.u8_eq_of_not_lt h1 h2, ih ys hl]
          exact Nat.add_lt_add_iff_left.symm

theorem beNat_singleton (n : Nat) : beNat [UInt8.ofNat (n % 256)] = n % 256 := by simp [beNat]

theorem beNat_halves {a b : Bytes} {n B : Nat} (hB : 256 ^ b.length = B) (ha : beNat a = n / B % B)
    (hb : beNat b = n % B) : beNat (a ++ b) = n % (B * B) := by
  rw [beNat_append, hB, ha, hb, Nat.mod_mul, Nat.add_comm, Nat.mul_comm]

theorem u16be_length (n : Nat) : (u16be n).length = 2 := rfl
theorem u32be_length (n : Nat) : (u32be n).length = 4 := rfl
theorem u64be_length (n : Nat) : (u64be n).length = 8 := rfl

theorem beNat_u16be (n : Nat) : beNat (u16be n) = n % 65536 :=
  beNat_halves (B := 256) (a := [_]) (b := [_]) rfl (beNat_singleton (n / 256)) (beNat_singleton n)

theorem beNat_take2_u16be (g : Nat) (hg : g < 65536) (rest : Bytes) : beNat ((u16be g ++ rest).take 2) = g := by
  rw [List.take_left' (u16be_length g), beNat_u16be, Nat.mod_eq_of_lt hg]

theorem u32be_eq (n : Nat) : u32be n = u16be (n / 65536) ++ u16be n := by
  simp [u32be, u16be, Nat.div_div_eq_div_mul]

theorem beNat_u32be (n : Nat) : beNat (u32be n) = n % 4294967296 := by
  rw [u32be_eq]
  exact beNat_halves (B := 65536) (by rw [u16be_length]) (beNat_u16be _) (beNat_u16be n)

theorem beNat_u64be (n : Nat) : beNat (u64be n) = n % 18446744073709551616 :=
  beNat_halves (B := 4294967296) (by rw [u32be_length]) ((beNat_u32be _).trans (Nat.mod_mod _ _))
    ((beNat_u32be _).trans (Nat.mod_mod _ _))

end Rxn.Bytes

namespace Rxn

theorem cmpInt_lt_one_iff (a b : Bytes) : cmpInt a b < 1 ↔ Bytes.cmp a b ≠ .gt := by
  unfold cmpInt; cases Bytes.cmp a b <;> simp

theorem cmpInt_gt_neg_one_iff (a b : Bytes) : cmpInt a b > -1 ↔ Bytes.cmp a b ≠ .lt := by
  unfold cmpInt; cases Bytes.cmp a b <;> simp

theorem cmpInt_eq_one {a b : Bytes} : cmpInt a b = 1 ↔ Bytes.cmp a b = .gt := by
  unfold cmpInt; cases Bytes.cmp a b <;> simp

theorem cmpInt_eq_neg_one {a b : Bytes} : cmpInt a b = -1 ↔ Bytes.cmp a b = .lt := by
  unfold cmpInt; cases Bytes.cmp a b <;> simp

end Rxn
