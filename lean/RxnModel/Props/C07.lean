import RxnModel.Proofs.LsmScan
import RxnModel.Proofs.LsmOrder
import RxnModel.Proofs.CompactionSound
/-!
# C07 — DKV reads return the latest write at every moment

Histories are action lists of `Model/Lsm.lean` (one action per mutex section / pointer snapshot of `dkv/db.go`). Memtable
rotation and the background flush and compaction commits are free actions, so quantifying over the list covers every
size setting and every placement of the background tasks relative to foreground reads and writes. `Spec` is the list of
writes, newest first; `Spec.get` the last write to the key.

`CompactionSound` (every change set passing the executable test `safeCS` preserves the invariant) is the one obligation
that belongs to C18; it is proved there (`Rxn.Compaction.compactionSound`, `Proofs/CompactionSound.lean`) and passed in
here, so the theorems assume nothing about compaction. Only `reachable_inv` leaves the choice to its caller (no
compaction commit in the history, or `CompactionSound`); the `_noCompact` versions take the first branch and do not
depend on the compaction proof.

The reads come in two descriptions. `get`, `getBResult`, `scan` (`Model/Lsm.lean`) and `scan2` (`Proofs/LsmScan.lean`)
describe the level list order-insensitively (deeper level: "the table whose range contains the key"; scan: merge of all
tables). `Rescale.getR`, `getBResultR`, `Rescale.scanR`, `scan2R` (`Model/Rescale.lean`, `Model/LsmCode.lean`) search as
`dkv/sst/level_list.go` does; the `*_code` theorems are about these (and they are what the driver executes). They rest on
the additional invariant `DeepOrdered` (every deeper level ascending by key range), kept along every history, under
which the binary searches find what the order-insensitive description finds.
-/
namespace Rxn.C07
open Rxn Rxn.Lsm

/-- the spec is "last write wins": after a put/delete the key maps to that write, other keys are untouched -/
theorem spec_last_write_wins (m : Spec) (seq : Nat) (k v k' : Bytes) :
    Spec.get (specStep m seq (.put k v)) k' = (if k = k' then some ⟨k, seq + 1, false, v⟩ else Spec.get m k') ∧
    Spec.get (specStep m seq (.del k)) k' = (if k = k' then some ⟨k, seq + 1, true, []⟩ else Spec.get m k') := by
  exact ⟨Run.lookup_cons _ m k', Run.lookup_cons _ m k'⟩

/-- every state reachable from the empty database satisfies the refinement invariant, given `hc`: no compaction commit
in the history, or `CompactionSound` (the theorems below pass C18's `compactionSound`) -/
theorem reachable_inv (as : List Act) (s : State) (m : Spec)
    (hc : noCompact as = true ∨ CompactionSound) (h : runBoth {} [] as = some (s, m)) : Inv s m ∧ ReadInv s m :=
  runBoth_inv as {} [] s m hc inv_init readInv_init h

/-- Get returns the most recently written entry (value or delete marker) in every reachable state: after any
history of puts, deletes, rotations, flush begins/commits/aborts, compaction commits and reads -/
theorem get_returns_latest_write (as : List Act) (s : State) (m : Spec)
    (h : runBoth {} [] as = some (s, m)) (k : Bytes) :
    get s k = Spec.get m k ∧ answer (get s k) = answer (Spec.get m k) := by
  have := get_spec (reachable_inv as s m (Or.inr Rxn.Compaction.compactionSound) h).1 k
  exact ⟨this, congrArg answer this⟩

/-- the same for histories with rotations and flushes at arbitrary points but no compaction commit (`hn`), without
the compaction proof -/
theorem get_returns_latest_write_noCompact (as : List Act) (hn : noCompact as = true) (s : State) (m : Spec)
    (h : runBoth {} [] as = some (s, m)) (k : Bytes) : get s k = Spec.get m k :=
  get_spec (reachable_inv as s m (Or.inl hn) h).1 k

/-- a `Get` whose two phases (memtables, then sstables) are separated by arbitrary background commits still
returns the latest write -/
theorem two_phase_read (as : List Act) (s : State) (m : Spec)
    (h : runBoth {} [] as = some (s, m)) (k : Bytes) (r : Option Entry) (hr : s.reading = some (k, r)) :
    getBResult s = Spec.get m k := by
  have hi := reachable_inv as s m (Or.inr Rxn.Compaction.compactionSound) h
  exact getB_correct hi.1 hi.2 k r hr

/-- ScanPrefix returns exactly the live keys with the prefix, each once, in ascending order, with their latest
values in every reachable state -/
theorem scan_returns_live_keys (as : List Act) (s : State) (m : Spec)
    (h : runBoth {} [] as = some (s, m)) (p : Bytes) :
    (scan s p).Pairwise (fun a b => Bytes.lt a.key b.key = true) ∧
    ∀ e, e ∈ scan s p ↔ (Spec.get m e.key = some e ∧ e.del = false ∧ Bytes.hasPrefix e.key p = true) :=
  scan_spec (reachable_inv as s m (Or.inr Rxn.Compaction.compactionSound) h).1 p

theorem scan_returns_live_keys_noCompact (as : List Act) (hn : noCompact as = true) (s : State) (m : Spec)
    (h : runBoth {} [] as = some (s, m)) (p : Bytes) :
    (scan s p).Pairwise (fun a b => Bytes.lt a.key b.key = true) ∧
    ∀ e, e ∈ scan s p ↔ (Spec.get m e.key = some e ∧ e.del = false ∧ Bytes.hasPrefix e.key p = true) :=
  scan_spec (reachable_inv as s m (Or.inl hn) h).1 p

/-- A ScanPrefix in two phases — the memtable list snapshotted and merged in state `sA`
(`db.mtables.ScanPrefix`), the level list snapshotted later in state `sB` (`db.currentSSTables()`), separated by
arbitrary background activity `as₂` (flush begins/commits, compaction commits, rotations, point reads; no foreground
write, which shares the reader's goroutine) — returns exactly the live latest entries with the prefix, each once, in
ascending order. `sA` is any reachable state. -/
theorem two_phase_scan (as₁ as₂ : List Act) (sA sB : State) (m m' : Spec)
    (h1 : runBoth {} [] as₁ = some (sA, m)) (hnw : noWrite as₂ = true) (h2 : runBoth sA m as₂ = some (sB, m'))
    (p : Bytes) :
    m' = m ∧ (scan2 sA sB p).Pairwise (fun a b => Bytes.lt a.key b.key = true) ∧
    ∀ e, e ∈ scan2 sA sB p ↔ (Spec.get m e.key = some e ∧ e.del = false ∧ Bytes.hasPrefix e.key p = true) := by
  have hA := reachable_inv as₁ sA m (Or.inr Rxn.Compaction.compactionSound) h1
  have hB := runBoth_inv as₂ sA m sB m' (Or.inr Rxn.Compaction.compactionSound) hA.1 hA.2 h2
  exact scanWith_two_phase hA.1 hB.1 hnw h2 p (selects_all sB.levels p)

/-! The reads as the code computes them, from any start state. A reopened (C08) or rescaled (C06) instance starts
from a state built from checkpoint documents; whoever shows `Inv`, `ReadInv` and `DeepOrdered` for that state
(`deepOrdered_of_levelValid` turns C06's `LevelValid` of the deeper levels into `DeepOrdered`) gets the `_from` theorems
for every later history. -/

/-- the three invariants are kept along every history from any state that satisfies them -/
theorem reachable_ordered_from (s₀ : State) (m₀ : Spec) (h₀ : Inv s₀ m₀) (hr₀ : ReadInv s₀ m₀) (ho₀ : DeepOrdered s₀)
    (as : List Act) (s : State) (m : Spec) (h : runBoth s₀ m₀ as = some (s, m)) :
    Inv s m ∧ ReadInv s m ∧ DeepOrdered s :=
  runBoth_inv_ordered as s₀ m₀ s m h₀ hr₀ ho₀ h

/-- Get, the second phase of a parked Get, and ScanPrefix as the code computes them, after any history from any
start state satisfying the invariants -/
theorem code_reads_from (s₀ : State) (m₀ : Spec) (h₀ : Inv s₀ m₀) (hr₀ : ReadInv s₀ m₀) (ho₀ : DeepOrdered s₀)
    (as : List Act) (s : State) (m : Spec) (h : runBoth s₀ m₀ as = some (s, m)) :
    (∀ k, Rescale.getR s k = Spec.get m k) ∧
    (∀ k r, s.reading = some (k, r) → getBResultR s = Spec.get m k) ∧
    (∀ p, (Rescale.scanR s p).Pairwise (fun a b => Bytes.lt a.key b.key = true) ∧
      ∀ e, e ∈ Rescale.scanR s p ↔ (Spec.get m e.key = some e ∧ e.del = false ∧ Bytes.hasPrefix e.key p = true)) := by
  obtain ⟨hi, hri, ho⟩ := reachable_ordered_from s₀ m₀ h₀ hr₀ ho₀ as s m h
  exact code_reads_of_inv hi hri ho

/-- the two-phase / held-iterator scan as the code computes it, from any start state satisfying the invariants:
memtables merged in `sA` (reached by `as₁`), level list of `sB` (after write-free `as₂`), consumed in `sC` (after
write-free `as₃`) -/
theorem two_phase_scan_code_from (s₀ : State) (m₀ : Spec) (h₀ : Inv s₀ m₀) (hr₀ : ReadInv s₀ m₀) (ho₀ : DeepOrdered s₀)
    (as₁ as₂ as₃ : List Act) (sA sB sC : State) (m m' m'' : Spec)
    (h1 : runBoth s₀ m₀ as₁ = some (sA, m)) (hnw2 : noWrite as₂ = true) (h2 : runBoth sA m as₂ = some (sB, m'))
    (hnw3 : noWrite as₃ = true) (h3 : runBoth sB m' as₃ = some (sC, m'')) (p : Bytes) :
    m' = m ∧ m'' = m ∧ (scan2R sA sB p).Pairwise (fun a b => Bytes.lt a.key b.key = true) ∧
    ∀ e, e ∈ scan2R sA sB p ↔ (Spec.get m e.key = some e ∧ e.del = false ∧ Bytes.hasPrefix e.key p = true) := by
  obtain ⟨hA, hrA, hoA⟩ := reachable_ordered_from s₀ m₀ h₀ hr₀ ho₀ as₁ sA m h1
  obtain ⟨hB, _, hoB⟩ := runBoth_inv_ordered as₂ sA m sB m' hA hrA hoA h2
  obtain ⟨rfl, hs⟩ := scanWith_two_phase hA hB hnw2 h2 p (selects_tablesForPrefix hB hoB p)
  obtain ⟨rfl, _⟩ := runBoth_noWrite hnw3 h3
  exact ⟨rfl, rfl, hs⟩

/-- every reachable state keeps the deeper levels ascending by key range (what `SearchUnique` and
`slices.BinarySearchFunc` in `level_list.go` rely on), together with the refinement invariant -/
theorem reachable_ordered (as : List Act) (s : State) (m : Spec) (h : runBoth {} [] as = some (s, m)) :
    Inv s m ∧ ReadInv s m ∧ DeepOrdered s :=
  reachable_ordered_from {} [] inv_init readInv_init deepOrdered_init as s m h

/-- in every reachable state the binary searches of `tablesForKey` / `AllTablesForPrefix` give the same answers as
the order-insensitive descriptions: same point read, same second phase of a parked read, same scan -/
theorem code_reads_agree (as : List Act) (s : State) (m : Spec) (h : runBoth {} [] as = some (s, m))
    (k p : Bytes) :
    Rescale.getR s k = get s k ∧ getBResultR s = getBResult s ∧ Rescale.scanR s p = scan s p := by
  obtain ⟨hi, _, ho⟩ := reachable_ordered as s m h
  exact ⟨getR_eq_get hi ho k, getBResultR_eq hi ho, scanR_eq_scan_of_inv hi ho p⟩

/-- `DB.Get` as the code computes it (memtables newest first, level 0 newest first, `SearchUnique` over
`RangeKeyCompare` on every deeper level) returns the most recently written entry in every reachable state -/
theorem get_code_returns_latest_write (as : List Act) (s : State) (m : Spec)
    (h : runBoth {} [] as = some (s, m)) (k : Bytes) :
    Rescale.getR s k = Spec.get m k ∧ answer (Rescale.getR s k) = answer (Spec.get m k) := by
  have := (code_reads_from {} [] inv_init readInv_init deepOrdered_init as s m h).1 k
  exact ⟨this, congrArg answer this⟩

/-- a `Get` whose memtable phase and `LevelList.Get` (with its binary searches) are separated by arbitrary
background commits returns the latest write -/
theorem two_phase_read_code (as : List Act) (s : State) (m : Spec)
    (h : runBoth {} [] as = some (s, m)) (k : Bytes) (r : Option Entry) (hr : s.reading = some (k, r)) :
    getBResultR s = Spec.get m k :=
  (code_reads_from {} [] inv_init readInv_init deepOrdered_init as s m h).2.1 k r hr

/-- `DB.ScanPrefix` over the tables `AllTablesForPrefix` selects returns exactly the live keys with the prefix,
each once, ascending, with their latest values, in every reachable state -/
theorem scan_code_returns_live_keys (as : List Act) (s : State) (m : Spec)
    (h : runBoth {} [] as = some (s, m)) (p : Bytes) :
    (Rescale.scanR s p).Pairwise (fun a b => Bytes.lt a.key b.key = true) ∧
    ∀ e, e ∈ Rescale.scanR s p ↔ (Spec.get m e.key = some e ∧ e.del = false ∧ Bytes.hasPrefix e.key p = true) :=
  (code_reads_from {} [] inv_init readInv_init deepOrdered_init as s m h).2.2 p

/-- two-phase `DB.ScanPrefix` as the code computes it: memtables merged in `sA`, then — after arbitrary
background activity without a foreground write — `AllTablesForPrefix` on the level list of `sB` -/
theorem two_phase_scan_code (as₁ as₂ : List Act) (sA sB : State) (m m' : Spec)
    (h1 : runBoth {} [] as₁ = some (sA, m)) (hnw : noWrite as₂ = true) (h2 : runBoth sA m as₂ = some (sB, m'))
    (p : Bytes) :
    m' = m ∧ (scan2R sA sB p).Pairwise (fun a b => Bytes.lt a.key b.key = true) ∧
    ∀ e, e ∈ scan2R sA sB p ↔ (Spec.get m e.key = some e ∧ e.del = false ∧ Bytes.hasPrefix e.key p = true) := by
  obtain ⟨hm, _, hs⟩ := two_phase_scan_code_from {} [] inv_init readInv_init deepOrdered_init
    as₁ as₂ [] sA sB sB m m' m' h1 hnw h2 rfl rfl p
  exact ⟨hm, hs⟩

/-- a `ScanPrefix` iterator is a snapshot taken at the call: both snapshots are taken when `DB.ScanPrefix` is
called (memtable list in `sA`, level list in `sB`; `as₂ = []` when nothing runs in between), and what the iterator
yields is `scan2R sA sB p`, a value fixed by the two snapshots (that consuming it lazily reads nothing else is the
trusted assumption (1) of DESIGN.md, C07, and is not modelled). The theorem is about the time of consumption: after
further background activity `as₃` (flush and compaction commits, rotations — no foreground write: the iterator's
consumer is the writer's goroutine) the specification `m''` of `sC` is still `m`, so the entries yielded are exactly
the live latest entries with the prefix at that time, ascending — a flush that commits after the call and before the
first advance loses nothing. -/
theorem scan_is_snapshot_at_call (as₁ as₂ as₃ : List Act) (sA sB sC : State) (m m' m'' : Spec)
    (h1 : runBoth {} [] as₁ = some (sA, m)) (hnw2 : noWrite as₂ = true) (h2 : runBoth sA m as₂ = some (sB, m'))
    (hnw3 : noWrite as₃ = true) (h3 : runBoth sB m' as₃ = some (sC, m'')) (p : Bytes) :
    m'' = m ∧ (scan2R sA sB p).Pairwise (fun a b => Bytes.lt a.key b.key = true) ∧
    ∀ e, e ∈ scan2R sA sB p ↔ (Spec.get m'' e.key = some e ∧ e.del = false ∧ Bytes.hasPrefix e.key p = true) := by
  obtain ⟨_, rfl, hs⟩ := two_phase_scan_code_from {} [] inv_init readInv_init deepOrdered_init
    as₁ as₂ as₃ sA sB sC m m' m'' h1 hnw2 h2 hnw3 h3 p
  exact ⟨rfl, hs⟩

/-- the order of a deeper level matters to the code's reads and not to the order-insensitive description: on a
level list whose level 1 is stored in descending range order (never reachable) `SearchUnique` misses the key -/
example :
    let s : State := { levels := [[], [⟨1, [⟨[2], 2, false, [20]⟩]⟩, ⟨0, [⟨[1], 1, false, [10]⟩]⟩, ⟨2, [⟨[0], 3, false, [30]⟩]⟩]] }
    get s [2] = some ⟨[2], 2, false, [20]⟩ ∧ Rescale.getR s [2] = none := by decide +kernel

/-! non-vacuity: a history with an overwrite, a delete, two rotations and a flush is accepted by the model, leaves
three containers (two memtables and a level-0 table) holding two versions each of `[1]` and `[2]`, and reads the
latest version -/
def demo : List Act :=
  [.put [1] [10], .rotate, .put [1] [11], .put [2] [20], .rotate, .flushBegin 1, .del [2], .flushCommit, .put [3] [30]]

example : (runBoth {} [] demo).isSome = true := by decide +kernel
example : (runBoth {} [] demo).map (fun sm => answer (get sm.1 [1])) = some (some [11]) := by decide +kernel
example : (runBoth {} [] demo).map (fun sm => answer (get sm.1 [2])) = some none := by decide +kernel
example : noCompact demo = true := by decide

/-- a history with a compaction commit that the model accepts (level-0 table 0 merged into level 1) -/
def demoCompact : List Act :=
  [.put [1] [10], .rotate, .flushBegin 1, .flushCommit, .put [1] [11],
   .compact [0] 1 [[⟨[1], 1, false, [10]⟩]], .put [2] [20]]

example : (runBoth {} [] demoCompact).isSome = true := by decide +kernel
example : (runBoth {} [] demoCompact).map (fun sm => answer (get sm.1 [1])) = some (some [11]) := by decide +kernel
example : noCompact demoCompact = false := by decide

/-! non-vacuity of `two_phase_scan`: key `[1]` is put and flushed to level 0, then deleted (the marker sits in the
active memtable together with a live `[1,2]`); between the two phases of the scan that memtable is rotated out and
flushed (`demoScanB` rotates without a write: a free action of the model, which `dkv` takes only at the end of a write).
The scan (memtables of the earlier state, tables of the later one) sees the marker twice and the old put
once, and returns only `[1,2]`. Reading the phases the other way round (tables first, memtables later) would lose
the marker and resurrect the deleted `[1]`. -/
def demoScanA : List Act :=
  [.put [1] [10], .rotate, .flushBegin 1, .flushCommit, .del [1], .put [1, 2] [20]]
def demoScanB : List Act := [.rotate, .flushBegin 1, .flushCommit]

/-- run `as₁` from the empty database, then `as₂`, and evaluate `f` on the two states -/
def twoPhase {α : Type} (as₁ as₂ : List Act) (f : State → State → α) : Option α :=
  (runBoth {} [] as₁).bind (fun sm => (runBoth sm.1 sm.2 as₂).map (fun sm' => f sm.1 sm'.1))

example : noWrite demoScanB = true := by decide
example : twoPhase demoScanA demoScanB (fun sA sB => scan2 sA sB [1]) = some [⟨[1, 2], 3, false, [20]⟩] := by
  decide +kernel
example : twoPhase demoScanA demoScanB (fun _ sB => sB.levels.flatten.map (·.run)) =
    some [[⟨[1], 1, false, [10]⟩], [⟨[1], 2, true, []⟩, ⟨[1, 2], 3, false, [20]⟩]] := by decide +kernel
example : twoPhase demoScanA demoScanB (fun _ sB => sB.mems) = some [[]] := by decide +kernel
/-- the opposite phase order is wrong on the same schedule -/
example : twoPhase demoScanA demoScanB (fun sA sB => scan2 sB sA [1]) = some [⟨[1], 1, false, [10]⟩] := by
  decide +kernel

/-! non-vacuity of the `*_code` theorems: a history that builds a two-table level 1 (two flushes, then a compaction
of both level-0 tables cut into two chunks), after which the binary searches are exercised: the point read of
`[2, 5]` must pick the second table of level 1; the scan of prefix `[2]` walks from the first table (its end key `[2]`
carries the prefix) into the second, the scan of prefix `[3]` starts at the second -/
def demoDeep : List Act :=
  [.put [1] [10], .put [2] [20], .rotate, .flushBegin 1, .flushCommit,
   .put [2, 5] [25], .put [3] [30], .rotate, .flushBegin 1, .flushCommit,
   .compact [0, 1] 1 [[⟨[1], 1, false, [10]⟩, ⟨[2], 2, false, [20]⟩], [⟨[2, 5], 3, false, [25]⟩, ⟨[3], 4, false, [30]⟩]],
   .del [2]]

example : (runBoth {} [] demoDeep).map (fun sm => sm.1.levels.map (fun l => l.map (·.id))) =
    some [[], [2, 3], [], [], [], []] := by decide +kernel
example : (runBoth {} [] demoDeep).map (fun sm => Rescale.getR sm.1 [2, 5]) = some (some ⟨[2, 5], 3, false, [25]⟩) := by
  decide +kernel
example : (runBoth {} [] demoDeep).map (fun sm => (Rescale.tablesForPrefix sm.1.levels [2]).map (·.id)) = some [2, 3] := by
  decide +kernel
example : (runBoth {} [] demoDeep).map (fun sm => (Rescale.tablesForPrefix sm.1.levels [3]).map (·.id)) = some [3] := by
  decide +kernel
example : (runBoth {} [] demoDeep).map (fun sm => Rescale.scanR sm.1 [2]) = some [⟨[2, 5], 3, false, [25]⟩] := by
  decide +kernel
example : twoPhase demoScanA demoScanB (fun sA sB => scan2R sA sB [1]) = some [⟨[1, 2], 3, false, [20]⟩] := by
  decide +kernel

/-! non-vacuity of `scan_is_snapshot_at_call`: the iterator is obtained after `demoScanA` (delete marker and `[1,2]`
in the active memtable), then that memtable is rotated out, flushed and dequeued (`demoScanB` as `as₃`), then the
iterator is consumed: it still yields `[1,2]`; a scan that took its memtable snapshot only at consumption time
(lazily) together with the level list of the call would yield the deleted `[1]` and lose `[1,2]` -/
example : twoPhase demoScanA demoScanB (fun sA _ => scan2R sA sA [1]) = some [⟨[1, 2], 3, false, [20]⟩] := by
  decide +kernel
example : twoPhase demoScanA demoScanB (fun sA sC => scan2R sC sA [1]) = some [⟨[1], 1, false, [10]⟩] := by
  decide +kernel

/-! non-vacuity of the `_from` theorems: the state after `demoDeep` (two-table level 1, a delete marker in memory) is a
start state with the three invariants (`reachable_ordered`); a failed flush (`flushAbort`: the sealed memtable stays
queued, the next flush task takes both sealed memtables, the second of them empty: `demoAbort2` rotates without a write,
which the model allows and `dkv` never does) and a parked read across it are accepted and read correctly -/
def demoAbort : List Act :=
  [.put [4] [40], .rotate, .flushBegin 1, .getA [2, 5], .flushAbort]
def demoAbort2 : List Act := [.rotate, .flushBegin 2, .flushCommit, .getB]

example : ((runBoth {} [] demoDeep).bind (fun sm => runBoth sm.1 sm.2 demoAbort)).map
    (fun sm => (sm.1.mems.length, sm.1.flushing.isSome, sm.1.reading.isSome)) = some (2, false, true) := by decide +kernel
example : ((runBoth {} [] demoDeep).bind (fun sm => runBoth sm.1 sm.2 (demoAbort ++ demoAbort2))).map
    (fun sm => (sm.1.mems.length, (sm.1.levels.headD []).length, Rescale.getR sm.1 [4], answer (Rescale.getR sm.1 [2])))
    = some (1, 2, some ⟨[4], 6, false, [40]⟩, none) := by decide +kernel
example : ((runBoth {} [] demoDeep).bind (fun sm => runBoth sm.1 sm.2 (demoAbort ++ demoAbort2.dropLast))).map
    (fun sm => getBResultR sm.1) = some (some ⟨[2, 5], 3, false, [25]⟩) := by decide +kernel

end Rxn.C07
