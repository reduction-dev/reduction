import RxnModel.Proofs.RescaleBridge
import RxnModel.Proofs.RescaleCode
import RxnModel.Proofs.RescaleAssign
/-!
# C06 — rescaling redistributes checkpointed state completely and exclusively

Model: `Model/Rescale.lean` (on top of `Model/KeySpace.lean`, `Model/Lsm.lean`, `Model/Search.lean`);
`Overlaps`/`IncludesKeyGroup`/`RangeKeyCompare`/`RangePrefixCompare` are regenerated from /repo on every run.
The code is modelled after the repairs D7, D8, D6, D28, D36 (see `fixes/`); the unrepaired loops are kept for the
regression witnesses at the end.
-/
namespace Rxn.C06
open Rxn Lsm KeySpace Rescale

/-- `AssignRanges` is exact for every list of recorded checkpoint ranges, in whatever order they were recorded:
new operator `i` is handed recorded position `j` iff their key-group ranges overlap. -/
theorem assign_exact (to frm : List KGRange) (i j : Nat) (t : KGRange) (ht : to[i]? = some t) :
    ∃ l, (assignRanges to frm)[i]? = some l ∧
      (j ∈ l ↔ ∃ f, frm[j]? = some f ∧ t.overlaps f = true) :=
  ⟨assignLoop t frm 0, assignRanges_get to frm i t ht, mem_assignLoop t frm j⟩

/-- nothing is lost: for `to = keyGroupRanges kgc n` and `from` ANY permutation of `keyGroupRanges kgc m`, the new
operator that owns key group `g` is handed the checkpoint of the old operator that owned `g`. -/
theorem assign_complete (kgc m n : Nat) (hm : 0 < m) (frm : List KGRange) (hperm : frm.Perm (ranges kgc m))
    (g : Nat) (hg : g < kgc) (i : Nat) (t : KGRange) (ht : (ranges kgc n)[i]? = some t) (hinc : t.includes g = true) :
    ∃ j f l, frm[j]? = some f ∧ f.includes g = true ∧
      (assignRanges (ranges kgc n) frm)[i]? = some l ∧ j ∈ l := by
  obtain ⟨r, hr, hrg⟩ := owner_exists kgc m g hm hg
  have hmem : r ∈ frm := hperm.mem_iff.mpr hr
  obtain ⟨j, hj⟩ := List.getElem?_of_mem hmem
  obtain ⟨l, hl, hiff⟩ := assign_exact (ranges kgc n) frm i j t ht
  exact ⟨j, r, l, hj, hrg, hl, hiff.mpr ⟨r, hj, KGRange.overlaps_of_includes hinc hrg⟩⟩

/-- the handles `Assembly.Deploy` passes on (`sliceu.Pick` of the assignment) are the recorded checkpoints at the
assigned positions (as a set: the statement is about membership, not about the order of `pick xs idx`) -/
theorem pick_assigned {α : Type} (xs : List α) (idx : List Nat) (x : α) :
    x ∈ Rescale.pick xs idx ↔ ∃ j, j ∈ idx ∧ xs[j]? = some x := by
  simp [Rescale.pick, List.mem_filterMap]

/-- for every handle order the deeper levels of the composite checkpoint are ascending and
pairwise disjoint in key range (what the binary searches of `LevelList` rely on), provided each old instance's
tables only span key groups of its own range and the ranges do not overlap. -/
theorem merged_levels_valid (ps : List (KGRange × Ckpt)) (hok : ∀ p ∈ ps, CkptOk p.1 p.2)
    (hdis : ps.Pairwise (fun a b => a.1.overlaps b.1 = false)) (i : Nat) (hi : 1 ≤ i) (l : List Tbl)
    (hl : (mergeLevels (ps.map (·.2)))[i]? = some l) : LevelValid l :=
  deeper_of_tail (mergeLevels_tail_valid ps hok hdis) i l hi hl

/-- level 0 of the composite (not a sorted level, so not covered by `merged_levels_valid`) is exactly the handles'
level-0 lists appended in handle order — never re-ordered — so every handle's tables stay one contiguous block in their
stored order. The statement has no notion of age: that the stored order is the age order (flushes append) is the model's
reading of it, and the age statement proper is `Rescale.l0KeyAge_merged`. -/
theorem merged_level0_keeps_age_order (cs : List Ckpt) (n : Nat) (hn : 1 ≤ n) (hne : cs ≠ [])
    (hnl : ∀ c ∈ cs, c.levels.length = n) :
    (mergeLevels cs)[0]? = some (concatLevel cs 0) ∧
    ∀ (x y : List Ckpt) (c : Ckpt), cs = x ++ c :: y →
      concatLevel cs 0 = concatLevel x 0 ++ (c.levels.getD 0 [] ++ concatLevel y 0) := by
  refine ⟨mergeLevels_level0 cs n hn hne hnl, ?_⟩
  intro x y c h
  rw [h, concatLevel_split]

/-- what level 0 must satisfy for reads: insertion order = age order *per source* is enough, because different
sources hold disjoint key groups — the composite's newest-first level-0 lookup of a key equals the lookup in the
level 0 of the key's old owner alone, wherever the other handles' tables are placed. -/
theorem level0_lookup_per_source (n : Nat) (pre post : List (KGRange × Ckpt)) (rj : KGRange) (cj : Ckpt)
    (hpre : ∀ p ∈ pre, OldOk n p ∧ p.1.overlaps rj = false) (hpost : ∀ p ∈ post, OldOk n p ∧ p.1.overlaps rj = false)
    (k : Bytes) (hlen : 2 ≤ k.length) (hk : rj.includes (kgOf k) = true) :
    l0Get (concatLevel ((pre ++ (rj, cj) :: post).map (·.2)) 0) k = l0Get (cj.levels.getD 0 []) k :=
  l0Get_congr k (filter_concatLevel_owner pre post rj cj (fun p hp => (hpre p hp).1.ck) (fun p hp => (hpre p hp).2)
    (fun p hp => (hpost p hp).1.ck) (fun p hp => (hpost p hp).2) k hlen hk 0)

/-- after `Open`, for any handles and ownership, the instance's sequence number is at least every sequence number in
every loaded table, everything replayed from the WALs is numbered above all of them and is owned (nothing foreign is
replayed), and a write to the instance is numbered `s.seq + 1` and leaves the level list alone. -/
theorem seq_above_loaded (own : Bytes → Bool) (c : Ckpt) (cs : List Ckpt) :
    let s := openDB own (c :: cs)
    (∀ l ∈ s.levels, ∀ t ∈ l, ∀ e ∈ t.run, e.seq ≤ s.seq) ∧
    (∃ m, s.mems = [m] ∧ ∀ x ∈ m, own x.key = true ∧ x.seq ≤ s.seq ∧
        ∀ l ∈ s.levels, ∀ t ∈ l, ∀ e ∈ t.run, e.seq < x.seq) ∧
    (∀ k d v, (write s k d v).seq = s.seq + 1 ∧ (write s k d v).levels = s.levels) := by
  intro s
  have hinv := openDB_replayInv own (c :: cs) (List.cons_ne_nil _ _)
  have htab : ∀ l ∈ s.levels, ∀ t ∈ l, ∀ e ∈ t.run, e.seq ≤ latestSeq (mergeLevels (c :: cs)) := by
    intro l hl t ht e he
    rw [hinv.levels] at hl
    exact seq_le_latest _ t (List.mem_flatten.mpr ⟨l, hl, ht⟩) e he
  obtain ⟨m, hm, hall⟩ := hinv.mems
  refine ⟨fun l hl t ht e he => Nat.le_trans (htab l hl t ht e he) hinv.seq, ⟨m, hm, ?_⟩, ?_⟩
  · intro x hx
    obtain ⟨h1, h2, h3⟩ := hall x hx
    exact ⟨h3, h2, fun l hl t ht e he => Nat.lt_of_le_of_lt (htab l hl t ht e he) h1⟩
  · intro k d v
    rw [write_single s m hm hinv.reading]
    exact ⟨rfl, rfl⟩

/-- Get form of "a write after the restore wins". NOTE: this alone does not need the sequence numbers (`getR` visits
the memtable first: `getR_write_single` holds of any instance with one memtable); the statement that does is
`write_after_restore_wins_scan_partial` below, whose D6 witness is `d6_scan_counterexample`. -/
theorem write_after_restore_wins_get (own : Bytes → Bool) (c : Ckpt) (cs : List Ckpt) (k : Bytes) (d : Bool) (v : Bytes) :
    answer (getR (write (openDB own (c :: cs)) k d v) k) = if d then none else some v := by
  have hinv := openDB_replayInv own (c :: cs) (List.cons_ne_nil _ _)
  obtain ⟨m, hm, _⟩ := hinv.mems
  rw [getR_write_single _ m hm hinv.reading]
  exact answer_wEntry _ k d v

/-- (partial: see the excluded condition below) Restore ANY list of old checkpoints in ANY
handle order into an instance with ownership test `own`. For every key `k` the instance owns, whose key group belonged
to old instance `(rj, cj)`, `Get k` returns exactly what `cj`'s instance answered at its checkpoint (nothing lost, and
no other instance's data is returned for it).

Excluded condition: `OldOk` requires that every table and WAL record of every old checkpoint only carries key groups
of the range it is listed with, the ranges being pairwise non-overlapping. The ranges are free, so a restore from ONE
handle is always covered (take the ancestor's range), whatever the document carries. What is excluded is a restore that
MERGES ≥ 2 handles of which one carries keys of another one's range — only possible when that source was itself restored
from a handle it partly owned (second rescale). That the exclusion cannot be dropped: `d37_counterexample` (Get and
scan), `d47_counterexample` (Get only; the scan is right there, so for scans the exclusion is wider than necessary).
Full statement (false of the code, witness in `fixes/D37_demo_test.go`): the same without the `ck.tables`/`wal` range
conditions of `OldOk`. -/
theorem rescale_restore_partial (own : Bytes → Bool) (n : Nat) (pre post : List (KGRange × Ckpt))
    (rj : KGRange) (cj : Ckpt)
    (hok : ∀ p ∈ pre ++ (rj, cj) :: post, OldOk n p)
    (hdis : (pre ++ (rj, cj) :: post).Pairwise (fun a b => a.1.overlaps b.1 = false))
    (k : Bytes) (hlen : 2 ≤ k.length) (hk : rj.includes (kgOf k) = true) (hown : own k = true) :
    answer (getR (openDB own ((pre ++ (rj, cj) :: post).map (·.2))) k) = ckptAnswer cj k := by
  -- the instance answers as its composite document does; for `k` its WAL and its level list answer as the owner's
  rw [openDB_get own _ (by simp) k hown, walLast_merged n pre post rj cj hok hdis k hk]
  show _ = ckptAnswer cj k
  rw [ckptAnswer, ← levelsGetR_merged n pre post rj cj hok hdis k hlen hk]
  rfl

/-- (partial, same exclusion as `rescale_restore_partial`) The restored instance is a C07 instance: the instance produced by
`Open` from ANY non-empty list of old checkpoints in ANY handle order satisfies the DKV invariant `Lsm.Inv` of C07
(runs sorted, newer-above in read order, deeper levels range-unique, sequence bound) for the specification map
`m` = its containers in read order; and for every owned key that map holds exactly what the key's old owner answered
at its checkpoint. `SrcOk` asks of each old `(range, document)`: C07's `sorted`/`newer` and C18's level validity for
that single instance, `n+1` levels, and — the excluded condition of D37/D47 — that its tables and WAL only carry key
groups of its own range. -/
theorem restored_instance_inv_partial (own : Bytes → Bool) (n : Nat) (pre post : List (KGRange × Ckpt))
    (rj : KGRange) (cj : Ckpt)
    (hok : ∀ p ∈ pre ++ (rj, cj) :: post, SrcOk (n + 1) p)
    (hdis : (pre ++ (rj, cj) :: post).Pairwise (fun a b => a.1.overlaps b.1 = false)) :
    let s := openDB own ((pre ++ (rj, cj) :: post).map (·.2))
    let m : Spec := (containers s).flatten
    Inv s m ∧ ReadInv s m ∧
    ∀ k, 2 ≤ k.length → rj.includes (kgOf k) = true → own k = true → answer (Spec.get m k) = ckptAnswer cj k := by
  intro s m
  have hne : pre ++ (rj, cj) :: post ≠ [] := by simp
  have hinv := openDB_lsm_inv own n _ hne hok hdis
  refine ⟨hinv, readInv_of_none (openDB_replayInv own _ (by simp)).reading, ?_⟩
  intro k hlen hk hown
  -- the map answers as C07's `get`, which on ordered deeper levels is the code's `getR`
  rw [← get_spec hinv k, ← getR_eq_get hinv (openDB_deepOrdered own n _ hne hok hdis) k]
  exact rescale_restore_partial own (n + 1) pre post rj cj (fun p hp => (hok p hp).toOldOk) hdis k hlen hk hown

/-- (partial, same exclusion) `ScanPrefix p` on the restored instance — for ANY prefix —
is strictly ascending, and for every key the new instance owns it contains the key with value `v` exactly when the
key's old owner held the live value `v` at its checkpoint and the key has the prefix: nothing checkpointed is missing
(completeness), nothing else appears for an owned key. This is the read path of `KeyedStateStore.GetState` and of
the timer queue's `loadFromDB`. Stated for `Lsm.scan` (merge of all tables); `scanR_eq_scan_restored_partial` below transfers it to
the table selection `AllTablesForPrefix` performs. -/
theorem rescale_restore_scan_partial (own : Bytes → Bool) (n : Nat) (pre post : List (KGRange × Ckpt))
    (rj : KGRange) (cj : Ckpt)
    (hok : ∀ p ∈ pre ++ (rj, cj) :: post, SrcOk (n + 1) p)
    (hdis : (pre ++ (rj, cj) :: post).Pairwise (fun a b => a.1.overlaps b.1 = false)) (p : Bytes) :
    let s := openDB own ((pre ++ (rj, cj) :: post).map (·.2))
    (scan s p).Sorted ∧
    ∀ k v, 2 ≤ k.length → rj.includes (kgOf k) = true → own k = true →
      ((∃ e ∈ scan s p, e.key = k ∧ e.val = v) ↔ (ckptAnswer cj k = some v ∧ Bytes.hasPrefix k p = true)) := by
  intro s
  obtain ⟨hinv, _, hspec⟩ := restored_instance_inv_partial own n pre post rj cj hok hdis
  refine ⟨(scan_spec hinv p).1, fun k v hlen hk hown => ?_⟩
  rw [scan_val_iff_answer hinv, hspec k hlen hk hown]

/-- (partial, same exclusion) The statement about the CODE's reads after any later
history. Starting from the restored instance, after ANY sequence of DKV actions — writes, deletes, rotations, flush
begin/commit at any point, two-phase reads, and compaction commits of any change set passing the guard (no soundness
hypothesis: `runBoth_inv_ordered`, C07; these are the MODEL's actions, which remove tables by number: where two loaded tables
carry the same number, which only `hids` of `restored_start_has_c18_invariant_partial` excludes, a change set of the code
need not be one of them) — the instance still has C07's invariant AND its deeper levels in key order, so
`DB.Get` with the range binary search (`getR`) returns the latest write of the restored map advanced by the writes, and
`DB.ScanPrefix` over the tables `AllTablesForPrefix` selects (`scanR`) is ascending and holds exactly its live latest
entries with the prefix. -/
theorem restored_history_code_reads_partial (own : Bytes → Bool) (n : Nat) (pre post : List (KGRange × Ckpt))
    (rj : KGRange) (cj : Ckpt)
    (hok : ∀ p ∈ pre ++ (rj, cj) :: post, SrcOk (n + 1) p)
    (hdis : (pre ++ (rj, cj) :: post).Pairwise (fun a b => a.1.overlaps b.1 = false))
    (as : List Act) (s' : State) (m' : Spec)
    (hrun : runBoth (openDB own ((pre ++ (rj, cj) :: post).map (·.2)))
      (containers (openDB own ((pre ++ (rj, cj) :: post).map (·.2)))).flatten as = some (s', m')) (p : Bytes) :
    Inv s' m' ∧ DeepOrdered s' ∧ (∀ k, getR s' k = Spec.get m' k) ∧ (scanR s' p).Sorted ∧
    ∀ e, e ∈ scanR s' p ↔ (Spec.get m' e.key = some e ∧ e.del = false ∧ Bytes.hasPrefix e.key p = true) := by
  obtain ⟨hinv, hr, _⟩ := restored_instance_inv_partial own n pre post rj cj hok hdis
  have hord := openDB_deepOrdered own n (pre ++ (rj, cj) :: post) (by simp) hok hdis
  obtain ⟨h1, h2, h3⟩ := runBoth_inv_ordered as _ _ s' m' hinv hr hord hrun
  obtain ⟨hget, _, hscan⟩ := code_reads_of_inv h1 h2 h3
  exact ⟨h1, h3, hget, hscan p⟩

/-- later updates take effect as in C03, at scan level and for every later history: starting from the restored
instance, after ANY sequence of DKV actions (writes, deletes, memtable rotations, flush commits at any point, reads
in two phases, compaction commits; the model's actions, see the remark on table numbers at
`restored_history_code_reads_partial`) the instance still satisfies `Lsm.Inv` for the restored map advanced by the writes —
so `ScanPrefix` is exactly the live latest entries (`Lsm.scan_spec`) and `Get` the latest write (`Lsm.get_eq_firstHit`).
The hypothesis `hc` on compactions can always be met (`Or.inr Compaction.compactionSound`, C18), and
`restored_history_code_reads_partial` above reaches the same invariant without it. -/
theorem restored_history_refines_partial (own : Bytes → Bool) (n : Nat) (pre post : List (KGRange × Ckpt))
    (rj : KGRange) (cj : Ckpt)
    (hok : ∀ p ∈ pre ++ (rj, cj) :: post, SrcOk (n + 1) p)
    (hdis : (pre ++ (rj, cj) :: post).Pairwise (fun a b => a.1.overlaps b.1 = false))
    (as : List Act) (hc : noCompact as = true ∨ CompactionSound) (s' : State) (m' : Spec)
    (hrun : runBoth (openDB own ((pre ++ (rj, cj) :: post).map (·.2)))
      (containers (openDB own ((pre ++ (rj, cj) :: post).map (·.2)))).flatten as = some (s', m')) (p : Bytes) :
    Inv s' m' ∧ (scan s' p).Sorted ∧
    ∀ e, e ∈ scan s' p ↔ (Spec.get m' e.key = some e ∧ e.del = false ∧ Bytes.hasPrefix e.key p = true) := by
  obtain ⟨hinv, hr, _⟩ := restored_instance_inv_partial own n pre post rj cj hok hdis
  obtain ⟨h1, _⟩ := runBoth_inv as _ _ s' m' hc hinv hr hrun
  exact ⟨h1, scan_spec h1 p⟩

/-- (partial, same exclusion; the instantiation C18 left to C06) The restored
instance satisfies C18's `DInv` with any compactor cursor, so `C18.db_invariant_from_any_state`,
`real_compaction_commit_from` and `pick_is_safe` apply to it — every change set the real picker computes from it, with any
flush commits and writes in between, passes the guard and changes no answer. Beyond `SrcOk` this needs, per source,
level-0 tables that share a key to be age-ordered (`L0KeyAgeOrdered`, C18's invariant of the source), at least two
levels, and `hids`: the loaded tables carry pairwise different numbers, all below `nid`, the number the instance
continues its table files at. The model's `openDB` sets that counter itself (`Checkpoint.NextTableID`, repair D28:
`restored_table_ids_fresh`, which gives the "below" half at `nid = (openDB …).nextId`); the statement overrides it with
any `nid`. The model keeps the documents' table numbers, so `hids` excludes sources that number a table alike (each
numbering its files from 0 in its own directory, as `[exC2, exC1]` below do). -/
theorem restored_start_has_c18_invariant_partial (own : Bytes → Bool) (n : Nat) (hn : 1 ≤ n)
    (ps : List (KGRange × Ckpt)) (hne : ps ≠ [])
    (hok : ∀ p ∈ ps, SrcOk (n + 1) p) (hdis : ps.Pairwise (fun a b => a.1.overlaps b.1 = false))
    (hage : ∀ p ∈ ps, Compaction.L0KeyAgeOrdered p.2.levels) (nid : Nat)
    (hids : Compaction.IdsFresh (mergeLevels (ps.map (·.2))) nid) (c : Compaction.Compactor) :
    Compaction.DInv { s := { openDB own (ps.map (·.2)) with nextId := nid }, c := c, pending := none }
      (containers (openDB own (ps.map (·.2)))).flatten := by
  have hne' : ps.map (·.2) ≠ [] := by simpa using hne
  have hrep := openDB_replayInv own _ hne'
  obtain ⟨mm, hmm, hall⟩ := hrep.mems
  refine dinv_of_single (openDB_lsm_inv own n ps hne hok hdis) mm hmm hrep.reading
    (hord := openDB_deepOrdered own n ps hne hok hdis) (hlen := ?_) (hage := ?_) (hsep := ?_) nid (hids := ?_) c
  · rw [hrep.levels, mergeLevels_length _ (n + 1) hne' (srcs_nlev ps hok)]
    exact Nat.succ_le_succ hn
  · rw [hrep.levels]
    exact l0KeyAge_merged n ps hne hok hdis hage
  · -- loaded versions are numbered at most `latestSeq`, replayed ones above it
    intro t ht e he e' he'
    rw [hrep.levels] at ht
    exact Nat.lt_of_le_of_lt (seq_le_latest _ t (Compaction.headD_mem_flatten ht) e he) (hall e' he').1
  · rw [hrep.levels]
    exact hids

/-- after a restore from ANY list of handles in ANY order the table writer continues above
every table number of EVERY handle (`Checkpoint.NextTableID` over the composite level list, whatever directory a table
lies in), and replaying the WALs does not move it; so every table the next flush or compaction names (`mkTables s.nextId`;
a later one numbers from a counter the statement does not follow) differs from every loaded table — also when the instance is opened in the directory of one of its sources (an operator that
keeps running across a scale-in), whichever handle was recorded first. The single-handle case is C08's D28. -/
theorem restored_table_ids_fresh (own : Bytes → Bool) (c : Ckpt) (cs : List Ckpt) (n : Nat)
    (hnl : ∀ h ∈ c :: cs, h.levels.length = n) :
    let s := openDB own (c :: cs)
    (∀ h ∈ c :: cs, ∀ t ∈ h.levels.flatten, t.id < s.nextId) ∧
    (∀ t ∈ s.levels.flatten, t.id < s.nextId) ∧
    (∀ (runs : List Run), ∀ t' ∈ mkTables s.nextId runs, ∀ t ∈ s.levels.flatten, t'.id ≠ t.id) := by
  intro s
  have hlev : s.levels = mergeLevels (c :: cs) := (openDB_replayInv own _ (List.cons_ne_nil _ _)).levels
  have hlt : ∀ t ∈ s.levels.flatten, t.id < s.nextId := by
    intro t ht
    rw [openDB_nextId own _ (List.cons_ne_nil _ _)]
    rw [hlev] at ht
    exact lt_nextTableId _ t ht
  refine ⟨fun h hh t ht => hlt t (by rw [hlev]; exact (mem_mergeLevels hnl).mpr ⟨h, hh, ht⟩), hlt, ?_⟩
  intro runs t' ht' t ht heq
  exact Nat.lt_irrefl _ (Nat.lt_of_lt_of_le (heq ▸ hlt t ht) (mkTables_id_mem ht').1)

/-- one write after the restore, observed through `ScanPrefix` (the operator's
read path): the scan holds the key with exactly the new value (or not at all after a delete). This needs the restored
sequence number to be above every loaded version (`seq_above_loaded`, i.e. the repair of D6): see
`d6_scan_counterexample` for the same statement failing on the unrepaired restore. -/
theorem write_after_restore_wins_scan_partial (own : Bytes → Bool) (n : Nat) (pre post : List (KGRange × Ckpt))
    (rj : KGRange) (cj : Ckpt)
    (hok : ∀ p ∈ pre ++ (rj, cj) :: post, SrcOk (n + 1) p)
    (hdis : (pre ++ (rj, cj) :: post).Pairwise (fun a b => a.1.overlaps b.1 = false))
    (k : Bytes) (d : Bool) (v : Bytes) (p : Bytes) (hp : Bytes.hasPrefix k p = true) :
    let s := openDB own ((pre ++ (rj, cj) :: post).map (·.2))
    ∀ e, (e ∈ scan (write s k d v) p ∧ e.key = k) ↔ (d = false ∧ e = ⟨k, s.seq + 1, false, v⟩) := by
  intro s e
  have hrep := openDB_replayInv own ((pre ++ (rj, cj) :: post).map (·.2)) (by simp)
  obtain ⟨mm, hmm, _⟩ := hrep.mems
  exact scan_write_single (openDB_lsm_inv own n _ (by simp) hok hdis) mm hmm hrep.reading k d v p hp e

/-- a table whose last key carries the smallest sequence number and belongs to another operator after scale-out -/
def exC6 : Ckpt := ⟨[[⟨0, [⟨[0, 1, 97], 4, false, [7]⟩, ⟨[0, 200, 97], 1, false, [8]⟩]⟩]], []⟩

/-- on the restored instance, and after any number of writes/deletes to it, the scan exactly as
`LevelList.AllTablesForPrefix` + `DB.ScanPrefix` perform it (binary search over `RangePrefixCompare`, forward walk while
`RangeContainsPrefix`, merge by sequence number of the selected tables only) equals C07's `Lsm.scan`; so
`rescale_restore_scan_partial` and `write_after_restore_wins_scan_partial` are statements about the code's scan. -/
theorem scanR_eq_scan_restored_partial (own : Bytes → Bool) (n : Nat) (ps : List (KGRange × Ckpt)) (hne : ps ≠ [])
    (hok : ∀ p ∈ ps, SrcOk (n + 1) p) (hdis : ps.Pairwise (fun a b => a.1.overlaps b.1 = false))
    (ws : List (Bytes × Bool × Bytes)) (p : Bytes) :
    let s := ws.foldl (fun s w => write s w.1 w.2.1 w.2.2) (openDB own (ps.map (·.2)))
    scanR s p = scan s p := by
  intro s
  exact scanR_eq_scan_merged ps hok hdis s
    ((foldl_write_levels ws _).trans (openDB_replayInv own (ps.map (·.2)) (by simpa using hne)).levels) p

/-- where the old instances' documents come from (bridge to C08): for every state `s₁` of a DKV instance satisfying
C08's invariant (every state reachable in C08's system does: `C08.inv_run`; that system opens from ONE handle and
replays every record, so a source that was itself restored with an ownership filter or from several handles is not
covered), the document a restoring instance reads from the record captured by `Checkpoint(id)` — its level list and the
WAL records after `After` — answers, through `ckptAnswer`, exactly what the instance itself answered to `Get` at the
`Checkpoint` call. So for a source that C08's system covers the right-hand sides of `rescale_restore_partial` and
`rescale_restore_scan_partial` are the old operators' states at the checkpoint, not a definition. -/
theorem ckptAnswer_is_state_at_checkpoint (s₁ : Ckpt.State) (hi : Ckpt.Inv s₁) (id : Nat) (k : Bytes) :
    ckptAnswer (ofCapture (Ckpt.capture s₁ id)) k = answer (Lsm.get s₁.db k) := by
  rw [Ckpt.inv_get hi k]
  unfold ckptAnswer ofCapture Ckpt.capture
  simp only
  -- both sides branch on the last record for `k` after `latest`; the document's and C08's agree on delete flag and value
  have h := walLast_lastW (s₁.wal.entries.filter (fun r => decide (s₁.latest < r.seq))) k
  cases hl : Ckpt.lastW none (s₁.wal.entries.filter (fun r => decide (s₁.latest < r.seq))) k with
  | none =>
    rw [hl] at h
    rw [Option.map_eq_none_iff.mp h]
  | some e =>
    rw [hl] at h
    obtain ⟨w, hw, hwe⟩ := Option.map_eq_some_iff.mp h
    obtain ⟨h1, h2⟩ := Prod.mk.inj hwe
    rw [hw]
    simp only [answer, h1, h2]

/-- C07's invariant of the checkpointing instance discharges the `sorted` and `newer` hypotheses of `SrcOk` (bridge to
C07). What stays assumed of an old instance, explicitly: its keys lie in its own range (C05 routing; first generation —
the exclusion of D37/D47), its tables are non-empty (D31), its deeper levels are ascending (C18's layout validity;
`Lsm.Inv` itself only has range uniqueness, with C07's `DeepOrdered` it gives them: `Lsm.levelValid_of_inv`) and it has
`n` levels. The driver evaluates all `SrcOk` clauses (keys of tables and WAL records, non-empty, sorted, ascending
deeper levels, newer-above, six levels) on every first-generation real document (`inFamily` in `Driver/C06.lean`). -/
theorem source_hypotheses_from_instance (r : KGRange) (s : Lsm.State) (m : Spec) (hinv : Lsm.Inv s m)
    (wal : List WalEntry) (n : Nat)
    (hkeys : ∀ t ∈ s.levels.flatten, ∀ e ∈ t.run, 2 ≤ e.key.length ∧ r.includes (kgOf e.key) = true)
    (hne : ∀ t ∈ s.levels.flatten, t.run ≠ [])
    (hdeep : ∀ i l, 1 ≤ i → s.levels[i]? = some l → LevelValid l)
    (hwal : ∀ w ∈ wal, r.includes (kgOf w.key) = true) (hn : s.levels.length = n) :
    SrcOk n (r, ⟨s.levels, wal⟩) :=
  { keys := hkeys
    ne := hne
    sorted := fun t ht => hinv.sorted _ (List.mem_append_right _ (List.mem_map.mpr ⟨t, (readOrder_mem _ t).mpr ht, rfl⟩))
    deeper := hdeep
    newer := (newerAbove_append.mp hinv.newer).2.1
    wal := hwal
    nlev := hn }

/-- exclusivity, as far as the code guarantees it: every read the operator performs is a `ScanPrefix` whose prefix starts with the two
key-group bytes of a group it owns (`encodeSubjectKey`, the timer queue's key-group prefix). Such a scan returns only
keys of that owned group, whatever foreign entries the shared tables still hold. -/
theorem operator_reads_exclusive (r : KGRange) (s : State) (m : Spec) (hinv : Inv s m) (p : Bytes)
    (hp : 2 ≤ p.length) (hin : r.includes (kgOf p) = true) :
    ∀ e ∈ scan s p, Keys.ownsKey r e.key = true ∧ kgOf e.key = kgOf p := by
  intro e he
  obtain ⟨_, _, hpre⟩ := ((scan_spec hinv p).2 e).mp he
  obtain ⟨suffix, hs⟩ := Bytes.hasPrefix_iff.mp hpre
  have hk : kgOf e.key = kgOf p := by
    unfold kgOf; rw [hs, List.take_append_of_le_length hp]
  exact ⟨by unfold Keys.ownsKey; rw [show Bytes.beNat (e.key.take 2) = kgOf e.key from rfl, hk]; exact hin, hk⟩

theorem kgOf_u16be (g : Nat) (hg : g < 65536) (rest : Bytes) : kgOf (Bytes.u16be g ++ rest) = g :=
  Bytes.beNat_take2_u16be g hg rest

/-- the keyed-state read of a subject key only sees keys of the subject's key group: the prefix `encodeSubjectKey k`
starts with `k`'s key group, and the router sends `k` to the one operator whose range includes that group
(`C05.rangeIndex_unique`, which supplies `hroute`). -/
theorem keyed_state_read_exclusive (kgc : Nat) (hk : 0 < kgc) (hk2 : kgc ≤ 65535)
    (k : Bytes) (r : KGRange) (hroute : r.includes (KeySpace.keyGroup kgc k) = true)
    (s : State) (m : Spec) (hinv : Inv s m) :
    ∀ e ∈ scan s (Keys.subjectKey kgc k), Keys.ownsKey r e.key = true := by
  have hg : KeySpace.keyGroup kgc k < 65536 := by
    have := Nat.mod_lt (Murmur.hash k 0).toNat hk; unfold KeySpace.keyGroup; omega
  have hkg : kgOf (Keys.subjectKey kgc k) = KeySpace.keyGroup kgc k := by
    unfold Keys.subjectKey
    simp only [List.append_assoc]
    exact kgOf_u16be _ hg _
  intro e he
  exact (operator_reads_exclusive r s m hinv _ (by simp [Keys.subjectKey, Bytes.u16be]) (by rw [hkg]; exact hroute) e he).1

/-- what is NOT guaranteed (a witness, not part of the property): the restored instance keeps the foreign entries of
shared tables and a `DB.Get` of a foreign key answers with them — the root of the open findings D37/D47. Only the WAL
replay is filtered (`seq_above_loaded`). -/
theorem foreign_table_entry_readable_by_get :
    answer (getR (openDB (Keys.ownsKey ⟨0, 128⟩) [exC6]) [0, 200, 97]) = some [8] ∧
    Keys.ownsKey ⟨0, 128⟩ [0, 200, 97] = false := by decide +kernel

/-! non-vacuity: two old instances (ranges [0,128) and [128,256)), the second one listed first -/

def exC1 : Ckpt := ⟨[[⟨0, [⟨[0, 1, 97], 1, false, [1]⟩]⟩], [⟨1, [⟨[0, 1, 99], 1, false, [3]⟩]⟩]], [⟨[0, 1, 98], false, [2]⟩]⟩
def exC2 : Ckpt := ⟨[[], [⟨0, [⟨[0, 200, 97], 5, false, [9]⟩]⟩]], [⟨[0, 200, 98], true, []⟩]⟩

theorem exC1_src : SrcOk 2 (⟨0, 128⟩, exC1) where
  keys := by decide
  ne := by decide
  sorted := by unfold Run.Sorted; decide
  deeper := deeper_of_tail (by unfold LevelValid TblOk Before; decide)
  newer := (Compaction.newerAbove_map_iff _).mpr (by unfold Compaction.NewerT Compaction.Newer; decide)
  wal := by decide
  nlev := rfl

theorem exC2_src : SrcOk 2 (⟨128, 256⟩, exC2) where
  keys := by decide
  ne := by decide
  sorted := by unfold Run.Sorted; decide
  deeper := deeper_of_tail (by unfold LevelValid TblOk Before; decide)
  newer := (Compaction.newerAbove_map_iff _).mpr (by unfold Compaction.NewerT Compaction.Newer; decide)
  wal := by decide
  nlev := rfl

/-- the hypotheses of the scan-level theorems are satisfiable (two handles in descending key order), and they then
give: the scan of key group 1 on the merged instance holds the level-0, the deeper-level and the WAL value
(the last conjunct only excludes an entry with the EMPTY value for the never-written key `[0,1,100]`) -/
example :
    let s := openDB (Keys.ownsKey ⟨0, 256⟩) [exC2, exC1]
    (∃ e ∈ scan s [0, 1], e.key = [0, 1, 97] ∧ e.val = [1]) ∧ (∃ e ∈ scan s [0, 1], e.key = [0, 1, 98] ∧ e.val = [2]) ∧
    (∃ e ∈ scan s [0, 1], e.key = [0, 1, 99] ∧ e.val = [3]) ∧ ¬ (∃ e ∈ scan s [0, 1], e.key = [0, 1, 100] ∧ e.val = []) := by
  have hok : ∀ p ∈ [((⟨128, 256⟩ : KGRange), exC2), (⟨0, 128⟩, exC1)], SrcOk (1 + 1) p :=
    List.forall_mem_cons.mpr ⟨exC2_src, List.forall_mem_cons.mpr ⟨exC1_src, fun _ h => nomatch h⟩⟩
  have hd : [((⟨128, 256⟩ : KGRange), exC2), (⟨0, 128⟩, exC1)].Pairwise (fun a b => a.1.overlaps b.1 = false) :=
    List.pairwise_pair.mpr (by decide)
  have h := (rescale_restore_scan_partial (Keys.ownsKey ⟨0, 256⟩) 1 [(⟨128, 256⟩, exC2)] [] ⟨0, 128⟩ exC1 hok hd [0, 1]).2
  intro s
  refine ⟨(h [0, 1, 97] [1] (by decide) (by decide) (by decide)).mpr (by decide),
    (h [0, 1, 98] [2] (by decide) (by decide) (by decide)).mpr (by decide),
    (h [0, 1, 99] [3] (by decide) (by decide) (by decide)).mpr (by decide), ?_⟩
  intro hex
  have := (h [0, 1, 100] [] (by decide) (by decide) (by decide)).mp hex
  revert this; decide

/-- the hypotheses of `rescale_restore_partial` are satisfiable with two handles listed in descending key order, and
the theorem then gives the restored values (one from a level-0 table, one from a deeper level, one from the WAL) -/
example :
    let s := openDB (Keys.ownsKey ⟨0, 256⟩) [exC2, exC1]
    answer (getR s [0, 1, 97]) = some [1] ∧ answer (getR s [0, 1, 99]) = some [3] ∧
      answer (getR s [0, 1, 98]) = some [2] ∧ answer (getR s [0, 200, 97]) = some [9] ∧
      answer (getR s [0, 200, 98]) = none := by
  have hok : ∀ p ∈ [((⟨128, 256⟩ : KGRange), exC2), (⟨0, 128⟩, exC1)], OldOk 2 p :=
    List.forall_mem_cons.mpr ⟨exC2_src.toOldOk, List.forall_mem_cons.mpr ⟨exC1_src.toOldOk, fun _ h => nomatch h⟩⟩
  have hd : [((⟨128, 256⟩ : KGRange), exC2), (⟨0, 128⟩, exC1)].Pairwise (fun a b => a.1.overlaps b.1 = false) :=
    List.pairwise_pair.mpr (by decide)
  have h1 := fun k hl hk ho => rescale_restore_partial (Keys.ownsKey ⟨0, 256⟩) 2 [(⟨128, 256⟩, exC2)] [] ⟨0, 128⟩ exC1 hok hd k hl hk ho
  have h2 := fun k hl hk ho => rescale_restore_partial (Keys.ownsKey ⟨0, 256⟩) 2 [] [(⟨0, 128⟩, exC1)] ⟨128, 256⟩ exC2 hok hd k hl hk ho
  intro s
  refine ⟨?_, ?_, ?_, ?_, ?_⟩
  · exact (h1 [0, 1, 97] (by decide) (by decide) (by decide)).trans (by decide)
  · exact (h1 [0, 1, 99] (by decide) (by decide) (by decide)).trans (by decide)
  · exact (h1 [0, 1, 98] (by decide) (by decide) (by decide)).trans (by decide)
  · exact (h2 [0, 200, 97] (by decide) (by decide) (by decide)).trans (by decide)
  · exact (h2 [0, 200, 98] (by decide) (by decide) (by decide)).trans (by decide)

/-- level-0 age order matters: the old instance holds two level-0 tables, the newer one starts at a smaller key and
overwrites `[0,32,109]`; the restore from two handles answers with the newer version (an implementation that sorted
level 0 by start key would visit the older table first) -/
def exL0 : Ckpt := ⟨[[⟨0, [⟨[0, 32, 109], 1, false, [1]⟩, ⟨[0, 112, 122], 2, false, [7]⟩]⟩,
                      ⟨1, [⟨[0, 16, 97], 3, false, [3]⟩, ⟨[0, 32, 109], 4, false, [4]⟩]⟩], []], []⟩
def exL0b : Ckpt := ⟨[[⟨0, [⟨[0, 144, 113], 1, false, [5]⟩]⟩], []], []⟩

example :
    (l0Get (concatLevel [exL0b, exL0] 0) [0, 32, 109]).map (·.val) = some [4] ∧
    (l0Get (concatLevel [exL0, exL0b] 0) [0, 32, 109]).map (·.val) = some [4] ∧
    -- the same three tables in start-key order (newer table first, so visited last): the overwritten version
    (l0Get [⟨1, [⟨[0, 16, 97], 3, false, [3]⟩, ⟨[0, 32, 109], 4, false, [4]⟩]⟩,
            ⟨0, [⟨[0, 32, 109], 1, false, [1]⟩, ⟨[0, 112, 122], 2, false, [7]⟩]⟩,
            ⟨0, [⟨[0, 144, 113], 1, false, [5]⟩]⟩] [0, 32, 109]).map (·.val) = some [1] := by
  decide

namespace W37
/-- `Y = [86,171)` was itself restored from a handle it only partly owned; its compaction re-wrote the foreign key
`[0,65,97]` (group 65) into its own table `tA`, next to its own key `[0,150,1]`. `X = [0,86)` holds `tB`. -/
def tA : Tbl := ⟨0, [⟨[0, 65, 97], 1, false, [1]⟩, ⟨[0, 150, 1], 2, false, [5]⟩]⟩
def tB : Tbl := ⟨0, [⟨[0, 66, 0], 1, false, [6]⟩, ⟨[0, 70, 0], 2, false, [7]⟩]⟩
def tC : Tbl := ⟨1, [⟨[0, 150, 2], 3, false, [8]⟩]⟩
def cX : Ckpt := ⟨[[], [tB]], []⟩
def cY : Ckpt := ⟨[[], [tA, tC]], []⟩

theorem sorted_level : sortLevel [tB, tA, tC] = [tA, tB, tC] := by
  have h2 : tblLe tB tA = false := by decide
  have h3 : tblLe tB tC = true := by decide
  have h4 : tblLe tA tC = true := by decide
  simp [sortLevel, List.mergeSort, List.MergeSort.Internal.splitInTwo, h2, h3, h4]

theorem merged : mergeLevels [cX, cY] = [[], [tA, tB, tC]] := by
  show [concatLevel [cX, cY] 0, sortLevel [tB, tA, tC]] = _
  rw [sorted_level]; rfl
end W37

/-- **D37 on the model** (open finding; why `SrcOk.keys` cannot be dropped). Both documents have valid levels, sorted
tables and newer-above, the source ranges `[0,86)`, `[86,171)` are disjoint — only `cY` carries one key outside its
range. The merged level `[tA, tB, tC]` is sorted by start key but `tA` overlaps `tB`: the range binary search of
`Get` ends on `tB`/`tC` and misses `Y`'s own key `[0,150,1]`, and the lower-bound search of `AllTablesForPrefix`
starts at `tC`, so `ScanPrefix [0,150]` misses it too. -/
theorem d37_counterexample :
    let s := openDB (Keys.ownsKey ⟨0, 256⟩) [W37.cX, W37.cY]
    ckptAnswer W37.cY [0, 150, 1] = some [5] ∧ getR s [0, 150, 1] = none ∧
    (scanR s [0, 150]).map (·.val) = [[8]] ∧
    (⟨0, 86⟩ : KGRange).overlaps ⟨86, 171⟩ = false ∧ Keys.ownsKey ⟨86, 171⟩ [0, 65, 97] = false := by
  intro s
  have hs : s = startState tblEndSeq [[], [W37.tA, W37.tB, W37.tC]] := by
    rw [← W37.merged]; exact openDB_of_ne_nil _ _ (List.cons_ne_nil _ _)
  rw [hs]
  decide +kernel

namespace W47
/-- split-then-merge: `A` flushed `k = [0,10,1]` (old) into table `T`; `X = [0,128)` and `Y = [128,256)` both restored
from `A` and reference `T`; `X` overwrote `k` (table `Tx`). -/
def T : Tbl := ⟨0, [⟨[0, 10, 1], 1, false, [1]⟩]⟩
def Tx : Tbl := ⟨1, [⟨[0, 10, 1], 2, false, [2]⟩]⟩
def cX : Ckpt := ⟨[[T, Tx], []], []⟩
def cY : Ckpt := ⟨[[T], []], []⟩

theorem merged_xy : mergeLevels [cX, cY] = [[T, Tx, T], []] := by
  show [concatLevel [cX, cY] 0, sortLevel []] = _
  rw [sortLevel, List.mergeSort_nil]; rfl

theorem merged_yx : mergeLevels [cY, cX] = [[T, T, Tx], []] := by
  show [concatLevel [cY, cX] 0, sortLevel []] = _
  rw [sortLevel, List.mergeSort_nil]; rfl
end W47

/-- **D47 on the model** (open finding). `Y`'s document carries `k` although `Y` does not own it (its copy of the shared
table). Merging `[X, Y]` appends `Y`'s level 0 after `X`'s, so the stale copy is the newest level-0 table and `Get k`
answers the old value; in the order `[Y, X]` it answers the new one. `ScanPrefix` resolves the copies by sequence
number and is right in both orders — D47 is not visible on the operator's read path, only through `DB.Get`. -/
theorem d47_counterexample :
    let k : Bytes := [0, 10, 1]
    let own := Keys.ownsKey ⟨0, 256⟩
    ckptAnswer W47.cX k = some [2] ∧
    answer (getR (openDB own [W47.cX, W47.cY]) k) = some [1] ∧
    answer (getR (openDB own [W47.cY, W47.cX]) k) = some [2] ∧
    (scanR (openDB own [W47.cX, W47.cY]) [0, 10]).map (·.val) = [[2]] ∧
    (scanR (openDB own [W47.cY, W47.cX]) [0, 10]).map (·.val) = [[2]] ∧
    Keys.ownsKey ⟨128, 256⟩ k = false := by
  intro k own
  have h1 : openDB own [W47.cX, W47.cY] = startState tblEndSeq [[W47.T, W47.Tx, W47.T], []] := by
    rw [← W47.merged_xy]; exact openDB_of_ne_nil _ _ (List.cons_ne_nil _ _)
  have h2 : openDB own [W47.cY, W47.cX] = startState tblEndSeq [[W47.T, W47.T, W47.Tx], []] := by
    rw [← W47.merged_yx]; exact openDB_of_ne_nil _ _ (List.cons_ne_nil _ _)
  rw [h1, h2]
  decide +kernel

/-- **D72 on the model** (open finding; the D50 family: one directory, one `checkpoints` document). Operator `A` (range
`[0,128)`, key `[0,1,97]`) and operator `B` (`[128,256)`) keep running and are redeployed from job checkpoint 1 at
exchanged positions: `A` restores `B`'s handle into its own directory. The document `A` saves at its next checkpoint holds,
under id 1, the composite it loaded (`compositeDoc [docB]`). A later restore of `A`'s retained handle of checkpoint 1 —
which the restore theorems would answer with `ckptAnswer docA` — then reads that entry and `A`'s key is gone. -/
theorem d72_counterexample :
    let docA : Ckpt := ⟨[[⟨0, [⟨[0, 1, 97], 1, false, [5]⟩]⟩], []], []⟩
    let docB : Ckpt := ⟨[[], []], [⟨[0, 129, 98], false, [6]⟩]⟩
    let rewritten := compositeDoc [docB]
    ckptAnswer docA [0, 1, 97] = some [5] ∧
    answer (getR (openDB (Keys.ownsKey ⟨0, 128⟩) [docA]) [0, 1, 97]) = some [5] ∧
    answer (getR (openDB (Keys.ownsKey ⟨0, 128⟩) [rewritten]) [0, 1, 97]) = none ∧
    (scanR (openDB (Keys.ownsKey ⟨0, 128⟩) [rewritten]) [0, 1]) = [] := by
  decide +kernel

/-- regression witness D8: with the handles in descending key order the unsorted deeper level hid the first table -/
theorem d8_counterexample :
    getR (openDBOld (Keys.ownsKey ⟨0, 256⟩) [exC2, exC1]) [0, 200, 97] = none ∧
    ckptAnswer exC2 [0, 200, 97] = some [9] := by decide +kernel

/-- the table counter (`Checkpoint.NextTableID`) on concrete data -/
example : (openDB (Keys.ownsKey ⟨0, 256⟩) [exC6]).nextId = 1 ∧ nextTableId [[⟨0, []⟩], [⟨0, []⟩, ⟨1, []⟩]] = 2 := by decide

/-- regression witness D6: the table's last key carries the smallest sequence number; after a filtered replay the
unrepaired restore numbered a new write below the restored version -/
theorem d6_scan_counterexample :
    ((scan (write (openDBOld (Keys.ownsKey ⟨0, 128⟩) [exC6]) [0, 1, 97] false [42]) [0, 1]).map (·.val)) = [[7]] ∧
    ((scan (write (openDB (Keys.ownsKey ⟨0, 128⟩) [exC6]) [0, 1, 97] false [42]) [0, 1]).map (·.val)) = [[42]] ∧
    ((scanR (write (openDBOld (Keys.ownsKey ⟨0, 128⟩) [exC6]) [0, 1, 97] false [42]) [0, 1]).map (·.val)) = [[7]] := by
  decide +kernel

theorem d6_counterexample :
    (write (openDBOld (Keys.ownsKey ⟨0, 128⟩) [exC6]) [0, 1, 97] false [42]).seq = 2 ∧
    (write (openDB (Keys.ownsKey ⟨0, 128⟩) [exC6]) [0, 1, 97] false [42]).seq = 5 := by decide

/-- non-vacuity: scale 3 → 2 over 6 key groups with the checkpoints recorded in the order 2, 0, 1 -/
example : assignRanges (ranges 6 2) [⟨4, 6⟩, ⟨0, 2⟩, ⟨2, 4⟩] = [[1, 2], [0, 2]] := by decide

/-- the acknowledgement order (1, 0) that lost operator 0's state before the repair of D7 -/
example : assignRanges [⟨0, 128⟩, ⟨128, 256⟩] [⟨128, 256⟩, ⟨0, 128⟩] = [[1], [0]] := by decide

/-- regression witness D7: the two-pointer loop gave new operator 0 no checkpoint for that order -/
theorem d7_counterexample :
    assignRangesOld [⟨0, 128⟩, ⟨128, 256⟩] [⟨128, 256⟩, ⟨0, 128⟩] = [[], [0]] := by decide

end Rxn.C06
