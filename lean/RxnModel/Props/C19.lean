import RxnModel.Proofs.Search
import RxnModel.Proofs.Heap
import RxnModel.Proofs.Merge
import RxnModel.Proofs.ZipTree
import RxnModel.Proofs.Containers
import RxnModel.Proofs.PPQ
import RxnModel.Proofs.HeapRun
/-!
# C19 — in-memory ordered structures behave as ordered maps and priority queues

Property theorems only. Models: `Model/{Search,Heap,Merge,ZipTree,Containers}.lean`. The invariants, input conditions
and reference semantics the statements speak of are defined in `Proofs/`, next to the lemmas about them.
`Gen.tblRangeKeyCompare`, `Gen.tblRangeContainsKey`, `Gen.c19KeepNewest`, `Gen.c19AscendingEntries` are regenerated
from /repo on every run.
-/
namespace Rxn.C19

/-- On input that is sorted without duplicates relative to the target (compare values − … − 0? + … +) the loop of
`SearchUnique` finds an index iff some element compares equal, and then exactly that index. -/
theorem searchUnique_correct {α : Type} (xs : Array α) (c : α → Int) (hs : Search.SignSorted xs c) :
    (∀ r, Search.searchUnique xs c = some r ↔ ∃ hr : r < xs.size, c xs[r] = 0) ∧
    (Search.searchUnique xs c = none ↔ ∀ i (hi : i < xs.size), c xs[i] ≠ 0) :=
  Search.searchUnique_spec xs c hs (fun _ => Iff.rfl)

/-- strictly ascending byte-string keys with `bytes.Compare`: found iff present, at its index -/
theorem searchBytes_correct (xs : Array Bytes) (t : Bytes)
    (hasc : ∀ i j (_ : i < j) (hj : j < xs.size), Bytes.cmp (xs[i]'(by omega)) xs[j] = .lt) (r : Nat) :
    Search.searchBytes xs t = some r ↔ ∃ hr : r < xs.size, xs[r] = t :=
  (Search.searchUnique_spec xs _ (Search.signSorted_bytes xs t hasc) (fun _ => Search.cmpInt_zero)).1 r

/-- the LSM level lookup: on a level of disjoint ascending table ranges `SearchUnique` with the code's
`RangeKeyCompare` returns a table iff some table's range contains the key (`RangeContainsKey`), and that one -/
theorem searchTables_correct (ts : Array (Bytes × Bytes)) (key : Bytes) (h : Search.LevelOk ts) :
    (∀ r, Search.searchTables ts key = some r ↔
      ∃ hr : r < ts.size, Gen.tblRangeContainsKey ts[r].1 ts[r].2 key = true) ∧
    (Search.searchTables ts key = none ↔
      ∀ i (hi : i < ts.size), Gen.tblRangeContainsKey ts[i].1 ts[i].2 key = false) := by
  obtain ⟨h1, h2⟩ := Search.searchUnique_spec ts _ (Search.signSorted_level ts key h)
    (P := fun t => Gen.tblRangeContainsKey t.1 t.2 key = true) (fun _ => Search.rangeKeyCompare_zero)
  exact ⟨h1, h2.trans (forall_congr' fun _ => forall_congr' fun _ => Iff.of_eq (Bool.not_eq_true _))⟩

/-- non-vacuity and the D1 regression: `SearchUnique([0,2], 0)` is found at index 0 -/
example : Search.searchBytes #[[0], [2]] [0] = some 0 := by
  refine (searchBytes_correct #[[0], [2]] [0] ?_ 0).mpr ⟨by decide, rfl⟩
  intro i j hij hj
  have : i = 0 ∧ j = 1 := by simp at hj; omega
  obtain ⟨rfl, rfl⟩ := this
  simp [Bytes.cmp]

/-- non-vacuity of `searchTables_correct`: a level of two tables is `LevelOk` -/
example : Search.LevelOk #[([1], [2]), ([5], [6])] := by
  constructor
  · intro i h
    have : i = 0 ∨ i = 1 := by simp at h; omega
    rcases this with rfl | rfl <;> simp [Bytes.cmp]
  · intro i j hij hj
    have : i = 0 ∧ j = 1 := by simp at hj; omega
    obtain ⟨rfl, rfl⟩ := this
    simp [Bytes.cmp]

/-- `Push` keeps the heap order and adds exactly the pushed element -/
theorem heap_push {α : Type} {lt : α → α → Bool} (sw : Heap.StrictWeak lt) (a : Array α) (x : α)
    (h : Heap.Inv lt a) :
    Heap.Inv lt (Heap.push lt a x) ∧ (Heap.push lt a x).toList.Perm (x :: a.toList) :=
  ⟨Heap.push_inv sw a x h, Heap.push_perm lt a x⟩

/-- `Pop` returns a minimum of the contents, removes exactly it and keeps the heap order; it fails only when empty -/
theorem heap_pop_min {α : Type} {lt : α → α → Bool} (sw : Heap.StrictWeak lt) (a : Array α) (h : Heap.Inv lt a) :
    (Heap.pop lt a = none ↔ a.size = 0) ∧
    ∀ x a', Heap.pop lt a = some (x, a') →
      Heap.Inv lt a' ∧ a.toList.Perm (x :: a'.toList) ∧ ∀ y ∈ a.toList, lt y x = false :=
  ⟨Heap.pop_none lt a, fun x a' hp => Heap.pop_spec sw a h x a' hp⟩

/-- `Fix(i)` restores the heap order when only the element at `i` changed (any new value), without changing
the contents -/
theorem heap_fix_restores {α : Type} {lt : α → α → Bool} (sw : Heap.StrictWeak lt) (a : Array α) (i : Nat)
    (hi : i < a.size) (h : Heap.Inv lt a) (v : α) :
    Heap.Inv lt (Heap.fix lt (a.set i v) i) ∧ (Heap.fix lt (a.set i v) i).toList.Perm (a.set i v).toList := by
  refine ⟨Heap.fix_inv sw _ i (Heap.downInv_of_inv sw h hi (fun k hk => ?_) (fun _ _ _ _ hr => hr)), Heap.fix_perm lt _ i⟩
  rw [Array.getElem?_set, if_neg (Ne.symm hk)]

/-- the root of a heap-ordered array is a minimum (what `Peek` returns) -/
theorem heap_peek_min {α : Type} {lt : α → α → Bool} (sw : Heap.StrictWeak lt) (a : Array α) (h : Heap.Inv lt a)
    (x : α) (hx : Heap.peek a = some x) : ∀ y ∈ a.toList, lt y x = false :=
  Heap.root_le_all sw a h x hx

/-- non-vacuity: the priority order used by the harness is a strict weak order -/
example : Heap.StrictWeak HeapItems.ilt := HeapItems.ilt_sw

/-- non-vacuity: the empty heap is ordered -/
example : Heap.Inv HeapItems.ilt #[] := Heap.inv_empty _

/-- `ds.Heap` with an index assigner over every sequence of `Push` (of an item not currently in the heap) / `Pop` /
"change an item's priority, then `Fix(item.index)`", from the empty heap: the array stays heap-ordered; **every
item's stored index is its position and every item outside the heap (never pushed, or popped) has index `-1`**;
and the run refines a multiset reference: every `Pop` returns a minimum-priority item of the reference contents,
which then lose exactly that item, and fails only on empty contents. -/
theorem heap_run_refines (ops : List HeapItems.Op) (hv : HeapItems.Valid {} ops) :
    let h := HeapItems.run ops
    Heap.Inv HeapItems.ilt h.data ∧
    (∀ i (hi : i < h.data.size), h.idx h.data[i].id = (i : Int)) ∧
    (∀ id, (∀ i (hi : i < h.data.size), h.data[i].id ≠ id) → h.idx id = -1) ∧
    HeapItems.Accepts [] ops (HeapItems.trace {} ops) := by
  intro h
  have hi := HeapItems.run_inv_from {} HeapItems.hinv_empty ops hv
  exact ⟨hi.ord, hi.ok.pos, hi.out, HeapItems.trace_accepted {} HeapItems.hinv_empty ops hv [] (.refl _)⟩

/-- non-vacuity: a valid run with equal priorities, a re-prioritisation and pops -/
example : HeapItems.Valid {} [.push 1 1, .push 1 2, .fix 1 5, .pop, .pop, .pop] := by
  have h1 : HeapItems.opValid {} (.push 1 1) := fun i hi => absurd hi (Nat.not_lt_zero i)
  -- only the two `Push`es have a condition; after the first the heap holds item 1 alone
  refine ⟨h1, fun i hi => ?_, trivial, trivial, trivial, trivial, trivial⟩
  have hm := (HeapItems.push_step {} HeapItems.hinv_empty 1 1 h1).2.subset (Array.getElem_mem_toList hi)
  rw [List.mem_singleton.mp hm]
  decide

/-- `bytes.Compare` on a key projection (the code's `AscendingEntries`) is a total preorder -/
theorem ascendingEntries_ok {α : Type} (keyOf : α → Bytes) : Merge.CmpOK (Gen.c19AscendingEntries keyOf) := by
  constructor
  · intro a b
    simp only [Gen.c19AscendingEntries]
    rw [Search.cmpInt_neg, Search.cmpInt_pos]
    exact Bytes.cmp_lt_iff_gt
  · intro a b c h1 h2
    simp only [Gen.c19AscendingEntries] at *
    rw [Search.cmpInt_nonpos] at *
    intro h3
    cases hab : Bytes.cmp (keyOf a) (keyOf b) with
    | gt => exact h1 hab
    | eq =>
      rw [Bytes.cmp_eq_iff.mp hab] at h3; exact h2 h3
    | lt =>
      have := Bytes.cmp_lt_le_trans hab h2
      rw [this] at h3; cases h3

/-- `iteru.MergeSorted`: for sorted inputs the output is sorted and is a permutation of all input items
(nothing lost, nothing duplicated); the statement does not depend on how the heap breaks ties -/
theorem mergeSorted_sorted_perm {α : Type} {cmp : α → α → Int} (hc : Merge.CmpOK cmp) (runs : List (List α))
    (hsorted : ∀ r ∈ runs, r.Pairwise (fun a b => cmp a b ≤ 0)) :
    (Merge.mergeSorted cmp runs).Perm runs.flatten ∧
    (Merge.mergeSorted cmp runs).Pairwise (fun a b => cmp a b ≤ 0) :=
  Merge.mergeSorted_spec hc runs hsorted

/-- `mergesort.Merge` with the code's `keepNewest`: for sorted inputs it does not panic; the output is strictly
ascending (one item per key), contains only input items, and every input item is represented by an output item
with an equal key and a sequence number at least as high (the newest version wins) -/
theorem merge_keepNewest {α : Type} [DecidableEq α] {cmp : α → α → Int} (hc : Merge.CmpOK cmp) (seqOf : α → Nat)
    (runs : List (List α)) (hsorted : ∀ r ∈ runs, r.Pairwise (fun a b => cmp a b ≤ 0)) :
    ∃ out, Merge.merge cmp (Gen.c19KeepNewest seqOf) runs = some out ∧
      out.Pairwise (fun a b => cmp a b < 0) ∧
      (∀ o ∈ out, o ∈ runs.flatten) ∧
      (∀ y ∈ runs.flatten, ∃ o ∈ out, cmp o y = 0 ∧ seqOf y ≤ seqOf o) :=
  Merge.merge_prefers hc _ (R := fun o y => seqOf y ≤ seqOf o) (fun _ => Nat.le_refl _)
    (fun _ _ _ h1 h2 => Nat.le_trans h2 h1) (fun a b _ => Merge.keepNewest_prefers seqOf a b) runs hsorted

/-- `kv.MergeEntries` (`Merge` with `AscendingEntries` and `keepNewest`) on runs with ascending keys: for every key
that occurs in some run the output holds exactly one entry of that key, and it is one with the highest sequence number -/
theorem mergeEntries_newest_wins (runs : List (List Merge.Entry))
    (hsorted : ∀ r ∈ runs, r.Pairwise (fun a b => Gen.c19AscendingEntries Merge.Entry.key a b ≤ 0)) :
    ∃ out, Merge.merge (Gen.c19AscendingEntries Merge.Entry.key) (Gen.c19KeepNewest Merge.Entry.seq) runs = some out ∧
      out.Pairwise (fun a b => Bytes.cmp a.key b.key = .lt) ∧
      (∀ o ∈ out, o ∈ runs.flatten) ∧
      (∀ y ∈ runs.flatten, ∃ o ∈ out, o.key = y.key ∧ y.seq ≤ o.seq) := by
  obtain ⟨out, h1, h2, h3, h4⟩ := merge_keepNewest (ascendingEntries_ok Merge.Entry.key) Merge.Entry.seq runs hsorted
  refine ⟨out, h1, ?_, h3, ?_⟩
  · exact h2.imp (fun h => Search.cmpInt_neg.mp h)
  · intro y hy
    obtain ⟨o, ho, hk, hsq⟩ := h4 y hy
    exact ⟨o, ho, Search.cmpInt_zero.mp hk, hsq⟩

/-- non-vacuity: two sorted runs sharing a key satisfy the hypothesis -/
example : ∀ r ∈ [[(⟨[1], 1, []⟩ : Merge.Entry), ⟨[2], 5, []⟩], [⟨[1], 3, []⟩]],
    r.Pairwise (fun a b => Gen.c19AscendingEntries Merge.Entry.key a b ≤ 0) := by
  intro r hr
  simp only [List.mem_cons, List.mem_nil_iff, or_false] at hr
  rcases hr with rfl | rfl <;> simp [Gen.c19AscendingEntries, cmpInt, Bytes.cmp]

/-- `mergesort.Merge` with **any** `pick` that returns one of its two arguments (first, second, newest, …) on sorted
inputs: no panic; strictly ascending output (one item per key); only input items; every input key is represented.
Which of several equal-key items survives is `pick`'s choice along the heap's pop order. -/
theorem merge_any_pick {α : Type} [DecidableEq α] {cmp : α → α → Int} (hc : Merge.CmpOK cmp) (pick : α → α → α)
    (hpick : ∀ a b, pick a b = a ∨ pick a b = b)
    (runs : List (List α)) (hsorted : ∀ r ∈ runs, r.Pairwise (fun a b => cmp a b ≤ 0)) :
    ∃ out, Merge.merge cmp pick runs = some out ∧
      out.Pairwise (fun a b => cmp a b < 0) ∧ (∀ o ∈ out, o ∈ runs.flatten) ∧
      (∀ y ∈ runs.flatten, ∃ o ∈ out, cmp o y = 0) := by
  obtain ⟨out, h1, h2, h3, h4⟩ := Merge.merge_prefers hc pick (R := fun _ _ => True) (fun _ => trivial)
    (fun _ _ _ _ _ => trivial) (fun a b _ => (hpick a b).imp (⟨·, trivial⟩) (⟨·, trivial⟩)) runs hsorted
  exact ⟨out, h1, h2, h3, fun y hy => (h4 y hy).imp fun o ho => ⟨ho.1, ho.2.1⟩⟩

/-- non-vacuity: `first` is a pick that returns one of its arguments -/
example : ∀ a b : Merge.Entry, (fun a _ => a) a b = a ∨ (fun (a : Merge.Entry) (_ : Merge.Entry) => a) a b = b :=
  fun _ _ => Or.inl rfl

/-- a `pick` that answers the first two popped items, an equal pair, with a value that is neither argument makes the
duplicate resolution of the popped sequence (`resolve`) panic ("pick must return one of the provided arguments") -/
theorem merge_foreign_pick_panics {α : Type} [DecidableEq α] (cmp : α → α → Int) (pick : α → α → α) (a b : α)
    (rest : List α) (h0 : cmp a b = 0) (h1 : pick a b ≠ a) (h2 : pick a b ≠ b) :
    Merge.resolve cmp pick (a :: b :: rest) = none := by
  have : (List.foldl (Merge.rstep cmp pick) {} (a :: b :: rest)).panicked = true := by
    simp only [List.foldl_cons]
    -- the panic is raised at `b` and stays
    refine List.foldlRecOn rest _ (motive := fun s : Merge.RSt α => s.panicked = true) ?_
      fun s h x _ => by rw [Merge.rstep_panicked cmp pick x h]; exact h
    simp [Merge.rstep, h0, h1, h2]
  unfold Merge.resolve Merge.finish
  rw [if_pos this]

/-- non-vacuity of `merge_foreign_pick_panics`: a pick that changes the sequence number is foreign on an equal pair -/
example : Merge.resolve (Gen.c19AscendingEntries Merge.Entry.key) (fun a _ => { a with seq := a.seq + 10 })
    [⟨[1], 1, []⟩, ⟨[1], 2, []⟩] = none :=
  merge_foreign_pick_panics _ _ _ _ [] (by decide) (by decide) (by decide)

/-- the zip tree over every sequence of `Put` (any rank), in-place update of a retained node (`Get`, change the value,
`Put` the same node) and replacement of every yielded key from inside an `AscendPrefix` scan: search-tree order and
contents equal to the list reference, for every rank outcome -/
theorem zipTree_refines_ops (ops : List ZipTree.Op) :
    let t := ZipTree.runOps ops
    ZipTree.BST t ∧ ZipTree.toList t = ZipTree.specRunOps ops ∧
    (∀ k, ZipTree.get k t = ZipTree.specGet k (ZipTree.specRunOps ops)) ∧
    (∀ p, ZipTree.ascendPrefix t p = (ZipTree.specRunOps ops).filter (fun e => Bytes.hasPrefix e.1 p)) ∧
    (∀ k v, (ZipTree.reput k v t).1 = (ZipTree.specGet k (ZipTree.specRunOps ops)).map (fun _ => v)) ∧
    (∀ p v, (ZipTree.ascendPut p v t).1 = (ZipTree.specRunOps ops).filter (fun e => Bytes.hasPrefix e.1 p)) := by
  intro t
  obtain ⟨hb, hl⟩ := ZipTree.runOps_spec ops
  refine ⟨hb, hl, ?_, ?_, ?_, ?_⟩
  · intro k; rw [ZipTree.get_eq k _ hb]; exact congrArg _ hl
  · intro p; rw [ZipTree.ascendPrefix_eq _ hb p]; exact congrArg _ hl
  · intro k v; rw [(ZipTree.reput_spec k v _ hb).1]; exact congrArg _ (congrArg _ hl)
  · intro p v; rw [(ZipTree.ascendPut_spec p v _ hb).1]; exact congrArg _ hl

/-- The zip tree refines a strictly ascending association list **for every outcome of the random ranks**: after any
sequence of `Put`s (each with an arbitrary rank) the tree is a search tree whose in-order contents equal the list
specification (so they do not depend on the ranks), `Get` is list lookup, `AscendPrefix(p)` yields exactly the
entries with prefix `p` in key order, and a further `Put` returns the value the list held. -/
theorem zipTree_refines (ops : List (Bytes × Bytes × Nat)) :
    ZipTree.BST (ZipTree.run ops) ∧
    ZipTree.toList (ZipTree.run ops) = ZipTree.specRun ops ∧
    (∀ k, ZipTree.get k (ZipTree.run ops) = ZipTree.specGet k (ZipTree.specRun ops)) ∧
    (∀ p, ZipTree.ascendPrefix (ZipTree.run ops) p =
      (ZipTree.specRun ops).filter (fun e => Bytes.hasPrefix e.1 p)) ∧
    (∀ k v rank, (ZipTree.put k v rank (ZipTree.run ops)).1 = ZipTree.specGet k (ZipTree.specRun ops)) := by
  obtain ⟨hb, hl, hg, hp, _, _⟩ := zipTree_refines_ops (ops.map fun o => .put o.1 o.2.1 o.2.2)
  rw [← (ZipTree.run_eq_runOps ops).1] at hb hl hg hp
  rw [← (ZipTree.run_eq_runOps ops).2] at hl hg hp
  exact ⟨hb, hl, hg, hp, fun k v rank => by rw [(ZipTree.put_spec k v rank _ hb).1]; exact congrArg _ hl⟩

/-- the contents after the same `Put`s are the same for any two rank sequences -/
theorem zipTree_rank_independent (ops₁ ops₂ : List (Bytes × Bytes × Nat))
    (h : ops₁.map (fun o => (o.1, o.2.1)) = ops₂.map (fun o => (o.1, o.2.1))) :
    ZipTree.toList (ZipTree.run ops₁) = ZipTree.toList (ZipTree.run ops₂) := by
  rw [(zipTree_refines ops₁).2.1, (zipTree_refines ops₂).2.1]
  -- the reference run reads keys and values only
  have key : ∀ ops : List (Bytes × Bytes × Nat), ZipTree.specRun ops =
      (ops.map (fun o => (o.1, o.2.1))).foldl (fun l o => ZipTree.specPut o.1 o.2 l) [] :=
    fun ops => by rw [List.foldl_map]; rfl
  rw [key ops₁, key ops₂, h]

/-- the specification list itself is an ordered map: strictly ascending keys, last write wins -/
theorem specPut_is_map (k v : Bytes) (l : List (Bytes × Bytes)) (h : ZipTree.Sorted l) :
    ZipTree.Sorted (ZipTree.specPut k v l) ∧
    ZipTree.specGet k (ZipTree.specPut k v l) = some v ∧
    ∀ k', k' ≠ k → ZipTree.specGet k' (ZipTree.specPut k v l) = ZipTree.specGet k' l :=
  ⟨ZipTree.specPut_sorted k v l h, ZipTree.specGet_specPut_self k v l, fun _ hk => ZipTree.specGet_specPut_ne k v l hk⟩

/-- non-vacuity: three puts with tied ranks, one of them a replacement -/
example : ZipTree.toList (ZipTree.run [([98], [1], 0), ([97], [2], 0), ([98], [3], 0)]) = [([97], [2]), ([98], [3])] := by
  decide +kernel

/-- Replacing the value of keys that exist (`ascendPut`, `reput`) is modelled as leaving a running scan undisturbed (the
model scans the pre-state; validated by correspondence only, `zipTree_refines_ops` proves the resulting contents);
**inserting a fresh key from inside a running `AscendPrefix` disturbs it**: the insert's unzip rewrites links of nodes
the iterator still holds, and the scan omits a key that was in the tree before and after. Witness (tree m(rank 1),
c(0), f(0); scan of everything; on the first yielded node insert d with rank 5): the scan yields `[c, m]` although `f`
was present throughout. Iteration therefore has the precondition "no insertion while a scan is running"
(the repository does not state it; no caller in the repository violates it); the real tree's behaviour on this input is
compared with this model by the correspondence op `z.ascins`. -/
theorem ascendInsert_omits_counterexample :
    let t := ZipTree.run [([0x6d], [1], 1), ([0x63], [2], 0), ([0x66], [3], 0)]
    let r := ZipTree.ascendInsert [] [0x64] [4] 5 t
    r.1 = [([0x63], [2]), ([0x6d], [1])] ∧
    ZipTree.toList t = [([0x63], [2]), ([0x66], [3]), ([0x6d], [1])] ∧
    ZipTree.toList r.2 = [([0x63], [2]), ([0x64], [4]), ([0x66], [3]), ([0x6d], [1])] ∧
    r.1 ≠ ZipTree.ascendPrefix t [] ∧ r.1 ≠ ZipTree.ascendPrefix r.2 [] := by
  decide +kernel

/-- After any sequence of `Push` / `Pop` / `PopLast` / `Delete` the cache contents are strictly ascending (no
duplicates) and the byte counter equals the total length of the cached values, so `IsFull` compares the true size
with the limit. -/
theorem sortedCache_accounting (maxSize : Nat) (ops : List SortedCache.Op) :
    let c := SortedCache.run maxSize ops
    c.items.Pairwise (fun a b => Bytes.cmp a b = .lt) ∧
    c.byteSize = (c.items.map List.length).sum ∧
    (SortedCache.isFull c = true ↔ (c.items.map List.length).sum ≥ c.maxSize) := by
  intro c
  have h := SortedCache.run_inv maxSize ops
  refine ⟨h.sorted, h.bytes, ?_⟩
  simp only [SortedCache.isFull, decide_eq_true_eq]
  rw [h.bytes]; rfl

/-- `Pop` returns the minimum and `PopLast` the maximum of the cached values -/
theorem sortedCache_pop_extremes (c : SortedCache.Cache) (h : SortedCache.CInv c) :
    (∀ x, (SortedCache.pop c).1 = some x → ∀ y ∈ c.items, Bytes.cmp x y ≠ .gt) ∧
    (∀ x, (SortedCache.popLast c).1 = some x → ∀ y ∈ c.items, Bytes.cmp y x ≠ .gt) := by
  constructor
  · intro x hx y hy
    unfold SortedCache.pop at hx
    cases hi : c.items with
    | nil => rw [hi] at hx; cases hx
    | cons a as =>
      rw [hi] at hx hy
      simp only [Option.some.injEq] at hx
      have hs := h.sorted; rw [hi] at hs
      simp only [List.mem_cons] at hy
      rcases hy with rfl | hy
      · rw [hx, Bytes.cmp_self]; simp
      · rw [← hx, (List.pairwise_cons.mp hs).1 y hy]; simp
  · intro x hx y hy
    unfold SortedCache.popLast at hx
    cases hl : c.items.getLast? with
    | none => rw [hl] at hx; cases hx
    | some z =>
      rw [hl] at hx
      simp only [Option.some.injEq] at hx
      obtain ⟨ys, hys⟩ := List.getLast?_eq_some_iff.mp hl
      have hs := h.sorted; rw [hys] at hs hy
      simp only [List.mem_append, List.mem_singleton] at hy
      rcases hy with hy | rfl
      · rw [← hx, (List.pairwise_append.mp hs).2.2 y hy z (by simp)]; simp
      · rw [hx, Bytes.cmp_self]; simp

/-- non-vacuity / D10 regression (a re-`Push` of a cached value leaves the counter unchanged): five pushes of one
2-byte value into a 4-byte cache -/
example : (SortedCache.run 4 (List.replicate 5 (.push [97, 97]))).byteSize = 2 ∧
    SortedCache.isFull (SortedCache.run 4 (List.replicate 5 (.push [97, 97]))) = false := by decide +kernel

/-- `ds.Set`: membership test and slice agree, the slice has no duplicates, `Add` appends exactly the new
elements in first-occurrence order, `Without` keeps the order of the rest, `Diff` holds exactly the difference -/
theorem oset_refines (s : OSet.S) (h : OSet.SInv s) :
    (∀ v, OSet.has s v = true ↔ v ∈ s.l) ∧
    (∀ v, OSet.SInv (OSet.add1 s v) ∧ (OSet.add1 s v).l = if v ∈ s.l then s.l else s.l ++ [v]) ∧
    (∀ vs, OSet.SInv (OSet.add s vs) ∧ ∀ v, v ∈ (OSet.add s vs).l ↔ v ∈ s.l ∨ v ∈ vs) ∧
    (∀ vs, OSet.SInv (OSet.without s vs) ∧ (OSet.without s vs).l = s.l.filter (fun e => !vs.contains e)) ∧
    (∀ s2, OSet.SInv s2 → OSet.SInv (OSet.diff s s2) ∧
      ∀ v, v ∈ (OSet.diff s s2).l ↔ v ∈ s.l ∧ v ∉ s2.l) := by
  refine ⟨OSet.has_iff s h, fun v => ⟨OSet.add1_inv s v h, OSet.add1_slice s v h⟩,
    fun vs => ⟨(OSet.add_spec vs s h).1, OSet.foldl_add1_mem vs s h⟩, fun vs => ⟨OSet.without_inv s vs h, rfl⟩, ?_⟩
  intro s2 h2
  refine ⟨OSet.diff_inv s s2, ?_⟩
  intro v
  unfold OSet.diff
  rw [OSet.foldl_add1_mem _ {} OSet.sinv_empty v]
  simp only [List.mem_filter, Bool.not_eq_true', List.not_mem_nil, false_or]
  constructor
  · rintro ⟨h3, h4⟩
    refine ⟨h3, fun hm => ?_⟩
    rw [(OSet.has_iff s2 h2 v).mpr hm] at h4; cases h4
  · rintro ⟨h3, h4⟩
    refine ⟨h3, ?_⟩
    cases hh : OSet.has s2 v with
    | false => rfl
    | true => exact absurd ((OSet.has_iff s2 h2 v).mp hh) h4

example : OSet.SInv {} := OSet.sinv_empty

/-- `ds.Set` over every sequence of `Add`/`Added` and `Without`: the slice equals the insertion-ordered,
duplicate-free reference list, and `Has` is membership in it -/
theorem oset_run_refines (ops : List OSet.Op) :
    (OSet.run ops).l = OSet.specRun ops ∧ (OSet.run ops).l.Nodup ∧
    ∀ v, OSet.has (OSet.run ops) v = true ↔ v ∈ OSet.specRun ops := by
  obtain ⟨hi, hl⟩ := OSet.run_spec ops
  exact ⟨hl, hi.nodup, fun v => by rw [OSet.has_iff _ hi v, hl]⟩

/-- `ds.SortedMap` refines a map with ascending key listing: `Set` is last-write-wins and reports new keys,
`Keys()` is ascending, duplicate-free and holds exactly the keys of the map, `Delete` removes exactly its key
and reports whether it was present; the slice/map agreement is an invariant of all operations -/
theorem sortedMap_refines (s : SortedMap.M) (h : SortedMap.MInv s) :
    (∀ k v, SortedMap.MInv (SortedMap.set s k v).2 ∧ (SortedMap.set s k v).1 = !(SortedMap.has s k) ∧
      ∀ k', SortedMap.get (SortedMap.set s k v).2 k' = if k' = k then some v else SortedMap.get s k') ∧
    ((SortedMap.keys s).1.Pairwise (fun a b => a < b) ∧
      (∀ k, k ∈ (SortedMap.keys s).1 ↔ SortedMap.has s k = true) ∧ SortedMap.MInv (SortedMap.keys s).2) ∧
    (∀ k, SortedMap.MInv (SortedMap.delete s k).2 ∧ (SortedMap.delete s k).1 = SortedMap.has s k ∧
      ∀ k', SortedMap.get (SortedMap.delete s k).2 k' = if k' = k then none else SortedMap.get s k') := by
  refine ⟨fun k v => ⟨SortedMap.set_inv s k v h, rfl, SortedMap.get_set s k v⟩, ⟨?_, ?_, SortedMap.ensureSorted_inv s h⟩,
    fun k => SortedMap.delete_spec s k h⟩
  · obtain ⟨h1, h2⟩ := SortedMap.keys_sorted s
    have hnd : (SortedMap.keys s).1.Nodup := h2.nodup_iff.mpr h.nodup
    have hboth := h1.and hnd
    exact hboth.imp (fun hab => by omega)
  · intro k
    rw [(SortedMap.keys_sorted s).2.mem_iff]
    exact h.same k

example : SortedMap.MInv {} := SortedMap.minv_empty

/-- `ds.SortedMap` over every sequence of `Set` / `Delete` / sorting reads: `Get` agrees with the finite-map
reference; `Keys()` is strictly ascending and holds exactly the reference's keys; `All()`, consumed before the
next `Set` (the model's `all` is one step), lists exactly the entries in that order and `Values()` their values -/
theorem sortedMap_run_refines (ops : List SortedMap.Op) :
    let s := SortedMap.run ops
    (∀ k, SortedMap.get s k = SortedMap.specRun ops k) ∧
    (SortedMap.keys s).1.Pairwise (fun a b => a < b) ∧
    (∀ k, k ∈ (SortedMap.keys s).1 ↔ (SortedMap.specRun ops k).isSome = true) ∧
    (SortedMap.all s).1.map Prod.fst = (SortedMap.keys s).1 ∧
    (∀ e ∈ (SortedMap.all s).1, SortedMap.specRun ops e.1 = some e.2) ∧
    (SortedMap.values s).1 = (SortedMap.all s).1.map Prod.snd ∧
    SortedMap.size s = (SortedMap.keys s).1.length := by
  intro s
  obtain ⟨hi, hg⟩ := SortedMap.run_spec ops
  obtain ⟨_, ⟨hk1, hk2, _⟩, _⟩ := sortedMap_refines s hi
  obtain ⟨ha1, ha2, ha3⟩ := SortedMap.all_spec s hi
  refine ⟨hg, hk1, ?_, ha1, ?_, ha3, ?_⟩
  · intro k; rw [hk2 k, ← hg k]; rfl
  · intro e he; rw [← hg e.1]; exact ha2 e he
  · exact ((SortedMap.keys_sorted s).2.length_eq).symm

/-- After `NewPartitionedPriorityQueue` over any (sorted, possibly non-empty) partitions and any sequence of
`Push` / `Delete` / `Pop`: the heap of partitions holds every partition exactly once and is ordered by the
partitions' current heads; **the index every partition stored through the index assigner is its position in the
heap** (so the code's `heap.Fix(partition.Index())` fixes the right slot); `Pop` returns `Peek`'s item and removes
exactly it; `Peek` is a global minimum over all partitions (an item of some partition, no queued item has a lower
priority) and reports "empty" exactly when every partition is empty. -/
theorem ppq_peek_is_global_min (parts : Array (List PPQ.Item)) (ops : List PPQ.Op)
    (hs : ∀ p, (parts.getD p []).Pairwise (fun a b => a.prio ≤ b.prio)) :
    let q := PPQ.runFrom parts ops
    PPQ.PInv q ∧
    (∀ p, p < q.parts.size → 0 ≤ q.idx p ∧ q.heap[(q.idx p).toNat]? = some p) ∧
    ((PPQ.pop q).1 = PPQ.peek q ∧ ∀ x, PPQ.peek q = some x → ∃ p, (q.parts.getD p []).head? = some x ∧
      (PPQ.pop q).2.parts = q.parts.setIfInBounds p (q.parts.getD p []).tail) ∧
    (∀ x, PPQ.peek q = some x →
      (∃ p, (q.parts.getD p []).head? = some x) ∧ ∀ p, ∀ y ∈ q.parts.getD p [], x.prio ≤ y.prio) ∧
    (PPQ.peek q = none → ∀ p, q.parts.getD p [] = []) ∧
    (PPQ.isEmpty q = true ↔ ∀ p, q.parts.getD p [] = []) := by
  intro q
  obtain ⟨hinv, hsorted⟩ := PPQ.runFrom_inv parts ops hs
  have hnone : PPQ.peek q = none → ∀ p, q.parts.getD p [] = [] := PPQ.peek_none_all q hinv
  have hempty : PPQ.isEmpty q = (PPQ.peek q).isNone := by
    unfold PPQ.isEmpty PPQ.peek
    cases Heap.peek q.heap <;> rfl
  refine ⟨hinv, ?_, PPQ.pop_spec q, ?_, hnone, ?_⟩
  · exact fun p hp => ⟨PPQ.index_nonneg q hinv hp, PPQ.heap_at_index q hinv hp⟩
  · intro x hx
    obtain ⟨p, hp, _⟩ := (PPQ.pop_spec q).2 x hx
    exact ⟨⟨p, hp⟩, PPQ.peek_le_part q hinv hsorted x hx⟩
  · rw [hempty]
    constructor
    · intro h; exact hnone (by simpa using h)
    · intro h
      cases hx : PPQ.peek q with
      | none => rfl
      | some x =>
        -- what `Peek` shows is the head of some partition
        obtain ⟨p, hp, _⟩ := (PPQ.pop_spec q).2 x hx
        rw [h p] at hp
        cases hp

/-- non-vacuity: after one `Push` the premise `Peek = some _` of the minimality clause is met -/
example : PPQ.peek (PPQ.run 2 [.push ⟨5, 1, 7⟩]) ≠ none := by
  intro h
  have hs : ∀ p, ((Array.replicate 2 ([] : List PPQ.Item)).getD p []).Pairwise (fun a b => a.prio ≤ b.prio) :=
    fun p => by rw [PPQ.getD_replicate_nil]; exact .nil
  have h1 := (ppq_peek_is_global_min (Array.replicate 2 []) [.push ⟨5, 1, 7⟩] hs).2.2.2.2.1 h 1
  have h2 : (PPQ.run 2 [.push ⟨5, 1, 7⟩]).parts.getD 1 [] = [⟨5, 1, 7⟩] := by
    simp [PPQ.run, PPQ.runFrom, PPQ.step, PPQ.new, PPQ.push, PPQ.insertSorted_nil]
  have h3 : (PPQ.run 2 [.push ⟨5, 1, 7⟩]).parts.getD 1 [] = [] := h1
  rw [h2] at h3
  cases h3

/-- Trace-level refinement of the partitioned queue: started by `NewPartitionedPriorityQueue` over any sorted partitions
whose items carry their partition index, every sequence of `Push` / `Delete` / `Pop` is accepted by ONE multiset of all
queued items: each `Pop` returns a minimum-priority item of that multiset, which then loses exactly it; `Pop` fails only
when nothing is queued; `Push`/`Delete` add / remove exactly their item (an item addressing no partition changes nothing). -/
theorem ppq_run_refines (parts : Array (List PPQ.Item)) (ops : List PPQ.Op)
    (hs : ∀ p, (parts.getD p []).Pairwise (fun a b => a.prio ≤ b.prio))
    (hpart : ∀ p y, y ∈ parts.getD p [] → y.part = p) :
    PPQ.Accepts parts.size parts.toList.flatten ops (PPQ.trace (PPQ.new parts) ops) :=
  PPQ.trace_accepted (PPQ.new parts) (PPQ.new_inv parts) hs hpart ops _ (.refl _)

/-- non-vacuity: pre-populated partitions satisfying both hypotheses -/
example : (∀ p, ((#[[⟨1, 0, 1⟩, ⟨1, 0, 2⟩], [⟨0, 1, 3⟩]] : Array (List PPQ.Item)).getD p []).Pairwise
      (fun a b => a.prio ≤ b.prio)) ∧
    (∀ p y, y ∈ (#[[⟨1, 0, 1⟩, ⟨1, 0, 2⟩], [⟨0, 1, 3⟩]] : Array (List PPQ.Item)).getD p [] → y.part = p) := by
  constructor
  · intro p
    match p with
    | 0 => decide
    | 1 => decide
    | n + 2 => rw [Array.getD_eq_getD_getElem?, Array.getElem?_eq_none (by simp)]; simp
  · intro p y hy
    match p with
    | 0 => simp [Array.getD] at hy; rcases hy with rfl | rfl <;> rfl
    | 1 => simp [Array.getD] at hy; rw [hy]
    | n + 2 => rw [Array.getD_eq_getD_getElem?, Array.getElem?_eq_none (by simp)] at hy; simp at hy

/-- Early termination (`yield` returning false at the consumer's `n`-th item, `n ≥ 1`): what the consumer has seen
is exactly the first `n` items of the full sequence — for `ZipTree.AscendPrefix`, `MergeSorted` and `Merge` (for `Merge`
whenever the full run does not panic; a panic that lies beyond the `n`-th item is simply not reached). The
statement has no clause about the structures' state: the iterations only read them (`SortedMap.All` sorts before it
returns its iterator) and are modelled as functions that return the yielded items. -/
theorem early_termination_prefix (n : Nat) (hn : 1 ≤ n) :
    (∀ t p, ZipTree.ascendPrefixN t p n = (ZipTree.ascendPrefix t p).take n) ∧
    (∀ {α : Type} (cmp : α → α → Int) (runs : List (List α)),
      Merge.mergeSortedN cmp runs n = (Merge.mergeSorted cmp runs).take n) ∧
    (∀ {α : Type} [DecidableEq α] (cmp : α → α → Int) (pick : α → α → α) (runs : List (List α)) (out : List α),
      Merge.merge cmp pick runs = some out → Merge.mergeN cmp pick runs n = some (out.take n)) :=
  ⟨fun t p => ZipTree.ascendPrefixN_eq t p n hn,
   fun cmp _ => Merge.popsN_eq cmp _ n hn _,
   fun cmp pick _ out h => Merge.resolveN_prefix cmp pick n hn _ out h⟩

end Rxn.C19
