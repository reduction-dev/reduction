import RxnModel.Generated.Facts
import RxnModel.Proofs.Runner
import RxnModel.Proofs.RunnerRF
/-!
# C04 — failure-free delivery: every record exactly once, per-split key order kept

Model: `Model/Runner.lean` — the read loop, the `outputStream` of placeholders, the router that joins them with the
in-order results of the reorder fetcher and routes, one `EventBatcher` and one operator goroutine per operator, timer
expiries (also stale ones) and operator back-pressure as a transition system; the schedule `as` is universally
quantified. The reorder fetcher is represented by a FIFO of results, one per record in `Add` order, each emitted
(`rfEmit`) at any later moment of the schedule; that the real fetcher is such a FIFO is derived below from
`C20.reorder_prefix_no_errors` (`rf_step_is_fifo_step`, `product_refines_runner`). Routing is any function of the key
(the code's `KeySpace.RangeIndex`, C05).
-/
namespace Rxn.C04
open Rxn Runner

/-- the hypothesis `hunbuf : c.handoffBuffered = false` of the theorems below is the code (regenerated structural fact,
hard obligation): in `newBatchingOperator` the `batches` channel is made without a capacity, assigned nowhere else in
workers/sourcerunner/operator_cluster.go (the one file the recogniser reads), and never sent on in a select with a default -/
theorem handoff_unbuffered_shape : Facts.c04HandoffUnbuffered = 1 := by decide

/-- **the read order**: `s.logical` is the sequence of things the read loop has put on `outputStream`. Its records,
followed by the not yet enqueued rest of the current read, are exactly the records the source reader handed out, in
order (nothing skipped, repeated or swapped between `ReadEvents` and `outputStream`) -/
theorem read_order {ρ : Type} (c : Cfg ρ) (hunbuf : c.handoffBuffered = false) (maxSize : Nat) (hasDelay : Bool)
    (as : List (Act ρ)) (s : St ρ) (hrun : exec c (init maxSize hasDelay) as = some s) :
    recordsOf s.logical ++ s.readBuf = fetchedOf as := by
  simpa [init] using exec_fetched c as _ s hrun

/-- **barriers cut the read order where the reader was checkpointed**: the cursor `Checkpoint()` returned for a
barrier is exactly the number of records placed on `outputStream` before that barrier — no record the checkpoint
accounts for comes after the barrier, none it does not account for comes before it -/
theorem barrier_cut {ρ : Type} (c : Cfg ρ) (hunbuf : c.handoffBuffered = false) (maxSize : Nat) (hasDelay : Bool)
    (as : List (Act ρ)) (s : St ρ) (hrun : exec c (init maxSize hasDelay) as = some s) :
    s.ckpts = cutsOf s.logical 0 ∧ s.cursor = (recordsOf s.logical).length + s.readBuf.length := by
  have h := exec_cut c as _ s (init_cut maxSize hasDelay) hrun
  exact ⟨h.cuts.symm, h.cur.symm⟩

/-- **per-operator stream**: at every moment of every schedule, what operator `q` has been handed, followed by what
the runner still holds for it (in the router's hand, in `q`'s batcher, in the current placeholder's work list, and in
the not yet processed part of `outputStream`), is exactly the read order restricted to `q` -/
theorem per_operator_stream {ρ : Type} (c : Cfg ρ) (hunbuf : c.handoffBuffered = false) (maxSize : Nat) (hasDelay : Bool) (as : List (Act ρ)) (s : St ρ)
    (hrun : exec c (init maxSize hasDelay) as = some s) (q : Nat) (hq : q < c.nOps) :
    delivered s q ++ pendingFor s q ++ project c q s.stream = project c q s.logical :=
  (exec_inv c hunbuf as _ s (init_inv c maxSize hasDelay) hrun).main q hq

/-- so the delivered stream is always a prefix of the specification: nothing is duplicated, reordered or invented -/
theorem delivery_prefix {ρ : Type} (c : Cfg ρ) (hunbuf : c.handoffBuffered = false) (maxSize : Nat) (hasDelay : Bool) (as : List (Act ρ)) (s : St ρ)
    (hrun : exec c (init maxSize hasDelay) as = some s) (q : Nat) (hq : q < c.nOps) :
    ∃ rest, delivered s q ++ rest = project c q s.logical :=
  ⟨pendingFor s q ++ project c q s.stream, by
    rw [← List.append_assoc]; exact per_operator_stream c hunbuf maxSize hasDelay as s hrun q hq⟩

/-- and once nothing is in flight (`outputStream` consumed, batchers empty, router idle) every operator has been handed
its whole stream: nothing is lost -/
theorem delivery_complete {ρ : Type} (c : Cfg ρ) (hunbuf : c.handoffBuffered = false) (maxSize : Nat) (hasDelay : Bool) (as : List (Act ρ)) (s : St ρ)
    (hrun : exec c (init maxSize hasDelay) as = some s) (hquiet : quiescent s) (q : Nat) (hq : q < c.nOps) :
    delivered s q = project c q s.logical :=
  (exec_inv c hunbuf as _ s (init_inv c maxSize hasDelay) hrun).delivered_of_quiescent hquiet q hq

/-- …and with the current read fully enqueued, "its whole stream" is about every record the reader handed out: the
records of the read order are exactly `fetchedOf as` -/
theorem delivery_complete_all_read {ρ : Type} (c : Cfg ρ) (hunbuf : c.handoffBuffered = false) (maxSize : Nat) (hasDelay : Bool)
    (as : List (Act ρ)) (s : St ρ) (hrun : exec c (init maxSize hasDelay) as = some s) (hquiet : quiescent s)
    (hread : s.readBuf = []) (q : Nat) (hq : q < c.nOps) :
    delivered s q = project c q s.logical ∧ recordsOf s.logical = fetchedOf as := by
  refine ⟨delivery_complete c hunbuf maxSize hasDelay as s hrun hquiet q hq, ?_⟩
  simpa [hread] using read_order c hunbuf maxSize hasDelay as s hrun

/-- **exactly once**: after a failure-free run a keyed event has been handed to the operator its key routes to as
often as the user's key function produced it, and to no other operator — for the operators `q < c.nOps`; that `route`
answers below `nOps` is neither assumed nor shown here -/
theorem exactly_once {ρ : Type} (c : Cfg ρ) (hunbuf : c.handoffBuffered = false) (maxSize : Nat) (hasDelay : Bool) (as : List (Act ρ)) (s : St ρ)
    (hrun : exec c (init maxSize hasDelay) as = some s) (hquiet : quiescent s) (q : Nat) (hq : q < c.nOps) (e : KEv) :
    (delivered s q).count (.keyed e) =
      if c.route e.key = q then (expand c s.logical).count (.keyed e) else 0 := by
  rw [delivery_complete c hunbuf maxSize hasDelay as s hrun hquiet q hq, count_project]

/-- **order**: what an operator is handed is a subsequence of the read order — two events of the same split and key
(same operator) arrive in the order the split produced them, and barriers/watermarks keep their place among them -/
theorem order_preserved {ρ : Type} (c : Cfg ρ) (hunbuf : c.handoffBuffered = false) (maxSize : Nat) (hasDelay : Bool) (as : List (Act ρ)) (s : St ρ)
    (hrun : exec c (init maxSize hasDelay) as = some s) (q : Nat) (hq : q < c.nOps) :
    (delivered s q).Sublist (expand c s.logical) := by
  obtain ⟨rest, h⟩ := delivery_prefix c hunbuf maxSize hasDelay as s hrun q hq
  have h1 : (delivered s q).Sublist (project c q s.logical) := by
    rw [← h]; exact List.sublist_append_left _ _
  exact h1.trans List.filter_sublist

/-- **barriers (and watermarks) never overtake**: if the read order is `A`, then the broadcast `b`, then `B`, with `b`
not in `A`, and operator `q` has been handed `b`, then before it `q` was handed exactly the part of `A` meant for it, in
order. `Ev.wm` carries no identity, so for watermarks this speaks of the first one of the run only, and for a barrier
id of its first occurrence. -/
theorem broadcast_never_overtakes {ρ : Type} (c : Cfg ρ) (hunbuf : c.handoffBuffered = false) (maxSize : Nat) (hasDelay : Bool) (as : List (Act ρ)) (s : St ρ)
    (hrun : exec c (init maxSize hasDelay) as = some s) (q : Nat) (hq : q < c.nOps)
    (A B : List Ev) (b : Ev) (hb : keep c q b = true) (hsplit : expand c s.logical = A ++ b :: B)
    (hfirst : b ∉ A) (hgot : b ∈ delivered s q) :
    ∃ rest, delivered s q = A.filter (keep c q) ++ b :: rest := by
  obtain ⟨rest, h⟩ := delivery_prefix c hunbuf maxSize hasDelay as s hrun q hq
  rw [project, hsplit, List.filter_append, List.filter_cons, if_pos hb] at h
  exact prefix_through_first h (fun hm => hfirst (List.mem_filter.mp hm).1) hgot

/-! non-vacuity: a concrete schedule with two operators, a time-out flush overtaken by a size flush attempt, a stale
token and back-pressure ends quiescent with both streams complete -/

def demoCfg : Cfg (Nat × Nat) :=
  { nOps := 2, route := fun k => k.length % 2, keyOf := fun r => [{ key := List.replicate r.2 0, src := r.1, idx := 0 }] }

def demoSchedule : List (Act (Nat × Nat)) :=
  [.fetch [(1, 0), (2, 1)], .enq, .enq, .barrier 7, .fetch [(3, 0)], .enq, .rfEmit, .sTake, .sAdd, .sIsFull, .fire 0, .oTok 0,
   .rfEmit, .sTake, .sAdd, .sIsFull, .oTFlush 0, .oDone 0, .sTake, .sAdd, .sIsFull, .sAdd, .sIsFull, .sFlush, .sSend,
   .oDone 1, .rfEmit, .sTake, .sAdd, .sIsFull, .sFlush, .stale 0, .oTok 0, .oTFlush 0, .oDone 0, .sSend, .oDone 0]

example : (exec demoCfg (init 2 true) demoSchedule).map (fun s => (delivered s 0, delivered s 1, s.stream.length, s.todo.length)) =
    some ([.keyed ⟨[], 1, 0⟩, .barrier 7, .keyed ⟨[], 3, 0⟩], [.keyed ⟨[0], 2, 0⟩, .barrier 7], 0, 0) := by decide

/-! Composition with C20: the reorder fetcher behaves as the FIFO the runner model contains. `Runner.St` represents
`keyEventChannel` by a FIFO of results (`rfOut ++ rfPending`): `enq` appends `keyOf r`, `sTake` pops the head, `rfEmit`
is internal. The two theorems below derive exactly this behaviour for the *real* fetcher's transition system
(`Model/Reorder.lean`, tied to the code by C20) from `C20.reorder_prefix_no_errors`: with
`φ = ((inputs as).map g).drop (number of results received)` as the abstraction of a fetcher run, `pAdd x` appends `g x` to `φ`, the consumer's `recv`
pops the head of `φ`, and every other action of the fetcher (both flushers, timer expiries, fetch completions in any
order, the drain, sends into `Output`) leaves `φ` unchanged and is invisible: the three instances of the FIFO law
`RunnerRF.fetcher_fifo_step` (Proofs/RunnerRF.lean). -/

/-- the results received so far are those of the first records added, in `Add` order: one result per record -/
theorem rf_results_in_add_order {ρ : Type} (g : ρ → List KEv) (maxSize : Nat) (hasDelay : Bool) (bufferSize : Nat)
    (as : List (Reorder.Act ρ)) (r : Reorder.Run ρ (List KEv))
    (hrun : Reorder.exec (List.map g) (fun _ => false) true { st := Reorder.init maxSize hasDelay bufferSize } as = some r) :
    r.out = ((Reorder.inputs as).take r.out.length).map g := by
  obtain ⟨rest, h⟩ := C20.reorder_prefix_no_errors g maxSize hasDelay bufferSize as r hrun
  rw [List.map_take, ← h, List.take_left']
  rfl

/-- one step of the real fetcher is one step (or a stutter) of the FIFO in the runner model -/
theorem rf_step_is_fifo_step {ρ : Type} (g : ρ → List KEv) (maxSize : Nat) (hasDelay : Bool) (bufferSize : Nat)
    (as : List (Reorder.Act ρ)) (r : Reorder.Run ρ (List KEv)) (a : Reorder.Act ρ) (s' : Reorder.St ρ (List KEv))
    (o : List (List KEv))
    (hrun : Reorder.exec (List.map g) (fun _ => false) true { st := Reorder.init maxSize hasDelay bufferSize } as = some r)
    (hstep : Reorder.step (List.map g) (fun _ => false) true r.st a = some (s', o)) :
    let φ := ((Reorder.inputs as).map g).drop r.out.length
    let φ' := ((Reorder.inputs (as ++ [a])).map g).drop (r.out ++ o).length
    (∀ x, a = .pAdd x → o = [] ∧ φ' = φ ++ [g x]) ∧
    (a = .recv → ∃ v, o = [v] ∧ φ = v :: φ') ∧
    ((∀ x, a ≠ .pAdd x) → a ≠ .recv → o = [] ∧ φ' = φ) := by
  intro φ φ'
  obtain ⟨hrecv, hother⟩ := Reorder.step_out _ _ _ _ _ _ _ hstep
  have hf : o ++ φ' = φ ++ (Reorder.inputOf a).map g :=
    RunnerRF.fetcher_fifo_step g maxSize hasDelay bufferSize as r a s' o hrun hstep
  refine ⟨?_, ?_, ?_⟩
  · rintro x rfl
    obtain rfl := hother (by simp)
    exact ⟨rfl, hf⟩
  · rintro rfl
    obtain ⟨v, rfl⟩ := hrecv rfl
    exact ⟨v, rfl, by simpa [Reorder.inputOf] using hf.symm⟩
  · intro hadd hnr
    obtain rfl := hother hnr
    exact ⟨rfl, by simpa [Reorder.inputOf_eq_nil hadd] using hf⟩

/-! The product system, the runner with the real fetcher (`Model/RunnerRF.lean`): every run of the product — runner
actions, the fetcher's own actions in any interleaving, `enq` = placeholder + `pAdd`, `take` = the router receiving from
`Output` — keeps the ghost FIFO equal to what the fetcher still owes and the runner component reachable in `Model/Runner`
(`Coupled`); that the value the router receives is the head of that FIFO is shown inside `coupled_step` (case `take`)
and stated by no theorem. So the safety theorems about the runner's state (per-operator stream,
order, cuts: `product_per_operator_stream`) hold for the runner driven by the real fetcher's transition system, not only
for the FIFO abstraction. -/

structure Coupled {ρ : Type} (c : Cfg ρ) (maxSize : Nat) (hasDelay : Bool) (p : RunnerRF.PSt ρ) : Prop where
  pend : p.r.rfPending = []
  fifo : p.r.rfOut = ((Reorder.inputs p.rfas).map c.keyOf).drop p.rf.out.length
  rfrun : Reorder.exec (List.map c.keyOf) (fun _ => false) true { st := Reorder.init maxSize hasDelay maxSize } p.rfas = some p.rf
  reach : ∃ as', Runner.exec c (Runner.init maxSize hasDelay) as' = some p.r

theorem coupled_step {ρ : Type} (c : Cfg ρ) (maxSize : Nat) (hasDelay : Bool) (p p1 : RunnerRF.PSt ρ) (a : RunnerRF.PAct ρ)
    (h : Coupled c maxSize hasDelay p) (hs : RunnerRF.step c p a = some p1) : Coupled c maxSize hasDelay p1 := by
  obtain ⟨as', hreach⟩ := h.reach
  cases a with
  | run a =>
    obtain ⟨r', hr, rfl, f1, f2⟩ := RunnerRF.step_run hs
    exact ⟨by rw [f2]; exact h.pend, by rw [f1]; exact h.fifo, h.rfrun,
      ⟨as' ++ [a], by rw [Runner.exec_snoc, hreach]; simpa using hr⟩⟩
  | rf a =>
    -- the fetcher moves alone, except for `pAdd` (that is `enq`), `recv` (that is `take`) and `pFlush` (no product action)
    simp only [RunnerRF.step] at hs
    split at hs
    · cases hs
    · cases hs
    · cases hs
    · next h1 h2 _ =>
      obtain ⟨⟨q, o⟩, hq, rfl⟩ := Option.map_eq_some_iff.mp hs
      obtain ⟨hr, hrf, hout, hφ⟩ := RunnerRF.rfStep_fifo c maxSize hasDelay p q a o h.rfrun hq
      rw [← h.fifo, hout fun e => h2 e, Reorder.inputOf_eq_nil fun x e => h1 x e] at hφ
      exact ⟨by rw [hr]; exact h.pend, by rw [hr]; simpa using hφ.symm, hrf, ⟨as', by rw [hr]; exact hreach⟩⟩
  | enq =>
    simp only [RunnerRF.step] at hs
    split at hs
    · next rec rest hbuf =>
      simp only [Option.map_eq_some_iff] at hs
      obtain ⟨⟨q, o⟩, hq, rfl⟩ := hs
      obtain ⟨_, hrf, hout, hφ⟩ := RunnerRF.rfStep_fifo c maxSize hasDelay p q (.pAdd rec) o h.rfrun hq
      rw [← h.fifo, hout (by simp)] at hφ
      -- the ghost FIFO gets the result at once: in `Model/Runner` that is `enq` followed by `rfEmit`
      refine ⟨h.pend, hφ.symm, hrf, ⟨as' ++ [.enq] ++ [.rfEmit], ?_⟩⟩
      rw [Runner.exec_snoc, Runner.exec_snoc, hreach]
      simp [Runner.step, hbuf, h.pend]
    · simp at hs
  | take =>
    simp only [RunnerRF.step] at hs
    split at hs
    · next rec rest hspc htodo hstream =>
      split at hs
      · next q v hq =>
        simp only [Option.some.injEq] at hs
        subst hs
        -- the value received is the head of the ghost FIFO, so the runner's `sTake` takes the same one
        obtain ⟨_, hrf, _, hφ⟩ := RunnerRF.rfStep_fifo c maxSize hasDelay p q .recv [v] h.rfrun hq
        rw [← h.fifo, show Reorder.inputOf (.recv : Reorder.Act ρ) = [] from rfl, List.map_nil, List.append_nil] at hφ
        refine ⟨h.pend, by simp [← hφ], hrf, ⟨as' ++ [.sTake], ?_⟩⟩
        rw [Runner.exec_snoc, hreach]
        simp [Runner.step, hspc, htodo, hstream, ← hφ]
      · simp at hs
    · simp at hs

/-- the coupling is an invariant of the product system -/
theorem product_coupled {ρ : Type} (c : Cfg ρ) (maxSize : Nat) (hasDelay : Bool) (as : List (RunnerRF.PAct ρ)) :
    ∀ (p p' : RunnerRF.PSt ρ), Coupled c maxSize hasDelay p → RunnerRF.exec c p as = some p' → Coupled c maxSize hasDelay p' := by
  induction as with
  | nil => intro p p' h he; cases he; exact h
  | cons a as ih =>
    intro p p' h he
    simp only [RunnerRF.exec] at he
    split at he
    · cases he
    · next p1 hs => exact ih p1 p' (coupled_step c maxSize hasDelay p p1 a h hs) he

theorem product_init_coupled {ρ : Type} (c : Cfg ρ) (maxSize : Nat) (hasDelay : Bool) :
    Coupled c maxSize hasDelay (RunnerRF.init maxSize hasDelay : RunnerRF.PSt ρ) :=
  ⟨rfl, rfl, rfl, ⟨[], rfl⟩⟩

/-- **the runner component of every run of the product is a run of `Model/Runner`**. (That the result the router receives
from the real fetcher for a record placeholder is `keyOf` of that record, the head of the coupled FIFO, is what the proof
of `coupled_step` rests on; the statement does not say it.) -/
theorem product_refines_runner {ρ : Type} (c : Cfg ρ) (maxSize : Nat) (hasDelay : Bool) (as : List (RunnerRF.PAct ρ))
    (p : RunnerRF.PSt ρ) (hrun : RunnerRF.exec c (RunnerRF.init maxSize hasDelay) as = some p) :
    ∃ as', Runner.exec c (Runner.init maxSize hasDelay) as' = some p.r :=
  (product_coupled c maxSize hasDelay as _ p (product_init_coupled c maxSize hasDelay) hrun).reach

/-- **per-operator stream, with the real fetcher**: for every interleaving of the runner's goroutines with the
fetcher's (both flushers, timer expiries, fetch completions in any order, the drain, back-pressure on `Output`) -/
theorem product_per_operator_stream {ρ : Type} (c : Cfg ρ) (hunbuf : c.handoffBuffered = false) (maxSize : Nat)
    (hasDelay : Bool) (as : List (RunnerRF.PAct ρ)) (p : RunnerRF.PSt ρ)
    (hrun : RunnerRF.exec c (RunnerRF.init maxSize hasDelay) as = some p) (q : Nat) (hq : q < c.nOps) :
    delivered p.r q ++ pendingFor p.r q ++ project c q p.r.stream = project c q p.r.logical ∧
    (delivered p.r q).Sublist (expand c p.r.logical) ∧
    p.r.ckpts = cutsOf p.r.logical 0 := by
  obtain ⟨as', h⟩ := product_refines_runner c maxSize hasDelay as p hrun
  exact ⟨per_operator_stream c hunbuf maxSize hasDelay as' p.r h q hq,
    order_preserved c hunbuf maxSize hasDelay as' p.r h q hq, (barrier_cut c hunbuf maxSize hasDelay as' p.r h).1⟩

/-- non-vacuity of the product: two records go through the real fetcher (time-out flush, fetch, drain, `Output`) and the
router hands them to their operator; the second is flushed while the first is in flight and its fetch returns first.
Both flushes are the time-out flusher's: with batch size 2 neither `pIsFull` sends the producer into `flush`. -/
example : (RunnerRF.exec demoCfg (RunnerRF.init 2 true)
    [.run (.fetch [(1, 0), (2, 0)]), .enq, .rf .pIsFull, .rf .fire, .rf .tmoRecv, .rf (.lock .tmo), .rf (.flushA .tmo),
     .rf (.flushB .tmo), .enq, .rf .pIsFull, .rf .fire, .rf .tmoRecv, .rf (.lock .tmo), .rf (.flushA .tmo), .rf (.flushB .tmo),
     .rf (.fetchDone 1), .rf (.fetchDone 0), .rf .drainStart, .rf .drainNext, .rf .send, .rf .drainNext, .rf .send,
     .take, .run .sAdd, .run .sIsFull, .take, .run .sAdd, .run .sIsFull, .run .sFlush, .run .sSend]).map
      (fun p => (delivered p.r 0, p.r.stream.length, p.rf.out.length)) =
    some ([.keyed ⟨[], 1, 0⟩, .keyed ⟨[], 2, 0⟩], 0, 2) := by decide

/-! negative witness: the theorems are about the *unbuffered* hand-off of `batchingOperator` (the router blocks until
the operator goroutine takes the batch). With a one-slot channel a full batch can sit in the channel while the
following partial batch times out, and the operator goroutine may handle the newer one first. -/

def bufCfg : Cfg Nat :=
  { nOps := 1, route := fun _ => 0, keyOf := fun r => [{ key := [], src := r, idx := 0 }], handoffBuffered := true }

def bufSchedule : List (Act Nat) :=
  [.fetch [1, 2, 3], .enq, .enq, .enq, .fetch [4, 5], .enq, .enq, .rfEmit, .rfEmit, .rfEmit, .rfEmit, .rfEmit,
   .sTake, .sAdd, .sIsFull, .sTake, .sAdd, .sIsFull, .sFlush, .sSend, .oRecv 0,          -- batch {1,2}: operator busy
   .sTake, .sAdd, .sIsFull, .sTake, .sAdd, .sIsFull, .sFlush, .sSend,                    -- batch {3,4} waits in the channel
   .sTake, .sAdd, .sIsFull, .fire 0, .oDone 0, .oTok 0, .oTFlush 0, .oDone 0, .oRecv 0]   -- {5} times out and overtakes

theorem buffered_handoff_reorders :
    (exec bufCfg (init 2 true) bufSchedule).map (fun s => (delivered s 0).map (fun e => match e with | .keyed k => k.src | _ => 0))
      = some [1, 2, 5, 3, 4] := by decide

/-- the same schedule is not a schedule of the code. It is rejected at its first `oRecv` (element 20), an action that
exists only with a buffered hand-off; without its three `oRecv` it is rejected at the second `sSend` (by evaluation):
the router cannot go on while its batch has not been taken. The statement says only that the schedule is rejected. -/
theorem unbuffered_handoff_blocks :
    (exec { bufCfg with handoffBuffered := false } (init 2 true) bufSchedule).isSome = false := by decide

/-! negative witness for `barrier_cut`: it relies on checkpoint requests being served only *between* reads. A loop
that also serves them between two records of one read (the `barrier` action enabled while `readBuf ≠ []`) snapshots a
cursor that is ahead of the barrier's place. In the model of the code this schedule is simply not enabled: -/
theorem barrier_mid_read_not_enabled :
    (exec demoCfg (init 2 true) [.fetch [(1, 0), (2, 0)], .enq, .barrier 1]).isSome = false := by decide

example : (exec demoCfg (init 2 true) [.fetch [(1, 0), (2, 0)], .enq, .enq, .barrier 1, .fetch [(3, 0)], .enq]).map
    (fun s => (s.ckpts, cutsOf s.logical 0, s.cursor)) = some ([(1, 2)], [(1, 2)], 3) := by decide

end Rxn.C04
