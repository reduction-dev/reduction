import RxnModel.Generated.Facts
import RxnModel.Proofs.Store
import RxnModel.Proofs.Publish
/-!
# C12 — a job checkpoint is all-or-nothing and checkpoint ids only grow

Property theorems only. Model: `Model/Store.lean` (one step per public call of `snapshots.Store`, each of
which is one `stateMu` section, so call lists are all schedules of concurrent callers); the restart part uses
`Model/Publish.lean`. The model describes the code after the D12 repair (a repeated source-runner
acknowledgement is ignored instead of appending its split states again).
-/
namespace Rxn.C12
open Rxn Rxn.Store

/-- All-or-nothing: a snapshot handed to the publisher has, for every expected operator, exactly one entry,
acknowledged with this snapshot's id by a call in the history; no other entries; every expected source runner
acknowledged this id exactly once and the split states are exactly the reported ones, each runner's once.
"Expected" = the keys of the snapshot's own completion maps; that they are the nodes given to the call that started it
is not part of the statement. -/
theorem publish_complete (s0 : St) (hb : Booted s0) (calls : List Call) (snap : Snap)
    (h : snap ∈ published s0 calls) :
    (∀ o ∈ snap.expectedOps, ∃ e ∈ snap.opEntries, e.op = o ∧ e.cp = snap.id ∧ Call.opAck o snap.id e.tag ∈ calls) ∧
    (snap.opEntries.map (·.op)).Nodup ∧
    (∀ e ∈ snap.opEntries, e.op ∈ snap.expectedOps ∧ e.cp = snap.id) ∧
    (∀ r ∈ snap.expectedSrs, ∃ a ∈ snap.srAcks, a.1 = r ∧ Call.srAck r snap.id a.2 ∈ calls) ∧
    (snap.srAcks.map (·.1)).Nodup ∧
    (∀ a ∈ snap.srAcks, a.1 ∈ snap.expectedSrs) ∧
    snap.splitStates = snap.srAcks.flatMap (·.2) := by
  have hg := published_good calls [] s0 (inv_booted hb []) snap h
  rw [List.nil_append] at hg
  obtain ⟨h1, h2, h3, h4, h5, h6, h7⟩ := complete_entries hg.wf hg.complete
  refine ⟨fun o ho => ?_, h2, h3, fun r hr => ?_, h5, h6, h7⟩
  · obtain ⟨e, he, heq, hcp⟩ := h1 o ho
    exact ⟨e, he, heq, hcp, heq ▸ hg.fromCalls.1 e he⟩
  · obtain ⟨a, ha, heq⟩ := List.mem_map.mp (h4 r hr)
    exact ⟨a, ha, heq, heq ▸ hg.fromCalls.2 a ha⟩

/-- An acknowledgement is *bad* if nothing is pending, it names another id, or its sender is not expected
or has already acknowledged. -/
def badAck (s : St) : Call → Prop
  | .opAck op cp _ => ∀ p, s.pending = some p → p.id ≠ cp ∨ p.ops.lookup op ≠ some false
  | .srAck sr cp _ => ∀ p, s.pending = some p → p.id ≠ cp ∨ p.srs.lookup sr ≠ some false
  | _ => False

/-- Duplicate, late, mismatched or foreign acknowledgements change nothing and publish nothing
(for a checkpoint that expects at least one node). -/
theorem bad_acks_harmless (s : St) (hr : Reachable s) (c : Call) (hb : badAck s c)
    (hne : ∀ p, s.pending = some p → p.ops ≠ [] ∨ p.srs ≠ []) :
    (step s c).1 = s ∧ (step s c).2.2 = none := by
  obtain ⟨hist, hi⟩ := reachable_inv hr
  cases c with
  | create ops srs => exact absurd hb (by simp [badAck])
  | savepoint ops srs => exact absurd hb (by simp [badAck])
  | redeploy => exact absurd hb (by simp [badAck])
  | opAck op cp tag => exact bad_opAck_noop hi tag hb hne
  | srAck sr cp splits => exact bad_srAck_noop hi splits hb hne

/-- At most one checkpoint is in progress: while one is pending `CreateCheckpoint` is refused and changes
nothing, and over any call sequence (hence every prefix), redeployments included, every started checkpoint is
finished, abandoned by a redeployment, or the single pending one. -/
theorem one_pending (s0 : St) (hb : Booted s0) (calls : List Call) :
    (createdIds s0 calls).length ≤ (published s0 calls).length + abandoned s0 calls + 1 ∧
    ∀ (s : St) (p : Snap) (ops srs : List Nat), s.pending = some p →
      step s (.create ops srs) = (s, .inProgress, none) := by
  refine ⟨?_, ?_⟩
  · have := count_trace calls s0
    rw [hb] at this
    exact Nat.le_trans (Nat.le_of_eq this) (Nat.add_le_add_left Option.length_toList_le _)
  · intro s p ops srs hp; simp [step, hp]

/-- A redeployment (`RegisterSourceSplitter`) abandons the pending checkpoint and leaves the id counter alone;
afterwards — and in every reachable state — an acknowledgement naming any id other than the last one handed
out (an earlier abandoned or finished checkpoint, or a future one) changes nothing and publishes nothing. Together
with `ids_strictly_increase` (the next checkpoint gets a larger id than the abandoned one) late
acknowledgements of an abandoned checkpoint can never enter a later checkpoint. -/
theorem stale_acks_rejected (s : St) (hr : Reachable s) :
    step s .redeploy = ({ s with pending := none }, .ok, none) ∧
    ∀ cp, cp ≠ s.cid → ∀ op tag sr splits,
      ((step s (.opAck op cp tag)).1 = s ∧ (step s (.opAck op cp tag)).2.2 = none ∧
        (step s (.opAck op cp tag)).2.1 ≠ .ok) ∧
      ((step s (.srAck sr cp splits)).1 = s ∧ (step s (.srAck sr cp splits)).2.2 = none ∧
        (step s (.srAck sr cp splits)).2.1 ≠ .ok) := by
  obtain ⟨hist, hi⟩ := reachable_inv hr
  exact ⟨rfl, fun cp hcp op tag sr splits => stale_ack_refused hi hcp op tag sr splits⟩

/-- Ids handed out strictly increase, and so do the ids of the published snapshots. -/
theorem ids_strictly_increase (s0 : St) (hb : Booted s0) (calls : List Call) :
    (createdIds s0 calls).Pairwise (· < ·) ∧ ((published s0 calls).map (·.id)).Pairwise (· < ·) ∧
    (∀ n ∈ createdIds s0 calls, s0.cid < n) ∧ (∀ snap ∈ published s0 calls, s0.cid < snap.id) := by
  obtain ⟨hgt, hpw⟩ := List.pairwise_cons.mp (created_sorted calls s0)
  -- nothing is pending in `s0`, so the published ids are among the created ones, in their order
  have hsub : ((published s0 calls).map (·.id)).Sublist (createdIds s0 calls) := by
    have := published_sublist calls s0
    rw [hb, List.map_append] at this
    exact (List.sublist_append_left _ _).trans this
  exact ⟨hpw, hpw.sublist hsub, hgt, fun snap hs => hgt _ (hsub.subset (List.mem_map_of_mem hs))⟩

/-- FULL STATEMENT (false on the code, D55): "ids strictly increase, also across job restarts", i.e. an id handed
out after a restart is greater than every id handed out before it. The excluded case is exactly an id that was handed
out but whose snapshot file had not been written when the job process was lost — such an id IS handed out again
(`ids_reused_after_crash_counterexample`).
What holds (PARTIAL): in every reachable state of the whole system (any starting storage, any interleaving of calls,
writes, lock sections, removals, deliveries and crashes) a newly handed out id is greater than every id that was ever
*persisted* and than the id counter, which it becomes. -/
theorem ids_increase_across_restarts_partial (files0 : List Nat) (as : List Publish.Act) (s : Publish.Sys)
    (obs : List Publish.Obs) (h : Publish.run (Publish.init files0) as = some (s, obs)) (c : Call) :
    ∀ n ∈ (step s.store c).2.1.created, (∀ w ∈ s.pub.written, w < n) ∧ s.store.cid < n ∧
      (step s.store c).1.cid = n :=
  fun _ hn => (Publish.reachable_inv h).core.new_id c hn

/-- the ids a trace handed out (`CreateCheckpoint` / `CreateSavepoint(created)` results), in order -/
def handedOut : List Publish.Obs → List Nat
  | [] => []
  | .res r :: rest => r.created ++ handedOut rest
  | _ :: rest => handedOut rest

/-- D55 (open): checkpoint 1 is started, the job process is lost before it is published, the restarted job
hands out id 1 again, and acknowledgements made for the old checkpoint 1 complete the new one: it is handed to
the publisher with the old operator entry and split state. Ids do not strictly increase across restarts. -/
theorem ids_reused_after_crash_counterexample :
    (Publish.run (Publish.init [])
      [.call (.create [1] [1]), .crash, .call (.create [1] [1]), .call (.opAck 1 1 99), .call (.srAck 1 1 [5])]).map
      (fun r => (handedOut r.2, r.1.pub.finished.map (fun sn => (sn.id, sn.opEntries.map (·.tag), sn.splitStates))))
    = some ([1, 1], [(1, [99], [5])]) := by decide

/-- "Persisted, used for recovery, announced only after all acknowledgements": in every reachable state of the
whole system every snapshot file ever written, every file present, every completed (current) checkpoint and every
announced id either was in the storage when the job first started, or is the id of a snapshot that was handed to
the publisher — and each of those is complete: exactly one stored entry per expected operator, carrying that id,
no other entries, every expected source runner recorded exactly once and its split states once. -/
theorem persisted_only_complete (files0 : List Nat) (as : List Publish.Act) (s : Publish.Sys)
    (obs : List Publish.Obs) (h : Publish.run (Publish.init files0) as = some (s, obs)) (n : Nat)
    (hn : n ∈ s.pub.written ∨ n ∈ s.pub.files ∨ n ∈ s.pub.completed ∨ n ∈ s.pub.delivered ∨
      n ∈ s.pub.notifs.flatten) :
    n ∈ files0 ∨ ∃ snap ∈ s.pub.finished, snap.id = n ∧
      (∀ o ∈ snap.expectedOps, ∃ e ∈ snap.opEntries, e.op = o ∧ e.cp = snap.id) ∧
      (snap.opEntries.map (·.op)).Nodup ∧
      (∀ e ∈ snap.opEntries, e.op ∈ snap.expectedOps ∧ e.cp = snap.id) ∧
      (∀ r ∈ snap.expectedSrs, r ∈ snap.srAcks.map (·.1)) ∧
      (snap.srAcks.map (·.1)).Nodup ∧
      (∀ a ∈ snap.srAcks, a.1 ∈ snap.expectedSrs) ∧
      snap.splitStates = snap.srAcks.flatMap (·.2) := by
  have hi := Publish.reachable_inv h
  have hinit : s.pub.initial = files0 := Publish.run_initial h
  have hw : n ∈ s.pub.written := by
    rcases hn with hn | hn | hn | hn | hn
    · exact hn
    · exact hi.fileWr n hn
    · exact hi.compWr n hn
    · exact hi.notifWr n (List.mem_append_left _ hn)
    · exact hi.notifWr n (List.mem_append_right _ hn)
  rcases hi.core.persisted (Or.inl hw) with h0 | ⟨snap, hs, hid, hwf, hc⟩
  · exact Or.inl (hinit ▸ h0)
  · exact Or.inr ⟨snap, hs, hid, complete_entries hwf hc⟩

/-- The same two facts for BOTH job configurations (without a savepoint URI, or configured with the savepoint of
checkpoint `k`, re-entering the savepoint path at every crash): every snapshot file ever written or present is an
initial file or a complete snapshot handed to the publisher, and a newly handed out id exceeds every persisted id. -/
theorem persisted_complete_any_config (s0 : Publish.Sys)
    (h0 : (∃ files0, s0 = Publish.init files0) ∨ (∃ k files0, s0 = Publish.initSavepoint k files0))
    (as : List Publish.Act) (s : Publish.Sys) (obs : List Publish.Obs) (h : Publish.run s0 as = some (s, obs)) :
    (∀ n, n ∈ s.pub.written ∨ n ∈ s.pub.files →
      n ∈ s0.pub.initial ∨ ∃ snap ∈ s.pub.finished, snap.id = n ∧ snap.WF ∧ snap.isComplete = true) ∧
    (∀ c, ∀ n ∈ (step s.store c).2.1.created, ∀ w ∈ s.pub.written, w < n) := by
  have hi := Publish.reachable_core h0 h
  exact ⟨fun n hn => Publish.run_initial h ▸ hi.persisted hn, fun c n hn => (hi.new_id c hn).1⟩

/-- Restart from a savepoint (`LoadCheckpoint` with a savepoint URI) on any storage — the job's own, with
whatever snapshot files and history it has (`files`, `written` as in every reachable state: each persisted id is
bounded by a file still present), or a fresh one: every id handed out afterwards, over all call sequences, is
greater than the restored savepoint's id, than every id ever persisted in that storage and than the id of every
savepoint artifact existing there (`spIds`, D66), and ids keep increasing strictly. -/
theorem ids_after_savepoint_restart (id : Nat) (files written delivered spIds : List Nat)
    (hw : ∀ w ∈ written, ∃ f ∈ files, w ≤ f) (calls : List Call) :
    let s0 := (Publish.bootSavepoint id files written delivered [] [] spIds).store
    (∀ n ∈ createdIds s0 calls, id < n ∧ (∀ w ∈ written, w < n) ∧ (∀ f ∈ files, f < n) ∧ (∀ k ∈ spIds, k < n)) ∧
    (createdIds s0 calls).Pairwise (· < ·) ∧
    ((published s0 calls).map (·.id)).Pairwise (· < ·) ∧
    (∀ snap ∈ published s0 calls, id < snap.id ∧ ∀ w ∈ written, w < snap.id) := by
  intro s0
  obtain ⟨hcp, hpp, hcgt, hpgt⟩ := ids_strictly_increase s0 rfl calls
  have hid : id ≤ s0.cid := Nat.le_max_left _ _
  have hfl : ∀ f ∈ files, f ≤ s0.cid := fun f hf =>
    Nat.le_trans (Publish.le_maxL hf) (Nat.le_trans (Nat.le_max_left _ _) (Nat.le_max_right id _))
  have hsp : ∀ k ∈ spIds, k ≤ s0.cid := fun k hk =>
    Nat.le_trans (Publish.le_maxL hk) (Nat.le_trans (Nat.le_max_right _ _) (Nat.le_max_right id _))
  have hwr : ∀ w ∈ written, w ≤ s0.cid := fun w hwm =>
    let ⟨f, hf, hle⟩ := hw w hwm; Nat.le_trans hle (hfl f hf)
  refine ⟨fun n hn => ?_, hcp, hpp, fun snap hs => ?_⟩
  · have hlt := hcgt n hn
    exact ⟨Nat.lt_of_le_of_lt hid hlt, fun w hwm => Nat.lt_of_le_of_lt (hwr w hwm) hlt,
      fun f hf => Nat.lt_of_le_of_lt (hfl f hf) hlt, fun k hk => Nat.lt_of_le_of_lt (hsp k hk) hlt⟩
  · have hlt := hpgt snap hs
    exact ⟨Nat.lt_of_le_of_lt hid hlt, fun w hwm => Nat.lt_of_le_of_lt (hwr w hwm) hlt⟩

/-- The storage of every reachable state satisfies the hypothesis of `ids_after_savepoint_restart`. -/
theorem reachable_storage_bounded (files0 : List Nat) (as : List Publish.Act) (s : Publish.Sys)
    (obs : List Publish.Obs) (h : Publish.run (Publish.init files0) as = some (s, obs)) :
    ∀ w ∈ s.pub.written, ∃ f ∈ s.pub.files, w ≤ f :=
  (Publish.reachable_inv h).wrFile

/-- D49 (repaired): the old rule took the counter from the savepoint alone, so after rolling back to savepoint
1 in a storage that holds checkpoint 3 the id 2 was handed out again; the repaired rule continues with 4. -/
theorem oldSavepointCounter_counterexample :
    createdIds (loadFromSavepointOld 1) [.create [] [1]] = [2] ∧
    createdIds (Publish.bootSavepoint 1 [3] [3, 2, 1] []).store [.create [] [1]] = [4] := by decide

/-- The regenerated shape of `store.go` the sequential model relies on: each of `CreateCheckpoint`, `CreateSavepoint`,
`AddOperatorSnapshot`, `AddSourceSnapshot`, `RegisterSourceSplitter`, `CurrentCheckpoint` is one `stateMu`
critical section (`LoadCheckpoint` takes no lock), `finishSnapshot` keeps that lock across
`sourceSplitter.Checkpoint()` (so a finished snapshot is never visible as pending to another call), and
`LoadCheckpoint` sets the id counter to the maximum of the loaded checkpoint's id and the newest local snapshot
file's id. -/
theorem calls_atomic :
    Facts.c12CallsAtomic = 1 ∧ Facts.c12FinishHoldsLock = 1 ∧ Facts.c12LoadCounterMaxLocal = 1 := by decide

/-- A savepoint request while a checkpoint is pending folds into it: same id, nothing new is started,
nothing is published by the request, only the flag changes. -/
theorem savepoint_folds (s : St) (p : Snap) (ops srs : List Nat) (hp : s.pending = some p)
    (hs : p.isSavepoint = false) :
    step s (.savepoint ops srs) = ({ s with pending := some { p with isSavepoint := true } }, .spExisting p.id, none) := by
  simp [step, hp, hs]

/-- D12 (repaired): the old rule appended a runner's split states again on a repeated acknowledgement. -/
theorem oldDuplicateAck_counterexample :
    let p0 : Snap := { (newSnap 1 [1] [1] false) with srs := [(1, true)], srAcks := [(1, [7])], splitStates := [7] }
    (addSrOld p0 1 [7]).map (·.splitStates) = some [7, 7] ∧ (addSr p0 1 [7]).map (·.splitStates) = some [7] := by
  decide

/-! ## non-vacuity -/

def demo : List Call :=
  [.create [1, 2] [1], .srAck 1 1 [4, 5], .srAck 1 1 [4, 5], .opAck 9 1 0, .opAck 1 2 0, .opAck 1 1 7,
   .create [1] [1], .savepoint [1] [1], .opAck 2 1 8, .opAck 2 1 8, .create [1] [1], .srAck 1 2 [], .opAck 1 2 3]

example : (published St.init demo).map (fun s => (s.id, s.opEntries.map (fun e => (e.op, e.tag)), s.splitStates, s.isSavepoint))
    = [(1, [(1, 7), (2, 8)], [4, 5], true), (2, [(1, 3)], [], false)] := by decide

example : createdIds St.init demo = [1, 2] := by decide

/-- a redeployment while checkpoint 1 is pending (op 1 has acknowledged): the next checkpoint is 2, the late
acknowledgement of 1 is refused and 2 is published with the acknowledgements sent for it -/
def demoRedeploy : List Call :=
  [.create [1, 2] [1], .opAck 1 1 5, .redeploy, .create [1, 2] [1], .opAck 2 1 6, .opAck 1 2 7, .opAck 2 2 8,
   .srAck 1 2 [3]]

example : createdIds St.init demoRedeploy = [1, 2] ∧ abandoned St.init demoRedeploy = 1 ∧
    (published St.init demoRedeploy).map (fun s => (s.id, s.opEntries.map (fun e => (e.op, e.tag)), s.splitStates))
      = [(2, [(1, 7), (2, 8)], [3])] := by decide

example : ∃ s c, Reachable s ∧ badAck s c ∧ (∀ p, s.pending = some p → p.ops ≠ [] ∨ p.srs ≠ []) ∧ s.pending.isSome := by
  -- checkpoint 1 is pending, runner 1 has acknowledged it, operator 1 has not
  have hs : (finalState St.init [.create [1] [1], .srAck 1 1 [3]]).pending =
      some ⟨1, [(1, false)], [(1, true)], [], [(1, [3])], [3], false⟩ := rfl
  refine ⟨finalState St.init [.create [1] [1], .srAck 1 1 [3]], .srAck 1 1 [3], ⟨St.init, _, rfl, rfl⟩,
    fun p hp => ?_, fun p hp => ?_, by rw [hs]; rfl⟩
  · rw [hs] at hp; cases hp; exact .inr (by decide)
  · rw [hs] at hp; cases hp; exact .inl (by decide)

end Rxn.C12
