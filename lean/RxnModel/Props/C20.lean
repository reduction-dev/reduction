import RxnModel.Generated.Facts
import RxnModel.Proofs.Batcher
import RxnModel.Proofs.Reorder
import RxnModel.Proofs.ReorderTerm
/-!
# C20 — batching never loses, duplicates or reorders items

Models: `Model/Batcher.lean` (`batching.EventBatcher` + `clocks.Timer`),
`Model/Reorder.lean` (`batching.ReorderFetcher` + `ReorderBuffer` as a transition system whose actions are the
mutex sections of the code; the schedule `as` is universally quantified, so the theorems hold for every
interleaving of the producer, the timeout goroutine, the timer callbacks and the fetch goroutines and for
every completion order of the fetches). The model is the code after the repair of D17 (`flushMu`).
-/
namespace Rxn.C20
open Rxn

/-- the batches handed out, concatenated, followed by the current batch, are exactly the items added:
nothing lost, duplicated or reordered, for every history of Add / IsFull / Flush(any token) / timer expiry -/
theorem batcher_concat {α : Type} (maxSize : Nat) (hasDelay : Bool) (ops : List (Batcher.Op α)) :
    (Batcher.run (Batcher.new maxSize hasDelay) ops).2.flatten
      ++ (Batcher.run (Batcher.new maxSize hasDelay) ops).1.batch = Batcher.added ops := by
  simpa [Batcher.new] using Batcher.run_concat ops (Batcher.new maxSize hasDelay)

example : (Batcher.run (Batcher.new 2 true) [.add 1, .fire, .add 2, .flush (.tok 0), .add (3 : Nat), .flush (.tok 0)]).2
    = [[], [], [], [1, 2], [], []] := by decide

/-- a time-out token of another batch flushes nothing and changes nothing -/
theorem stale_token_noop {α : Type} (s : Batcher.St α) (n : Nat) (h : n ≠ s.token) :
    Batcher.flush s (.tok n) = (s, []) :=
  Batcher.flush_of_not_flushes s (.tok n) <| by
    simp only [Batcher.flushes, Bool.and_eq_false_iff, beq_eq_false_iff_ne]
    exact .inr h.symm

/-- the token of a batch that has been handed out is never current again: whatever happens afterwards (any further
history `ops`), presenting that token flushes nothing — the "already flushed batch" clause end to end -/
theorem flushed_token_never_flushes_again {α : Type} (s : Batcher.St α) (t : Batcher.Tok) (ops : List (Batcher.Op α))
    (hflushed : (Batcher.flush s t).2 ≠ []) :
    let s' := (Batcher.run (Batcher.flush s t).1 ops).1
    Batcher.flush s' (.tok s.token) = (s', []) := by
  intro s'
  apply stale_token_noop
  have h1 := Batcher.flush_token_succ s t hflushed
  have h2 := Batcher.run_token_mono ops (Batcher.flush s t).1
  show s.token ≠ (Batcher.run (Batcher.flush s t).1 ops).1.token
  omega

/-- **the atomicity the models assume is the code's lock structure** (regenerated from the source on every run, hard
obligation): every exported `EventBatcher` method is `b.mu.Lock(); defer b.mu.Unlock()` around its whole body;
`ReorderBuffer.Add` likewise and `Drain` holds `b.mu` for its whole loop; in `ReorderFetcher.flush`, `batcher.Flush`
and `buffer.Reserve` lie inside one `flushMu` critical section and neither `Reserve` nor the fetcher's `batcher.Flush`
is called anywhere else in the package (so `flushA` is the only action that takes a batch); methods of `EventBatcher`
that touch `b.batch`/`b.batchToken` are covered whether exported or not, in every non-test file of the package (an access
to these fields from a function with another receiver, or to the buffer's fields from a `ReorderBuffer` method other than
`Add`/`Drain`, is not looked for). These are the
actions `Batcher.step`, `fetchDone`, `drainStart…drainNext`, and `lock; flushA; flushB` of `Reorder.step`. -/
theorem lock_shape :
    Facts.c20BatcherMethodsLocked = 1 ∧ Facts.c20BufferAddDrainLocked = 1 ∧ Facts.c20ReserveUnderFlushMu = 1 := by decide

/-- in every reachable state the armed timer carries the token of the current, non-empty batch (so its expiry
flushes exactly that batch), and a callback that raced with `Stop` never carries a future token -/
theorem timer_token_current {α : Type} (maxSize : Nat) (hasDelay : Bool) (ops : List (Batcher.Op α)) :
    let s := (Batcher.run (Batcher.new maxSize hasDelay) ops).1
    (∀ k, Batcher.fire s = some k → k = s.token ∧ (Batcher.flush s (.tok k)).2 = s.batch ∧ s.batch ≠ []) ∧
    (∀ k, Batcher.stale s = some k → k ≤ s.token) := by
  intro s
  have h := Batcher.timerInv_run ops (Batcher.new maxSize hasDelay) (Batcher.timerInv_new maxSize hasDelay)
  exact ⟨fun k hk => h.fire_flushes hk, h.2⟩

example : Batcher.fire (Batcher.run (Batcher.new 3 true) [.add (7 : Nat), .flush .cur, .add 8]).1 = some 1 := by decide

open Reorder

/-- **one output per input, in input order, for every schedule, every fetch outcome and every consumer speed**:
the reserved batches are numbered in reservation order; together with the batch held by a flusher inside its critical
section and the current batch they concatenate to exactly the items added; and what the consumer has received,
followed by the contents of the `Output` channel and what the draining goroutine still has to send, is exactly the
fetch results of the first `drainedSeq` batches (a failed fetch contributing nothing) -/
theorem reorder_in_order {α ρ : Type} (f : List α → List ρ) (fails : Nat → Bool) (maxSize : Nat) (hasDelay : Bool)
    (bufferSize : Nat) (as : List (Act α)) (r : Run α ρ)
    (hrun : exec f fails true { st := init maxSize hasDelay bufferSize } as = some r) :
    ∃ batches : List (Nat × List α),
      (∀ (k : Nat) (p : Nat × List α), batches[k]? = some p → p.1 = k) ∧
      (batches.map Prod.snd).flatten ++ held r.st.pp ++ held r.st.tp ++ r.st.b.batch = inputs as ∧
      r.out ++ r.st.outq ++ cur r.st.drainer = ((batches.take r.st.drainedSeq).map (resultOf f fails)).flatten := by
  obtain ⟨⟨hist, h⟩, _⟩ := inv_ctl_of_exec_init hrun
  refine ⟨hist, h.buf.seqs, ?_, h.buf.out⟩
  rw [← h.ins, exec_ins f fails true as _ r hrun]; rfl

/-- the consumer-visible sequence is always a prefix of the results of a list of numbered batches that, followed by what the
flushers and the batcher hold, divides the inputs: nothing is duplicated, reordered or invented, however slowly `Output` is read and whichever fetches fail. (That
the list is the reserved batches with their numbers in reservation order is `reorder_in_order`'s `p.1 = k`; the
conclusion here does not repeat it, so by itself it lets `fails` be consulted at any numbers.) -/
theorem reorder_prefix {α ρ : Type} (f : List α → List ρ) (fails : Nat → Bool) (maxSize : Nat) (hasDelay : Bool)
    (bufferSize : Nat) (as : List (Act α)) (r : Run α ρ)
    (hrun : exec f fails true { st := init maxSize hasDelay bufferSize } as = some r) :
    ∃ (batches : List (Nat × List α)) (rest : List ρ),
      (batches.map Prod.snd).flatten ++ held r.st.pp ++ held r.st.tp ++ r.st.b.batch = inputs as ∧
      r.out ++ rest = (batches.map (resultOf f fails)).flatten := by
  obtain ⟨bs, _, h1, h2⟩ := reorder_in_order f fails maxSize hasDelay bufferSize as r hrun
  refine ⟨bs, r.st.outq ++ cur r.st.drainer ++ ((bs.drop r.st.drainedSeq).map (resultOf f fails)).flatten, h1, ?_⟩
  rw [← List.append_assoc, ← List.append_assoc, h2, ← List.flatten_append, ← List.map_append, List.take_append_drop]

/-- without fetch errors and with a fetch function that answers item by item (as `KeyEventBatch` does) the consumer
sees a prefix of the mapped input sequence -/
theorem reorder_prefix_no_errors {α ρ : Type} (g : α → ρ) (maxSize : Nat) (hasDelay : Bool) (bufferSize : Nat)
    (as : List (Act α)) (r : Run α ρ)
    (hrun : exec (List.map g) (fun _ => false) true { st := init maxSize hasDelay bufferSize } as = some r) :
    ∃ rest, r.out ++ rest = (inputs as).map g := by
  obtain ⟨bs, rest, h1, h2⟩ := reorder_prefix (List.map g) (fun _ => false) maxSize hasDelay bufferSize as r hrun
  refine ⟨rest ++ (held r.st.pp ++ held r.st.tp ++ r.st.b.batch).map g, ?_⟩
  rw [← List.append_assoc, h2, results_no_errors, ← h1]
  simp only [List.map_append, List.append_assoc]

/-- **a failed fetch contributes no results but does not block or reorder later batches**: when everything has come
to rest (flushers idle, batch empty, no fetch goroutine alive, `Output` read empty) the consumer has received exactly
the results of all batches in order, the failed ones contributing nothing. (As in `reorder_prefix`, the conclusion
does not say that `batches` carries the reservation numbers: by itself it does not fix which batches count as failed.) -/
theorem reorder_complete {α ρ : Type} (f : List α → List ρ) (fails : Nat → Bool) (maxSize : Nat) (hasDelay : Bool)
    (bufferSize : Nat) (as : List (Act α)) (r : Run α ρ)
    (hrun : exec f fails true { st := init maxSize hasDelay bufferSize } as = some r)
    (hq : quiescent r.st) :
    ∃ batches : List (Nat × List α),
      (batches.map Prod.snd).flatten = inputs as ∧ r.out = (batches.map (resultOf f fails)).flatten := by
  obtain ⟨⟨hist, h⟩, _⟩ := inv_ctl_of_exec_init hrun
  obtain ⟨h1, h2⟩ := h.complete hq
  exact ⟨hist, by rw [h1, exec_ins f fails true as _ r hrun]; rfl, h2⟩

/-- …in particular without fetch errors: exactly one result per input, in input order -/
theorem reorder_complete_no_errors {α ρ : Type} (g : α → ρ) (maxSize : Nat) (hasDelay : Bool) (bufferSize : Nat)
    (as : List (Act α)) (r : Run α ρ)
    (hrun : exec (List.map g) (fun _ => false) true { st := init maxSize hasDelay bufferSize } as = some r)
    (hq : quiescent r.st) : r.out = (inputs as).map g := by
  obtain ⟨bs, h1, h2⟩ := reorder_complete (List.map g) (fun _ => false) maxSize hasDelay bufferSize as r hrun hq
  rw [h2, results_no_errors, h1]

/-- **no wedge**: while some reserved batch has not been dequeued by the drain yet, one of the fetcher's own
goroutines or the consumer can take a step — whatever the fetch outcomes were. (A failed fetch still hands its
sequence number to the buffer; if it did not, the drain would wait for it forever and `Reserve` would eventually
block inside the critical section.) -/
theorem reorder_progress {α ρ : Type} (f : List α → List ρ) (fails : Nat → Bool) (maxSize : Nat) (hasDelay : Bool)
    (bufferSize : Nat) (as : List (Act α)) (r : Run α ρ)
    (hrun : exec f fails true { st := init maxSize hasDelay bufferSize } as = some r)
    (hpending : r.st.drainedSeq < r.st.nextSeq) :
    ∃ a : Act α, (a = .drainStart ∨ a = .drainNext ∨ a = .send ∨ a = .recv ∨ a = .fetchErr r.st.drainedSeq ∨
        a = .fetchDone r.st.drainedSeq) ∧
      (step f fails true r.st a).isSome = true := by
  obtain ⟨⟨hist, h⟩, _⟩ := inv_ctl_of_exec_init hrun
  exact h.buf_progress hpending

/-- the actions the fetcher's own goroutines and the consumer take without new input: everything except `pAdd`, timer
expiries and `tmoRecv`; the producer's explicit `Flush` only while there is something to flush (`Reorder.internalAct`) -/
abbrev internal {α ρ : Type} (s : St α ρ) (a : Act α) : Bool := internalAct s a

/-- **no deadlock anywhere**: in every reachable state that is not at rest, one of those actions is enabled — a flusher
waiting for the mutex or for a free slot, a fetch goroutine waiting for the buffer mutex, a sender blocked on a full
`Output`: each of them is waiting for something that can move. (With `reorder_complete`: a run can only stop making
internal progress in a state where every input has come out, in order.) -/
theorem reorder_internal_progress {α ρ : Type} (f : List α → List ρ) (fails : Nat → Bool) (maxSize : Nat) (hasDelay : Bool)
    (bufferSize : Nat) (as : List (Act α)) (r : Run α ρ)
    (hrun : exec f fails true { st := init maxSize hasDelay bufferSize } as = some r)
    (hnq : ¬ quiescent r.st) :
    ∃ a : Act α, internal r.st a = true ∧ (step f fails true r.st a).isSome = true := by
  obtain ⟨⟨hist, h⟩, hc⟩ := inv_ctl_of_exec_init hrun
  exact h.progress hc hnq

/-- **a run can only stop in a complete state**: if in a reachable state none of the fetcher's own actions and no consumer
read is possible any more, then every input has come out: the consumer has received exactly the results of all batches,
in order (failed ones contributing nothing; the numbering of `batches` is left open as in `reorder_complete`). Together
with `reorder_internal_progress` this is completeness without the `quiescent` hypothesis. -/
theorem reorder_stuck_is_complete {α ρ : Type} (f : List α → List ρ) (fails : Nat → Bool) (maxSize : Nat) (hasDelay : Bool)
    (bufferSize : Nat) (as : List (Act α)) (r : Run α ρ)
    (hrun : exec f fails true { st := init maxSize hasDelay bufferSize } as = some r)
    (hstuck : ∀ a : Act α, internal r.st a = true → step f fails true r.st a = none) :
    ∃ batches : List (Nat × List α),
      (batches.map Prod.snd).flatten = inputs as ∧ r.out = (batches.map (resultOf f fails)).flatten := by
  refine reorder_complete f fails maxSize hasDelay bufferSize as r hrun (Classical.byContradiction fun hq => ?_)
  obtain ⟨a, ha, he⟩ := reorder_internal_progress f fails maxSize hasDelay bufferSize as r hrun hq
  rw [hstuck a ha] at he
  cases he

/-- **termination**: from every reachable state there is a finite continuation `cs` that adds no input (`inputs cs = []`)
and brings the fetcher to rest. The proof builds `cs` from internal actions only (so without a timer expiry either), which
the statement does not record: `Inv.progress` gives an enabled internal action in every state that is not at rest, and
every internal action lowers the lexicographic measure `Reorder.mu` (`step_decreases`). `m` is the induction variable of
that argument, left in the statement; use it with `_ … rfl`. -/
theorem reorder_can_quiesce {α ρ : Type} (f : List α → List ρ) (fails : Nat → Bool) (maxSize : Nat) (hasDelay : Bool)
    (bufferSize : Nat) :
    ∀ (m : Nat × Nat × Nat × Nat × Nat × Nat) (as : List (Act α)) (r : Run α ρ), mu fails r.st = m →
      exec f fails true { st := init maxSize hasDelay bufferSize } as = some r →
      ∃ (cs : List (Act α)) (r' : Run α ρ), inputs cs = [] ∧ exec f fails true r cs = some r' ∧ quiescent r'.st := by
  intro _ as r _ hrun
  obtain ⟨⟨hist, h⟩, hc⟩ := inv_ctl_of_exec_init hrun
  exact can_quiesce f fails r hist h hc

/-- **one result per input, unconditionally**: every reachable state can be continued to a state in which the consumer
has received exactly the results of the inputs so far (`inputs as`), batch by batch in order (failed fetches contributing
nothing; numbering of `batches` left open as in `reorder_complete`). The continuation of the proof adds no input and ends
at rest; the statement says neither. `reorder_complete` without the `quiescent` hypothesis. -/
theorem reorder_eventually_complete {α ρ : Type} (f : List α → List ρ) (fails : Nat → Bool) (maxSize : Nat) (hasDelay : Bool)
    (bufferSize : Nat) (as : List (Act α)) (r : Run α ρ)
    (hrun : exec f fails true { st := init maxSize hasDelay bufferSize } as = some r) :
    ∃ (cs : List (Act α)) (r' : Run α ρ) (batches : List (Nat × List α)),
      exec f fails true r cs = some r' ∧
      (batches.map Prod.snd).flatten = inputs as ∧ r'.out = (batches.map (resultOf f fails)).flatten := by
  obtain ⟨cs, r', h0, h1, h2⟩ := reorder_can_quiesce f fails maxSize hasDelay bufferSize _ as r rfl hrun
  obtain ⟨bs, hb1, hb2⟩ := reorder_complete f fails maxSize hasDelay bufferSize (as ++ cs) r'
    (by rw [exec_append, hrun]; exact h1) h2
  exact ⟨cs, r', bs, h1, by rw [hb1, inputs_append, h0, List.append_nil], hb2⟩

/-- the reorder buffer never holds more than `cap` = max(1, `BufferSize`) reserved slots, `Output` never more than its
capacity, the two flushers are never both inside the critical section, and `reserved = nextSeq − drainedSeq`. (That the
numbers `Reserve` hands out follow flush order is in the invariant, `BufInv.len` / `infl`, and in no statement of this
file: `reorder_in_order`'s `p.1 = k` numbers its own witness list.) -/
theorem reorder_capacity {α ρ : Type} (f : List α → List ρ) (fails : Nat → Bool) (maxSize : Nat) (hasDelay : Bool)
    (bufferSize : Nat) (as : List (Act α)) (r : Run α ρ)
    (hrun : exec f fails true { st := init maxSize hasDelay bufferSize } as = some r) :
    r.st.reserved ≤ r.st.cap ∧ r.st.reserved = r.st.nextSeq - r.st.drainedSeq ∧ r.st.outq.length ≤ r.st.ocap ∧
    ¬ (r.st.pp.holds = true ∧ r.st.tp.holds = true) := by
  obtain ⟨⟨hist, h⟩, _⟩ := inv_ctl_of_exec_init hrun
  exact ⟨h.buf.capb, h.buf.hres, h.buf.ocapb, h.mutex⟩

/-! The stale-token clause (`stale_token_noop`, `flushed_token_never_flushes_again`) is about `EventBatcher.Flush(token)`.
`ReorderFetcher` does **not** use it: its timeout goroutine ignores the token it receives and flushes `CurrentBatch`
(`tmoRecv` then `flushA` with `.cur`), so a stale or spurious time-out hands out the *next* batch early. That only changes
where batch boundaries fall: `reorder_in_order`, `reorder_prefix`, `reorder_complete`, `reorder_capacity` quantify over every
schedule, including `stale`/`fire` at any moment, so order, no-loss and no-duplication are unaffected. Witness: -/

/-- an early flush by a time-out: batch `[1,2]` is flushed by size, then, with the next batch `[3]` half filled (batch
size 2), a callback delivers its token (action `stale`: the last callback set, stopped or not — here it is the armed
callback of `[3]` itself, token 1, and `fire` gives the same run; the fetcher never looks at the token) and the timeout
goroutine hands `[3]` out; the consumer still receives 1, 2, 3, 4 in order (the run ends with the drain still open, not at rest) -/
example :
    (exec id (fun _ => false) true ({ st := init 2 true 4 } : Run Nat Nat)
      [.pAdd 1, .pIsFull, .pAdd 2, .pIsFull, .lock .prod, .flushA .prod, .flushB .prod,
       .pAdd 3, .pIsFull, .stale, .tmoRecv, .lock .tmo, .flushA .tmo, .flushB .tmo,       -- the time-out flushes [3] early
       .pAdd 4, .pIsFull, .pFlush, .lock .prod, .flushA .prod, .flushB .prod,
       .fetchDone 2, .fetchDone 1, .fetchDone 0, .drainStart, .drainNext, .send, .send, .drainNext, .send, .drainNext, .send,
       .recv, .recv, .recv, .recv]).map (fun r => (r.out, r.st.nextSeq)) = some ([1, 2, 3, 4], 3) := by decide

/-- the schedule of the D17 witness: time-out flusher parked between `batcher.Flush` and `Reserve` -/
def d17Schedule : List (Act Nat) :=
  [.pAdd 1, .pIsFull, .fire, .tmoRecv, .lock .tmo, .flushA .tmo,
   .pAdd 2, .pIsFull, .pAdd 3, .pIsFull, .lock .prod, .flushA .prod, .flushB .prod, .flushB .tmo,
   .fetchDone 0, .drainStart, .drainNext, .send, .send, .drainNext,
   .fetchDone 1, .drainStart, .drainNext, .send, .drainNext, .recv, .recv, .recv]

/-- regression witness: without `flushMu` (the code before the repair) this schedule swaps two batches … -/
theorem d17_unrepaired_reorders :
    (exec id (fun _ => false) false ({ st := init 2 true 4 } : Run Nat Nat) d17Schedule).map (·.out) = some [2, 3, 1] := by
  decide

/-- … and with the mutex the schedule is rejected, not reordered (non-vacuity of the mutual-exclusion argument). The
statement says only that; by evaluation the step that is not enabled is the producer's `lock` (element 10, counting from 0). -/
theorem d17_repaired_blocks :
    (exec id (fun _ => false) true ({ st := init 2 true 4 } : Run Nat Nat) d17Schedule).map (·.out) = none := by
  decide

/-- non-vacuity: a complete run of the repaired model with batch size 1, `BufferSize` 1 (one reserved slot, `Output`
of capacity 1), the fetch of the middle batch failing, the time-out flusher taking the second batch so that the producer's
own flush finds nothing, and a result waiting in `Output` while the next batch is reserved ends quiescent with the
results of the other batches in order. With one slot at most one fetch is in flight, so the fetches complete in
sequence order, and no `send` is ever refused. -/
example :
    (exec id (fun q => q == 1) true ({ st := init 1 true 1 } : Run Nat Nat)
      [.pAdd 1, .pIsFull, .lock .prod, .flushA .prod, .flushB .prod,
       .pAdd 2, .pIsFull, .fire, .tmoRecv, .fetchDone 0, .drainStart, .drainNext, .send, .drainNext,
       .lock .tmo, .flushA .tmo, .flushB .tmo, .lock .prod, .flushA .prod, .flushB .prod, .recv,
       .fetchErr 1, .fetchDone 1, .drainStart, .drainNext, .drainNext,
       .pAdd 3, .pIsFull, .lock .prod, .flushA .prod, .flushB .prod, .fetchDone 2, .drainStart, .drainNext, .send,
       .drainNext, .recv]).map
        (fun r => (r.out, r.st.inflight.length, r.st.drainers, r.st.b.batch, r.st.errs)) = some ([1, 3], 0, 0, [], 1) := by
  decide

end Rxn.C20
