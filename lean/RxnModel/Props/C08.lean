import RxnModel.Proofs.CkptUser
import RxnModel.Generated.Facts
/-!
# C08 — a DKV checkpoint restores to exactly the state at the `Checkpoint` call

Model: `Model/Ckpt.lean`, the code after the repairs D27 (WAL `Rotate` keeps segment markers), D6 (`endSeqNum` = largest
sequence number of a table) and D28 (a restored instance numbers its table files above the tables of the checkpoint it was
opened from). Every action is one lock section without storage operations or ONE storage operation, so `crash` ranges
over the points between the storage operations of `CheckpointList.Save`, `UpdateRetainedCheckpoints` and the flush /
compaction tasks. `open` is an action like the others, so the histories `run {} as = some s` contain arbitrarily long
chains checkpoint → restore → write → checkpoint → restore. Reads are compared through `answer (Lsm.get ·)`: `answer`
forgets sequence numbers, since a restored instance renumbers replayed writes; that `Lsm.get` returns the latest write of
the whole history is the subject of C07.
-/
namespace Rxn.C08
open Rxn Rxn.Ckpt
open Rxn.Lsm (answer levelsGet)

/-- The statements of the source that the model's actions transcribe are where the model assumes them
(regenerated from `dkv/db.go`, `dkv/recovery/checkpoint_list.go`, `dkv/sst/table_writer.go`, `dkv/wal/writer.go` on
every run): WAL rotation and capture of the level list in one critical section; WAL saved before the document;
`After = LatestSeqNum`; a restored instance takes its sequence number from the loaded level list, continues table
numbering above the loaded tables (D28) and WAL numbering above the loaded WAL; the flush commit truncates the WAL
at `LatestSeqNum` inside the critical section of the level swap; `endSeqNum` is a maximum (D6); `Rotate` keeps
the segment markers (D27); `CheckpointList.Save` collects the document, writes the file and destroys the pending
WALs in one critical section of the list mutex, so overlapping saves (the asynchronous halves of consecutive
checkpoints, a retention update from the job) serialise and the model's `saveDoc` / `retain` are atomic steps;
`RetainOnly` keeps the listed ids and everything newer than them; `Add`, `RetainOnly` and `IncludesTable` touch the list
only under the same mutex. -/
theorem code_shape :
    Facts.c08CaptureUnderLock = 1 ∧ Facts.c08SaveWalThenDoc = 1 ∧ Facts.c08AfterIsLatest = 1 ∧
    Facts.c08StartSeqFromLevels = 1 ∧ Facts.c08StartSkipsTableIDs = 1 ∧ Facts.c08StartNextWALID = 1 ∧
    Facts.c08FlushTruncates = 1 ∧ Facts.c08EndSeqIsMax = 1 ∧ Facts.c08RotateKeepsMarks = 1 ∧
    Facts.c08SaveUnderListLock = 1 ∧ Facts.c08RetainKeepsNewer = 1 ∧
    Facts.c08AddUnderListLock = 1 ∧ Facts.c08RetainUnderListLock = 1 ∧ Facts.c08IncludesUnderListLock = 1 := by
  decide

theorem inv_step (s s' : State) (a : Act) (hi : Inv s) (h : step s a = some s') : Inv s' := Ckpt.inv_step s s' a hi h

theorem init_inv : Inv ({} : State) := Ckpt.init_inv

theorem inv_run (as : List Act) (s s' : State) (hi : Inv s) (h : run s as = some s') : Inv s' :=
  Ckpt.inv_run as s s' hi h

/-- **WAL covers everything unflushed.** After every history: every sequence number above `LatestSeqNum` (what the
level list is known to hold) that has been handed out is in the WAL (what a `Save` would write), the log has no
gaps, and a point read is answered by the last logged write newer than `LatestSeqNum`, else by the tables. -/
theorem wal_covers_unflushed (as : List Act) (s : State) (h : run {} as = some s) :
    (∀ n, s.latest < n → n ≤ s.db.seq → ∃ r ∈ s.wal.entries, r.seq = n) ∧
    (∃ f, Wal.Consecutive f s.wal.entries ∧ f ≤ s.latest + 1) ∧
    (∀ k, Lsm.get s.db k =
      match lastW none (s.wal.entries.filter (fun r => decide (s.latest < r.seq))) k with
      | some e => some e
      | none => levelsGet s.db.levels k) :=
  inv_covers (Ckpt.inv_run as {} s Ckpt.init_inv h)

/-- the reader on the saved WAL of a checkpoint: exactly the records above `after` -/
theorem walRead_spec (f : Nat) (es : List Wal.Rec) (after : Nat) (hc : Wal.Consecutive f es)
    (h1 : f ≤ after + 1) (h2 : after + 1 ≤ f + es.length) :
    walRead es after = some (es.filter (fun r => decide (after < r.seq))) :=
  walRead_consecutive f es after hc h1 h2

/-- restoring the record captured by `Checkpoint(id)` in a state satisfying the invariant -/
theorem restore_capture (s₁ : State) (hi : Inv s₁) (files : Files) (id : Nat) (rots : List Nat) :
    ∃ r, restore files (capture s₁ id) rots = some r ∧ Inv r ∧
      ∀ k, answer (Lsm.get r.db k) = answer (Lsm.get s₁.db k) :=
  Ckpt.restore_capture hi files id rots

/-- **Checkpoint restore.** For every history `as₁`, a `Checkpoint(id)` call, and every continuation `as₂` of the
original instance or of instances restored from it (writes, flushes, compactions, further checkpoints, retention
updates, crash, reopen …): if the checkpoint record is still retained and its handle was returned (`saveWal` and
`saveDoc` ran), then `dkv.Open` from the files succeeds, for every way the replay fills memtables (`rots`), and the
restored instance answers every point read exactly as the original did at the `Checkpoint` call: no write of
`as₁` is missing — including those only in memtables or in a flush in flight — and no write of `as₂` is visible.
The restored instance satisfies the invariants again, so the statement applies to it in turn (chains).

PARTIAL (defect D50, open): "still retained" (`hret`) means *listed by the running instance*. The full statement —
"every checkpoint whose handle the user holds and has not given up by a retention update restores" — is false for the
code as it is: an instance reopened from checkpoint N lists only N (`LoadCheckpointList` takes one entry of the
document), and its next save rewrites the `checkpoints` document without the older checkpoints the user still
retains (`d50_counterexample`). Excluded exactly: the handles the running instance does not list (`SpecSt.unlisted`: every other
handle the user held when the database was reopened from one of them); see `user_retained_restores_partial` for the
statement in terms of the user's handles and for which of them really fail (D50) or restore wrong contents (D67). -/
theorem checkpoint_restore_partial (as₁ as₂ : List Act) (id : Nat) (rots : List Nat) (s₁ s₂ s : State)
    (h1 : run {} as₁ = some s₁) (hc : step s₁ (.checkpoint id) = some s₂) (h2 : run s₂ as₂ = some s)
    (hret : capture s₁ id ∈ s.ckpts) (hdone : id ∈ s.done) :
    ∃ r, step s (.open id rots) = some r ∧ Inv r ∧ FInv r ∧
      ∀ k, answer (Lsm.get r.db k) = answer (Lsm.get s₁.db k) :=
  open_of_listed (finv_after h1 hc h2) (Ckpt.inv_run as₁ {} s₁ Ckpt.init_inv h1) hret hdone rots

/-- **Restore is stable**, spelled out for a crash: whatever happened after the checkpoint, and after the process
is gone, the files still restore the state of the `Checkpoint` call.

PARTIAL as `checkpoint_restore_partial` (`hret`: listed by the running instance). -/
theorem restore_stable_partial (as₁ as₂ : List Act) (id : Nat) (rots : List Nat) (s₁ s₂ s sc : State)
    (h1 : run {} as₁ = some s₁) (hc : step s₁ (.checkpoint id) = some s₂) (h2 : run s₂ as₂ = some s)
    (hcr : step s .crash = some sc) (hret : capture s₁ id ∈ s.ckpts) (hdone : id ∈ s.done) :
    ∃ r, step sc (.open id rots) = some r ∧ ∀ k, answer (Lsm.get r.db k) = answer (Lsm.get s₁.db k) := by
  -- the crash is one more step, and changes nothing `open` looks at
  have hsc : sc = { s with alive := false } := step_crash hcr
  obtain ⟨r, hr, _, _, hg⟩ := open_of_listed (s := sc) (finv_step s sc _ (finv_after h1 hc h2) hcr)
    (Ckpt.inv_run as₁ {} s₁ Ckpt.init_inv h1) (by rw [hsc]; exact hret) (by rw [hsc]; exact hdone) rots
  exact ⟨r, hr, hg⟩

/-- **Files of retained checkpoints stay intact.** After every history, the document entry, every table file and
the WAL file of a retained checkpoint whose handle was returned load back as exactly the record in memory: no
later flush, compaction, checkpoint, retention update or restored instance overwrote or deleted any of them
(table files and WAL files are never reused — D28).

PARTIAL (defect D50, open): `c ∈ s.ckpts` is the list of the running instance; the checkpoints a reopened instance did
not load are not covered (their document entry is dropped by its next save, `d50_counterexample`). -/
theorem retained_files_intact_partial (as : List Act) (s : State) (h : run {} as = some s) (c : Ckpt)
    (hc : c ∈ s.ckpts) (hd : c.id ∈ s.done) :
    loadCkpt s.files c.id = some c ∧
    (∀ t ∈ c.levels.flatten, t.id < s.db.nextId ∧ assoc s.files.tables t.id = some t.run) ∧
    assoc s.files.wals c.walId = some c.recs ∧ c.walId < s.wal.id := by
  have hf := finv_run as {} s finv_init h
  exact ⟨load_of_done s hf c hc hd, hf.ck c hc, (hf.dn c hc hd).1, hf.wltc c hc⟩

/-- **The WAL file a checkpoint saves is the log as it was at the `Checkpoint` call** — whatever happens between the
call and the asynchronous save (`as₂`: flush commits that truncate the live log, memtable rotations, further writes,
further checkpoints, other saves), as long as the record is still listed when the save runs (`hret`). In the model the
record and its save task carry the records of the writer sealed by the call (`capture`); that the code's sealed writer
keeps them is C17's (`Wal.sealed_writer_immutable`). The saved bytes are `Wal.encRecs` of these records, which is
`Wal.Writer.save` of the sealed writer by definition (second conjunct). -/
theorem saved_wal_is_log_at_checkpoint (as₁ as₂ : List Act) (id : Nat) (s₁ s₂ s s' : State)
    (h1 : run {} as₁ = some s₁) (hc : step s₁ (.checkpoint id) = some s₂) (h2 : run s₂ as₂ = some s)
    (hret : capture s₁ id ∈ s.ckpts) (hsave : step s (.saveWal id) = some s') :
    assoc s'.files.wals s₁.wal.id = some s₁.wal.entries ∧
    Wal.encRecs s₁.wal.entries = s₁.wal.save :=
  ⟨saveWal_file (finv_after h1 hc h2) hret hsave, rfl⟩

/-- **A restored instance accepts writes normally**: the database, log and files of every reachable state — in
particular right after `open` and anywhere along a chain of restores — taken as a running instance with nothing left to
replay (`alive := true, replaying := []`: the guard of `step` refuses a write to a crashed or replaying instance) admit a
`Put`/`Delete`, which is visible to the next read of its key and changes no other key. -/
theorem restore_accepts_writes (as : List Act) (s : State) (h : run {} as = some s)
    (del : Bool) (k v : Bytes) (rot : Bool) :
    ∃ s', step { s with alive := true, replaying := [] } (.write del k v rot) = some s' ∧
      ∀ k', answer (Lsm.get s'.db k') =
        if k = k' then (if del then none else some v) else answer (Lsm.get s.db k') := by
  have hi := Ckpt.inv_run as {} s Ckpt.init_inv h
  have hi' : Inv { s with alive := true, replaying := [] } := hi.congr rfl rfl rfl
  obtain ⟨s', hs'⟩ := write_enabled hi' del k v rot
  have hreads := write_reads hs'
  exact ⟨s', step_write.mpr ⟨rfl, rfl, hs'⟩, hreads⟩

/-! `runSpec` runs a history together with the map a user expects (`SpecSt.m`): every write is applied to it, a
`Checkpoint(id)` call records it for `id`, and `open id` resets it to the map recorded for `id` — "the contents at the
instant `Checkpoint` was called". Instances are only opened from completed handles of checkpoints the running instance
lists (`guardOk`). -/

/-- **Every point read follows the specification along every history of `runSpec`, restores and chains of restores
included**: right after `open id` the database contains exactly the writes made before the `Checkpoint(id)` call (none
missing, no later one visible), afterwards those plus the writes of the restored instance, whatever flushes,
compactions, checkpoints, retention updates and crashes happen in between — in every state with nothing left to replay
(`hrep`; between `openBegin` and the last `replayOne` the database lags behind the map).

PARTIAL (D50/D67): `runSpec` only contains restores from checkpoints the running instance lists and whose handle was
returned (`guardOk` = `retainedDone`); a restore from any other handle the user holds (`SpecSt.unlisted`) is not a
history of `runSpec`, although the code accepts it. -/
theorem restore_is_spec_partial (as : List Act) (s : State) (sp : SpecSt) (h : runSpec {} {} as = some (s, sp))
    (hrep : s.replaying = []) (k : Bytes) :
    answer (Lsm.get s.db k) = answer (Lsm.Spec.get sp.m k) :=
  holds_get (holds_run h hrep) k

/-- **Every prefix scan follows the specification** in the same sense (same `hrep`): ascending keys, each live key of the expected
map with the prefix exactly once with its expected value, nothing else.

PARTIAL as `restore_is_spec_partial` (histories of `runSpec`). -/
theorem restore_scan_is_spec_partial (as : List Act) (s : State) (sp : SpecSt) (h : runSpec {} {} as = some (s, sp))
    (hrep : s.replaying = []) (p : Bytes) :
    ((Lsm.scan s.db p).map (fun e => (e.key, e.val))).Pairwise (fun a b => Bytes.lt a.1 b.1 = true) ∧
    ∀ k v, (k, v) ∈ (Lsm.scan s.db p).map (fun e => (e.key, e.val)) ↔
      (answer (Lsm.Spec.get sp.m k) = some v ∧ Bytes.hasPrefix k p = true) :=
  holds_scan (holds_run h hrep) p

/-- **The replay loop of `DB.Start` is not atomic**: `openBegin id` followed by one `replayOne` per WAL record, with
flush begins / commits, compaction commits and written-but-uncommitted table files (`orphan`) at any point in between
(the tasks the replay itself starts), reaches — once nothing is left to replay — a state whose every point read equals
the expected map `sp.m`: `stepSpec` sets it to the map recorded at `Checkpoint(id)` at the `openBegin`, and only a write,
which is `blocked` until the replay is done, or another restore changes it. `bg` is any continuation that `runSpec` accepts, so this is
`restore_is_spec_partial` for histories containing these actions, spelled out. A crash in the middle of the replay
leaves the files of the checkpoint intact (`checkpoint_restore_partial` quantifies over such histories), so the restore
can simply be repeated.

PARTIAL as `restore_is_spec_partial` (histories of `runSpec`). -/
theorem interleaved_replay_is_spec_partial (as bg : List Act) (id : Nat) (s₀ s : State) (sp₀ sp : SpecSt)
    (h0 : runSpec {} {} as = some (s₀, sp₀))
    (h : runSpec s₀ sp₀ (.openBegin id :: bg) = some (s, sp)) (hrep : s.replaying = [])
    (k : Bytes) :
    answer (Lsm.get s.db k) = answer (Lsm.Spec.get sp.m k) := by
  have hall : runSpec {} {} (as ++ (.openBegin id :: bg)) = some (s, sp) := by rw [runSpec_append, h0]; exact h
  exact restore_is_spec_partial _ s sp hall hrep k

/-- the replay of a live instance (`halive`) can always make its next step: no background commit in between disables it -/
theorem replay_never_stuck (as : List Act) (s : State) (h : run {} as = some s) (halive : s.alive = true)
    (r : Wal.Rec) (rs : List Wal.Rec) (hr : s.replaying = r :: rs) (rot : Bool) :
    ∃ s', step s (.replayOne rot) = some s' ∧ s'.replaying = rs := by
  obtain ⟨s1, h1⟩ := write_enabled (Ckpt.inv_run as {} s Ckpt.init_inv h) r.del r.key r.val rot
  exact ⟨{ s1 with replaying := rs }, step_replayOne.mpr ⟨halive, r, rs, s1, hr, h1, rfl⟩, rfl⟩

/-- The statement of the property in one line: history `as₁`, `Checkpoint(id)`, anything afterwards (`as₂`, without
reusing the id), restore from `id`: the expected map of the restored instance is the expected map at the call.

PARTIAL as `restore_is_spec_partial` (histories of `runSpec`). -/
theorem checkpoint_restore_spec_partial (as₁ as₂ : List Act) (id : Nat) (rots : List Nat) (s₁ r : State) (sp₁ spr : SpecSt)
    (h1 : runSpec {} {} as₁ = some (s₁, sp₁))
    (h : runSpec {} {} (as₁ ++ (.checkpoint id :: as₂ ++ [.open id rots])) = some (r, spr))
    (hno : ∀ a ∈ as₂, a = Act.checkpoint id → False) :
    spr.m = sp₁.m ∧ ∀ k, answer (Lsm.get r.db k) = answer (Lsm.Spec.get sp₁.m k) := by
  have hm : spr.m = sp₁.m ∧ r.replaying = [] := by
    rw [runSpec_append, h1, List.cons_append] at h
    obtain ⟨_, s₂, _, h⟩ := runSpec_cons.mp h
    rw [runSpec_append] at h
    obtain ⟨⟨s₃, sp₃⟩, h2, h⟩ := Option.bind_eq_some_iff.mp h
    obtain ⟨_, r', hst3, h⟩ := runSpec_cons.mp h
    cases Option.some.inj h
    obtain ⟨c, _, hr⟩ := step_open.mp hst3
    -- the map recorded at the call is still the one recorded for `id` when the restore happens
    refine ⟨?_, (restore_ckpts_replaying hr).2⟩
    show specAt sp₃.saved id = sp₁.m
    rw [saved_keep id as₂ s₂ s₃ _ sp₃ hno h2]
    exact specAt_cons_eq _ _ _
  exact ⟨hm.1, fun k => by rw [← hm.1]; exact restore_is_spec_partial _ r spr h hm.2 k⟩

/-- **Every handle the user holds that the running instance lists restores the map at its `Checkpoint` call.**
FULL STATEMENT (false for the code as it is): the same for every `id ∈ sp.handles`, without `hl`. EXCLUDED EXACTLY: the
handles in `sp.unlisted` — every other handle the user held at any reopen of the database from one of them
(`LoadCheckpointList` loads one entry of the document). Among those the code really fails for
* `sp.lost` (D50, `d50_counterexample`): once the reopened instance has written the `checkpoints` document, their entries
  are gone and `Open` panics;
* `sp.over` (D67, `d67_counterexample`): handles NEWER than the opened checkpoint — the reopened instance numbers its table
  and WAL files above the opened checkpoint's only and overwrites theirs: `Open` succeeds with wrong contents.
Unlisted handles outside these two situations (before the reopened instance's first document write; older handles whose
files are untouched; reopens into a fresh directory) do restore in the code and are compared by the harness (`peek`), but
are not covered by a theorem. -/
theorem user_retained_restores_partial (as : List Act) (s : State) (sp : SpecSt)
    (h : runSpec {} {} as = some (s, sp)) (id : Nat) (rots : List Nat) (hid : id ∈ sp.handles)
    (hl : id ∉ sp.unlisted) :
    ∃ r, step s (.open id rots) = some r ∧
      ∀ k, answer (Lsm.get r.db k) = answer (Lsm.Spec.get (specAt sp.saved id) k) :=
  open_of_retained s sp (sinv_run as s sp h) id rots (uinv_run as s sp h id hid hl)

/-- the D50 history: checkpoints 1 and 2 completed, both retained, restart from 2, checkpoint 3 completed -/
def histD50 : List Act :=
  [.write false [97] [1] false, .checkpoint 1, .saveWal 1, .saveDoc 1,
   .write false [98] [2] false, .checkpoint 2, .saveWal 2, .saveDoc 2, .retain [1, 2], .saveList,
   .crash, .open 2 [], .write false [99] [3] false, .checkpoint 3, .saveWal 3, .saveDoc 3]

/-- **D50 (open).** After that history the user still holds handle 1 (no retention update gave it up), but the
`checkpoints` document no longer has its entry: `open 1` is impossible, while 2 and 3 restore. Right after the
restart, before the reopened instance saved anything, handle 1 still restored. -/
theorem d50_counterexample :
    (do let (s, sp) ← runSpec {} {} histD50
        pure (sp.handles, sp.unlisted, sp.lost, (step s (.open 1 [])).isSome, (step s (.open 2 [])).isSome,
              (step s (.open 3 [])).isSome)) = some ([3, 2, 1], [1], [1], false, true, true) ∧
    (do let (s, sp) ← runSpec {} {} (histD50.take 12)
        let r ← step s (.open 1 [])
        pure (sp.handles, sp.unlisted, sp.lost, answer (Lsm.get r.db [97]), answer (Lsm.get r.db [98])))
      = some ([2, 1], [1], [], some [1], none) := by
  constructor
  · rfl
  · rfl

/-- the D67 history: checkpoint 1 with nothing flushed, a flush, checkpoint 2 (references table 0), both retained;
restart from the OLDER checkpoint 1 in the same directory, a write and a flush -/
def histD67 : List Act :=
  [.write false [97] [1] false, .checkpoint 1, .saveWal 1, .saveDoc 1,
   .write false [98] [2] true, .flushBegin 1, .flushCommit, .checkpoint 2, .saveWal 2, .saveDoc 2,
   .retain [1, 2], .saveList, .crash, .open 1 [],
   .write false [99] [3] true, .flushBegin 1, .flushCommit]

/-- **D67 (open).** After that history the user still holds handle 2 (`over`: newer than the checkpoint the database
was reopened from). The reopened instance numbered its first table 0 — above the tables of checkpoint 1, of which
there are none — and overwrote the table of checkpoint 2: `open 2` succeeds and returns the write made after the
restart (`c`) instead of the one made before checkpoint 2 (`b`), while the expected map has `b` and not `c`. -/
theorem d67_counterexample :
    (do let (s, sp) ← runSpec {} {} histD67
        let r ← step s (.open 2 [])
        pure (sp.handles, sp.over, sp.lost, answer (Lsm.get r.db [98]), answer (Lsm.get r.db [99]),
              answer (Lsm.Spec.get (specAt sp.saved 2) [98]), answer (Lsm.Spec.get (specAt sp.saved 2) [99])))
      = some ([2, 1], [2], [], none, some [3], some [2], none) := by
  rfl

/-- put k=1 (memtable rotates), flush, checkpoint 1 completed -/
def hist₁ : List Act :=
  [.write false [107] [1] true, .flushBegin 1, .flushCommit, .checkpoint 1, .saveWal 1, .saveDoc 1]

/-- on the restored instance: put z=2 (memtable rotates), flush -/
def hist₂ : List Act := [.write false [122] [2] true, .flushBegin 1, .flushCommit]

/-- With the table numbering of the unrepaired code (`restoreD28`: a restored instance starts at `000000.sst`)
the first flush of the restored instance overwrites the table of the retained checkpoint: restoring the same
checkpoint again loses `k`. With the repaired numbering the second restore still returns it. -/
theorem d28_counterexample :
    (do let s ← run {} hist₁
        let c ← loadCkpt s.files 1
        let r ← restoreD28 s.files c []
        let r' ← run r hist₂
        let c' ← loadCkpt r'.files 1
        pure (answer (Lsm.get (restoreBase r'.files c').db [107]))) = some none ∧
    (do let s ← run {} hist₁
        let r' ← run s (.crash :: .open 1 [] :: hist₂)
        let c' ← loadCkpt r'.files 1
        pure (answer (Lsm.get (restoreBase r'.files c').db [107]))) = some (some [1]) := by
  decide

/-- non-vacuity of `checkpoint_restore_partial`: a checkpoint taken while a flush is in flight and with a newer write only
in the active memtable, later writes, the flush committing after the capture, then crash and restore -/
example :
    (do let s₁ ← run {} [.write false [107] [1] true, .flushBegin 1, .write false [108] [2] false]
        let s₂ ← step s₁ (.checkpoint 1)
        let s ← run s₂ [.write false [107] [9] false, .flushCommit, .saveWal 1, .write true [108] [] false, .saveDoc 1]
        let r ← run s [.crash, .open 1 []]
        pure (s.done, s.ckpts.map (·.id), answer (Lsm.get r.db [107]), answer (Lsm.get r.db [108]),
              answer (Lsm.get s.db [107]), answer (Lsm.get s.db [108])))
      = some ([1], [1], some [1], some [2], some [9], none) := by
  rfl

/-- non-vacuity of the specification-level theorems: the same history through `runSpec`, restored instance and
expected map agree on the state of the `Checkpoint` call -/
example :
    (do let (s, sp) ← runSpec {} {} [.write false [107] [1] true, .flushBegin 1, .write false [108] [2] false,
          .checkpoint 1, .write false [107] [9] false, .flushCommit, .saveWal 1, .write true [108] [] false,
          .saveDoc 1, .crash, .open 1 []]
        pure (answer (Lsm.get s.db [107]), answer (Lsm.Spec.get sp.m [107]), answer (Lsm.get s.db [108]),
              answer (Lsm.Spec.get sp.m [108])))
      = some (some [1], some [1], some [2], some [2]) := by
  rfl

/-- non-vacuity of the non-atomic replay: two unflushed writes in the checkpoint's WAL; the restore replays the first
(the memtable rotates), the flush task it started begins and commits, the process crashes, the restore starts again,
a flush commits between the two replayed records; the result is the map at the call -/
example :
    (do let (s, sp) ← runSpec {} {} [.write false [107] [1] false, .write false [108] [2] false, .checkpoint 1,
          .write false [107] [9] false, .saveWal 1, .saveDoc 1, .crash,
          .openBegin 1, .replayOne true, .flushBegin 1, .flushCommit, .crash,
          .openBegin 1, .replayOne true, .flushBegin 1, .orphan 7 [], .flushCommit, .replayOne false]
        pure (s.replaying.length, (s.db.levels.headD []).length, answer (Lsm.get s.db [107]),
              answer (Lsm.get s.db [108]), answer (Lsm.Spec.get sp.m [107])))
      = some (0, 1, some [1], some [2], some [1]) := by
  rfl

end Rxn.C08
