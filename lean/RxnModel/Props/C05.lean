import RxnModel.Proofs.KeySpace
import RxnModel.Proofs.Assembly
/-!
# C05 — key routing agrees with state ownership for every configuration

Models: `Model/KeySpace.lean`, `Model/Murmur.lean` (constants and schema bytes come from `Generated/Facts.lean`, regenerated
from /repo on every run), `Model/Assembly.lean` (registry, `Assembly.Deploy`, what a source runner and an operator build from
the request they are sent).
-/
namespace Rxn.C05
open Rxn KeySpace

/-- ranges are contiguous, start at 0 and end at the key-group count: a partition of `[0, kgc)` -/
theorem ranges_partition (kgc n : Nat) (hn : 0 < n) :
    (ranges kgc n).length = n ∧
    (∀ i, i < n → (ranges kgc n)[i]? = some ⟨startOf kgc n i, startOf kgc n (i + 1)⟩) ∧
    startOf kgc n 0 = 0 ∧ startOf kgc n n = kgc ∧
    (∀ i j, i ≤ j → startOf kgc n i ≤ startOf kgc n j) :=
  ⟨ranges_length kgc n, fun i hi => ranges_get kgc n i hi, startOf_zero kgc n, startOf_n kgc n hn,
   fun _ _ h => startOf_mono kgc n h⟩

/-- the sizes of two ranges of a layout (range `i` is `[startOf i, startOf (i + 1))`) differ by at most one -/
theorem ranges_balanced (kgc n i j : Nat) :
    (startOf kgc n (i + 1) - startOf kgc n i) ≤ (startOf kgc n (j + 1) - startOf kgc n j) + 1 := by
  rw [startOf_succ_sub, startOf_succ_sub]
  have le_one : (if i < kgc % n then 1 else 0) ≤ 1 := by split <;> decide
  exact Nat.le_trans (Nat.add_le_add_left le_one _) (Nat.add_le_add_right (Nat.le_add_right _ _) 1)

/-- every key group below the count lies in exactly one range -/
theorem group_in_unique_range (kgc n g : Nat) (hn : 0 < n) (hg : g < kgc) :
    ∃ i, i < n ∧ (startOf kgc n i ≤ g ∧ g < startOf kgc n (i + 1)) ∧
      ∀ j, (startOf kgc n j ≤ g ∧ g < startOf kgc n (j + 1)) → j = i := by
  obtain ⟨i, hi, h1, h2⟩ := exists_range kgc n g hn hg
  exact ⟨i, hi, ⟨h1, h2⟩, fun j ⟨hj1, hj2⟩ =>
    startOf_index_unique (Nat.lt_of_le_of_lt hj1 h2) (Nat.lt_of_le_of_lt h1 hj2)⟩

/-- the router's table lookup (`RangeIndex`) returns the one range containing the key's group -/
theorem rangeIndex_unique (kgc n : Nat) (hk : 0 < kgc) (hk2 : kgc ≤ 65535) (hn : 0 < n) (key : Bytes) :
    let g := keyGroup kgc key
    let i := rangeIndex kgc n key
    i < n ∧ (∃ r, (ranges kgc n)[i]? = some r ∧ r.includes g = true) ∧
      ∀ j r, (ranges kgc n)[j]? = some r → r.includes g = true → j = i := by
  intro g i
  obtain ⟨hi, hinc⟩ := rangeIndex_spec hk hk2 hn key
  exact ⟨hi, ⟨_, ranges_get kgc n i hi, KGRange.includes_iff.mpr hinc⟩,
    fun j r hj hr => ((includes_iff_rangeIndex_eq hk hk2 key hj).mp hr).symm⟩

/-- everything persisted for a key (state entries and timers) is owned by exactly the operator the router sends the key to -/
theorem owns_encoded (kgc n : Nat) (hk : 0 < kgc) (hk2 : kgc ≤ 65535) (hn : 0 < n)
    (k ns d : Bytes) (t j : Nat) (r : KGRange) (hj : (ranges kgc n)[j]? = some r) :
    (Keys.ownsKey r (Keys.dbKey kgc k ns d) = true ↔ rangeIndex kgc n k = j) ∧
    (Keys.ownsKey r (Keys.timerKey kgc k t) = true ↔ rangeIndex kgc n k = j) := by
  have key := includes_iff_rangeIndex_eq hk hk2 k hj
  rw [Keys.ownsKey, Keys.ownsKey, Keys.beNat_dbKey hk (Nat.le_succ_of_le hk2), Keys.beNat_timerKey hk (Nat.le_succ_of_le hk2)]
  exact ⟨key, key⟩

/-- `Overlaps` between two ranges of one layout: true exactly for a non-empty range with itself. In particular two
different ranges never overlap, whatever the counts (also `n > kgc`, where the ranges from index `kgc` on are empty). -/
theorem ranges_overlaps (kgc n i j : Nat) (hi : i < n) (hj : j < n) :
    ((ranges kgc n)[i]'(by rw [ranges_length]; exact hi)).overlaps ((ranges kgc n)[j]'(by rw [ranges_length]; exact hj)) = true
      ↔ i = j ∧ startOf kgc n i < startOf kgc n (i + 1) := by
  rw [(List.getElem_eq_iff _).mpr (ranges_get kgc n i hi), (List.getElem_eq_iff _).mpr (ranges_get kgc n j hj),
    KGRange.overlaps_iff]
  constructor
  · intro ⟨h1, h2⟩
    obtain rfl := startOf_index_unique h2 h1
    exact ⟨rfl, h1⟩
  · intro ⟨h, h1⟩; subst h; exact ⟨h1, h1⟩

/-- `AssignRanges` (`partitioning/key_space.go`) and `neighborPartition.NeedsTable` (`operator_partition.go`) decide by `Overlaps`:
between the ranges of different operators of one layout it is false -/
theorem ranges_disjoint (kgc n i j : Nat) (hij : i ≠ j) (hi : i < n) (hj : j < n) :
    ((ranges kgc n)[i]'(by rw [ranges_length]; exact hi)).overlaps ((ranges kgc n)[j]'(by rw [ranges_length]; exact hj)) = false :=
  Bool.eq_false_iff.mpr fun h => hij ((ranges_overlaps kgc n i j hi hj).mp h).1

/-- an empty range occurs only with more operators than key groups, from index `kgc` on, and it is `[kgc, kgc)`:
it sits at the end of the key space, never strictly inside another range (where `Overlaps` would answer true) -/
theorem empty_range_at_end (kgc n i : Nat) (hn : 0 < n) (he : startOf kgc n (i + 1) ≤ startOf kgc n i) :
    kgc < n ∧ kgc ≤ i ∧ startOf kgc n i = kgc ∧ startOf kgc n (i + 1) = kgc := by
  -- the minimal size `kgc / n` is 0, so range `i` starts at `min i kgc`
  have hd : kgc / n = 0 :=
    (Nat.add_eq_zero_iff.mp ((startOf_succ_sub kgc n i).symm.trans (Nat.sub_eq_zero_of_le he))).1
  rw [startOf_of_div_eq_zero hd i, startOf_of_div_eq_zero hd (i + 1)] at he ⊢
  have hik : kgc ≤ i := Nat.le_of_not_lt fun hlt => by
    rw [Nat.min_eq_left (Nat.le_of_lt hlt), Nat.min_eq_left hlt] at he
    exact Nat.not_succ_le_self i he
  exact ⟨(Nat.div_eq_zero_iff_lt hn).mp hd, hik, Nat.min_eq_right hik, Nat.min_eq_right (Nat.le_succ_of_le hik)⟩

/-- sharing a key group implies `Overlaps`, for all ranges -/
theorem common_group_overlaps (r o : KGRange) (g : Nat) (h1 : r.includes g = true) (h2 : o.includes g = true) :
    r.overlaps o = true :=
  KGRange.overlaps_of_includes h1 h2

/-- `Overlaps` means "share a key group" for non-empty ranges; for an empty range it does not (see the example below) -/
theorem overlaps_iff_common_group (r o : KGRange) (hr : r.start < r.stop) (ho : o.start < o.stop) :
    r.overlaps o = true ↔ ∃ g, r.includes g = true ∧ o.includes g = true := by
  constructor
  · intro h
    rw [KGRange.overlaps_iff] at h
    -- the larger of the two starts lies in both
    exact ⟨max r.start o.start, KGRange.includes_iff.mpr ⟨Nat.le_max_left _ _, Nat.max_lt.mpr ⟨hr, h.1⟩⟩,
      KGRange.includes_iff.mpr ⟨Nat.le_max_right _ _, Nat.max_lt.mpr ⟨h.2, ho⟩⟩⟩
  · intro ⟨g, h1, h2⟩; exact KGRange.overlaps_of_includes h1 h2

/-- an empty range strictly inside another one `Overlaps` it without sharing a group -/
example : (⟨0, 4⟩ : KGRange).overlaps ⟨2, 2⟩ = true ∧ ∀ g, ¬ ((⟨2, 2⟩ : KGRange).includes g = true) := by
  refine ⟨by decide, ?_⟩
  intro g h
  rw [KGRange.includes_iff] at h
  exact Nat.lt_irrefl 2 (Nat.lt_of_le_of_lt h.1 h.2)

/-- `KeyGroups()` of the ranges, in operator order, enumerate every key group exactly once: `0, 1, …, kgc-1` -/
theorem keyGroups_partition (kgc n : Nat) (hn : 0 < n) :
    (ranges kgc n).flatMap KGRange.keyGroups = List.range kgc := by
  rw [ranges_closed_form, List.range_eq_range',
    flatMap_keyGroups_consecutive (startOf kgc n) (fun _ _ h => startOf_mono kgc n h) n 0,
    Nat.zero_add, startOf_zero, startOf_n kgc n hn, List.range_eq_range']
  rfl

/-- non-vacuity: a concrete configuration where the operator count does not divide the group count -/
example : ranges 7 3 = [⟨0,3⟩, ⟨3,5⟩, ⟨5,7⟩] ∧ lookupTable 7 3 = [0,0,0,1,1,2,2] := by decide +kernel
example : ranges 2 4 = [⟨0,1⟩, ⟨1,2⟩, ⟨2,2⟩, ⟨2,2⟩] := by decide +kernel
example : (ranges 2 4).flatMap KGRange.keyGroups = [0, 1] ∧ (ranges 7 3).map KGRange.keyGroups = [[0,1,2],[3,4],[5,6]] := by decide +kernel
example : ((ranges 2 4)[1]).overlaps ((ranges 2 4)[2]) = false ∧ ((ranges 2 4)[2]).overlaps ((ranges 2 4)[3]) = false ∧
    ((ranges 2 4)[3]).overlaps ((ranges 2 4)[3]) = false ∧ ((ranges 2 4)[1]).overlaps ((ranges 2 4)[1]) = true := by decide +kernel

/-- the array-backed lookup table, which the driver executes, is the list table of the theorems above -/
theorem lookupTableA_eq (kgc n : Nat) : (lookupTableA kgc n).toList = lookupTable kgc n := by
  rw [lookupTableA, lookupTable, fillAllA_toList, Array.toList_replicate]

theorem rangeIndexA_eq (kgc n : Nat) (key : Bytes) : rangeIndexA (lookupTableA kgc n) kgc key = rangeIndex kgc n key := by
  rw [rangeIndexA, rangeIndex, ← lookupTableA_eq, Array.getD_eq_getD_getElem?, List.getD_eq_getElem?_getD,
    Array.getElem?_toList]

open Assembly

/-- "routing agrees with ownership" for a deployment `D` of the operators `ops`, for one key `k`:
every source runner, having handled ITS request, addresses some deployed operator `tgt`, and for that runner every operator, having
handled ITS request, owns what it persists for `k` (state entry and timer, under the group count IT was told) iff it is `tgt`.
With no runner in `D` nothing is said. -/
def RoutingAgrees (ops : List NodeId) (D : Deployment) (k ns d : Bytes) (t : Nat) : Prop :=
  ∀ sr sreq, (sr, sreq) ∈ D.srReqs →
    ∃ rst, srHandleDeploy sreq = some rst ∧
    ∃ tgt, srRoute rst k = some tgt ∧ tgt ∈ ops ∧
      ∀ o oreq, (o, oreq) ∈ D.opReqs →
        ∃ st, opHandleDeploy o oreq = some st ∧
          (st.owns (st.dbKey k ns d) = true ↔ o = tgt) ∧
          (st.owns (st.timerKey k t) = true ↔ o = tgt)

/-- `Assembly.Deploy`: every runner and every operator of the assembly is sent exactly one request, and for every
configuration (key group count, non-empty operator list with distinct ids, runner list) and every key, routing agrees with
ownership: the operator a runner addresses owns the key's persisted entries, and no other deployed operator does. -/
theorem deploy_agreement (kgc wc : Nat) (ops srs : List NodeId) (D : Deployment)
    (hD : deploy kgc wc ops srs = some D) (hne : ops ≠ []) (hnd : ops.Nodup) (k ns d : Bytes) (t : Nat) :
    D.srReqs.map (·.1) = srs ∧ D.opReqs.map (·.1) = ops ∧ RoutingAgrees ops D k ns d t := by
  obtain ⟨⟨hk, hk2, _, _⟩, rfl⟩ := deploy_eq_some_iff.mp hD
  have hn : 0 < ops.length := List.length_pos_iff.mpr hne
  refine ⟨?_, ?_, ?_⟩
  · rw [List.map_map]; exact List.map_id'' (fun _ => rfl) srs
  · rw [List.map_map]; exact List.map_id'' (fun _ => rfl) ops
  · intro sr sreq hsr
    obtain ⟨_, _, hs⟩ := List.mem_map.mp hsr
    cases hs
    have hlt := (rangeIndex_spec hk hk2 hn k).1
    refine ⟨_, srHandleDeploy_eq hk hk2 hn, ops[rangeIndex kgc ops.length k], ?_, List.getElem_mem _, ?_⟩
    · rw [srRoute, rangeIndexA_eq, List.getElem?_eq_getElem hlt]
    · intro o oreq ho
      obtain ⟨o', ho', hs⟩ := List.mem_map.mp ho
      cases hs
      refine ⟨_, opHandleDeploy_eq hk hk2 ho' srs, ?_⟩
      -- with distinct ids the position of `o` is `rangeIndex` iff `o` is the addressed operator
      have hown := owns_encoded kgc ops.length hk hk2 hn k ns d t _ _
        (ranges_get kgc ops.length (ops.idxOf o) (List.idxOf_lt_length_iff.mpr ho'))
      have hiff : rangeIndex kgc ops.length k = List.idxOf o ops ↔ o = ops[rangeIndex kgc ops.length k] :=
        eq_comm.trans (idxOf_eq_iff_of_nodup hnd hlt)
      exact ⟨hown.1.trans hiff, hown.2.trans hiff⟩

/-- the registry hands `Deploy` exactly `taskCount` distinct registered operators and runners, after any history of
registrations and deregistrations (so the hypotheses of `deploy_agreement` hold in production) -/
theorem registry_assembly (steps : List RegStep) (tc : Nat) (ops srs : List NodeId)
    (h : newAssembly tc (Reg.run steps) = some (ops, srs)) :
    ops.Nodup ∧ ops.length = tc ∧ srs.Nodup ∧ srs.length = tc ∧
    (∀ o ∈ ops, o ∈ (Reg.run steps).ops) ∧ (∀ s ∈ srs, s ∈ (Reg.run steps).srs) := by
  unfold newAssembly at h
  split at h
  · cases h
  · rename_i hc
    cases h
    have hn := Reg.run_nodup steps
    exact ⟨sorted_take_nodup _ _ hn.1, sorted_take_length _ _ (Nat.le_of_not_lt fun h => hc (Or.inr h)),
      sorted_take_nodup _ _ hn.2, sorted_take_length _ _ (Nat.le_of_not_lt fun h => hc (Or.inl h)),
      sorted_take_subset _ _, sorted_take_subset _ _⟩

/-- end to end: whatever was registered, if an assembly can be formed for a valid job configuration then `Deploy`
succeeds and routing agrees with ownership for every key -/
theorem registry_deploy_agreement (steps : List RegStep) (kgc tc : Nat) (hk : 0 < kgc) (hk2 : kgc ≤ 65535) (htc : 0 < tc)
    (ops srs : List NodeId) (h : newAssembly tc (Reg.run steps) = some (ops, srs)) (k ns d : Bytes) (t : Nat) :
    ∃ D, deploy kgc tc ops srs = some D ∧ RoutingAgrees ops D k ns d t := by
  obtain ⟨hnd, hlen, _, _, _, _⟩ := registry_assembly steps tc ops srs h
  have hne : ops ≠ [] := List.ne_nil_of_length_pos (hlen ▸ htc)
  have hD := (deploy_eq_some_iff (srs := srs)).mpr ⟨⟨hk, hk2, htc, Nat.le_of_eq hlen⟩, rfl⟩
  exact ⟨_, hD, (deploy_agreement kgc tc ops srs _ hD hne hnd k ns d t).2.2⟩

/-- three operators registered out of order (one twice) and one runner: the registry forms an assembly of 1, not of 3. For the
lists `[[1],[2],[3]]`, `[[9]]` written out by hand the deployment exists, the key "hello" (group 6 of 7) is addressed to operator
`[3]`, which owns it, and operator `[2]` does not -/
example :
    let r := Reg.run [.regOp [3], .regSr [9], .regOp [1], .regOp [2], .regOp [1]]
    r.ops = [[3],[1],[2]] ∧ (newAssembly 1 r).isSome = true ∧ (newAssembly 3 r).isSome = false ∧
    (deploy 7 3 [[1],[2],[3]] [[9]]).isSome = true ∧
    ((srHandleDeploy ⟨[[1],[2],[3]], 7⟩).bind (srRoute · [104,101,108,108,111])) = some [3] ∧
    ((opHandleDeploy [3] ⟨[[1],[2],[3]], [[9]], 7⟩).map fun st => (st.range, st.owns (st.dbKey [104,101,108,108,111] [] []))) = some (⟨5, 7⟩, true) ∧
    ((opHandleDeploy [2] ⟨[[1],[2],[3]], [[9]], 7⟩).map fun st => (st.range, st.owns (st.dbKey [104,101,108,108,111] [] []))) = some (⟨3, 5⟩, false) := by
  decide +kernel

/-- the distinct-ids hypothesis is needed: with a duplicated id the runner addresses position 1, but the operator
process of that id takes the first position's range and does not own the key -/
example :
    ((srHandleDeploy ⟨[[1],[1]], 2⟩).bind (srRoute · [104,101,108,108,111])) = some [1] ∧
    ((opHandleDeploy [1] ⟨[[1],[1]], [], 2⟩).map fun st => st.owns (st.dbKey [104,101,108,108,111] [] [])) = some false := by
  decide +kernel

/-- the per-key-group queues of a deployed operator (`NewTimerStore`): the timer of a key the operator owns is pushed to queue
`key group − range.Start` (`IndexOf`), that queue exists, and it is the queue that loads from / persists under the key's own group -/
theorem timer_queue_of_owned (st : OpState) (hk : 0 < st.kgc) (hk2 : st.kgc ≤ 65535) (k : Bytes) (t : Nat)
    (h : st.owns (st.timerKey k t) = true) :
    st.timerQueueIndex k t = keyGroup st.kgc k - st.range.start ∧
    st.timerQueueIndex k t < st.timerQueues.length ∧
    st.timerQueues[st.timerQueueIndex k t]? = some (keyGroup st.kgc k) := by
  have hb : Bytes.beNat ((st.timerKey k t).take 2) = keyGroup st.kgc k :=
    Keys.beNat_timerKey hk (Nat.le_succ_of_le hk2) k t
  rw [OpState.owns, Keys.ownsKey, hb] at h
  have hq : st.timerQueues[keyGroup st.kgc k - st.range.start]? = some (keyGroup st.kgc k) := KGRange.keyGroups_getElem? h
  rw [OpState.timerQueueIndex, hb]
  exact ⟨rfl, (List.getElem?_eq_some_iff.mp hq).1, hq⟩

/-- the queues of an operator serve exactly the key groups of its range -/
theorem timer_queues_are_range (st : OpState) (g : Nat) : g ∈ st.timerQueues ↔ st.range.includes g = true :=
  KGRange.mem_keyGroups

/-- over a whole deployment (operator list non-empty, ids distinct) every key group has exactly one timer queue: the operators'
queues, in operator order, are the groups `0, 1, …, kgc-1` -/
theorem deploy_timer_queues (kgc wc : Nat) (ops srs : List NodeId) (D : Deployment)
    (hD : deploy kgc wc ops srs = some D) (hne : ops ≠ []) (hnd : ops.Nodup) :
    (D.opReqs.flatMap fun x => match opHandleDeploy x.1 x.2 with | some st => st.timerQueues | none => []) = List.range kgc := by
  obtain ⟨⟨hk, hk2, _, _⟩, rfl⟩ := deploy_eq_some_iff.mp hD
  have hop : ∀ o ∈ ops, (match opHandleDeploy o ⟨ops, srs, kgc⟩ with | some st => st.timerQueues | none => []) =
      KGRange.keyGroups ⟨startOf kgc ops.length (ops.idxOf o), startOf kgc ops.length (ops.idxOf o + 1)⟩ := by
    intro o ho
    rw [opHandleDeploy_eq hk hk2 ho srs]
    rfl
  rw [List.flatMap_map, List.flatMap_def, List.map_congr_left hop]
  -- with distinct ids the positions `idxOf o` are `0, 1, …`: the order of the layout
  rw [map_idxOf_of_nodup (fun i => KGRange.keyGroups ⟨startOf kgc ops.length i, startOf kgc ops.length (i + 1)⟩) hnd,
    ← keyGroups_partition kgc ops.length (List.length_pos_iff.mpr hne), ranges_closed_form, List.flatMap_map, List.flatMap_def]

example :
    ((opHandleDeploy [3] ⟨[[1],[2],[3]], [[9]], 7⟩).map fun st => (st.timerQueues, st.timerQueueIndex [104,101,108,108,111] 5)) = some ([5, 6], 1) ∧
    ((opHandleDeploy [2] ⟨[[1],[2],[3]], [[9]], 7⟩).map fun st => st.timerQueues) = some [3, 4] := by decide +kernel

/-- MurmurHash3 x86_32 reference vectors: a finite sample standing for "`Murmur.hash` is MurmurHash3-32" (there is no
reference specification to prove against). Published vectors (smhasher verification inputs and the widely used
test list for the x86_32 variant), the repository's own test values (`util/murmur/murmur_test.go`), each re-computed with
an independent transcription of the public-domain reference (`harness/cmd/corr/c05_murmur_vectors.py`, run by hand: no check runs it).
Lengths 0-7, 13 (three blocks + tail), 43 (ten blocks + tail), 56 (fourteen blocks, no tail); seeds 0, 1, 1234,
0x9747b28c, 0x5082edee, 0xffffffff. -/
theorem murmur_vectors :
    (Murmur.hash [] 0).toNat = 0 ∧
    (Murmur.hash [] 1).toNat = 0x514e28b7 ∧
    (Murmur.hash [] 0xffffffff).toNat = 0x81f16f39 ∧
    (Murmur.hash [104,101,108,108,111] 0).toNat = 0x248bfa47 ∧
    (Murmur.hash [0xff,0xff,0xff,0xff] 0).toNat = 0x76293b50 ∧
    (Murmur.hash [0x21,0x43,0x65,0x87] 0).toNat = 0xf55b516b ∧
    (Murmur.hash [0x21,0x43,0x65,0x87] 0x5082edee).toNat = 0x2362f9de ∧
    (Murmur.hash [0x21,0x43,0x65] 0).toNat = 0x7e4a8634 ∧
    (Murmur.hash [0x21,0x43] 0).toNat = 0xa0f7b07a ∧
    (Murmur.hash [0x21] 0).toNat = 0x72661cf4 ∧
    (Murmur.hash [0,0,0,0] 0).toNat = 0x2362f9de ∧
    (Murmur.hash [0,0,0] 0).toNat = 0x85f0b427 ∧
    (Murmur.hash [0,0] 0).toNat = 0x30f4c306 ∧
    (Murmur.hash [0] 0).toNat = 0x514e28b7 ∧
    (Murmur.hash [97,97,97,97] 0x9747b28c).toNat = 0x5a97808a ∧
    (Murmur.hash [97,98,99] 0).toNat = 0xb3dd93fa ∧
    (Murmur.hash [116,101,115,116] 0).toNat = 0xba6bd213 ∧
    (Murmur.hash [116,101,115,116] 0x9747b28c).toNat = 0x704b81dc ∧
    (Murmur.hash [97,49] 0).toNat = 882153338 ∧
    (Murmur.hash [49,50,51,52,53,54] 0).toNat = 3210799800 ∧
    (Murmur.hash [97,98,99,100,101,102,103] 0).toNat = 2285673222 := by decide +kernel

/-- three and more full blocks, also under non-zero seeds ("Hello, world!", 13 bytes; the 43-byte pangram; the 56-byte SHA test string) -/
theorem murmur_vectors_long :
    (Murmur.hash [72,101,108,108,111,44,32,119,111,114,108,100,33] 1234).toNat = 0xfaf6cdb3 ∧
    (Murmur.hash [72,101,108,108,111,44,32,119,111,114,108,100,33] 0x9747b28c).toNat = 0x24884cba ∧
    (Murmur.hash [84,104,101,32,113,117,105,99,107,32,98,114,111,119,110,32,102,111,120,32,106,117,109,112,115,32,111,118,101,
      114,32,116,104,101,32,108,97,122,121,32,100,111,103] 0).toNat = 0x2e4ff723 ∧
    (Murmur.hash [84,104,101,32,113,117,105,99,107,32,98,114,111,119,110,32,102,111,120,32,106,117,109,112,115,32,111,118,101,
      114,32,116,104,101,32,108,97,122,121,32,100,111,103] 0x9747b28c).toNat = 0x2fa826cd ∧
    (Murmur.hash [97,98,99,100,98,99,100,101,99,100,101,102,100,101,102,103,101,102,103,104,102,103,104,105,103,104,105,106,
      104,105,106,107,105,106,107,108,106,107,108,109,107,108,109,110,108,109,110,111,109,110,111,112,110,111,112,113] 0).toNat
      = 0xee925b90 := by decide +kernel

end Rxn.C05
