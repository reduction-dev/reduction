import RxnModel.Proofs.Sst
import RxnModel.Proofs.SstLsm
import RxnModel.Proofs.SstDoc
import RxnModel.Proofs.Wal
/-!
# C17 — on-disk tables and write-ahead logs round-trip exactly

Models: `Model/Sst.lean`, `Model/SstDoc.lean` (JSON text of the table document), `Model/Wal.lean`. Widths, index spacing,
footer length, bloom size/hash count, look-ahead factor come from `Generated/Facts.lean`.
The models describe the code after the repairs D19, D27, D29, D30, D31.

Hypotheses that appear below:
* `Entry.WF` / `Rec.WF`: key/value lengths fit the 32-bit length prefix, seqNum fits 64 bits, a tombstone has
  no value (what the writers can represent);
* `SortedKeys`: strictly ascending keys (`bytes.Compare`);
* `(encEntries es).length < offMod` (= 2^32, from the `uint32(offset)` conversion): the index stores `uint32` offsets.
-/
namespace Rxn.C17
open Rxn Rxn.Sst Rxn.Wal

/-- the fields package is little-endian throughout (the model's `leBytes`/`leVal` are tied to it) -/
theorem fields_little_endian : Facts.fieldsLittleEndian = 1 := by decide

/-- what the structural recogniser `walMuCoversSegments` (tools/gofacts/facts_c17.go, hard obligation) finds in
`dkv/wal/writer.go`, and no more: (1) `Cut`, `Truncate`, `Rotate` are `mu.Lock(); defer mu.Unlock()` over the rest of
their body with no segment access before the lock; (2) `Put`/`Delete` never mention `sealedBuffers` and `Truncate`
never mentions the writer's `activeBuffer`/`latestSeqNum` (the unlocked foreground writes and the concurrent
`Truncate` work on disjoint fields); (3) `Put`, `Delete`, `Cut`, `Truncate`, `Rotate`, `Save` start with an `if` on
`sealed` whose body ends in `panic` (the guard; its polarity is not examined) and `sealed` is only ever set, once, by
`Rotate`'s `CompareAndSwap(false, true)`. It is a stand-alone fact
(no proof consumes it); it is the reason the model may treat each of these calls as one step on one writer. -/
theorem wal_lock_shape : Facts.walMuCoversSegments = 1 := by decide

/-- `ensureMetadataLoaded` sets `metadataLoaded` only after `loadFooter` returned, inside one critical section that
lasts to the end of the body: a second first reader waits and then sees the loaded metadata (structural fact) -/
theorem table_metadata_load_shape : Facts.sstMetaLoadUnderLock = 1 := by decide

/-- `TableDocument` has the fields, order and types (`[]byte` keys, no tags) that `jsonDoc` writes -/
theorem document_shape : Facts.sstDocShape = 1 := by decide

/-- entry codec: decode ∘ encode = id, with any bytes following -/
theorem entry_codec (e : Entry) (h : e.WF) (rest : Bytes) : decEntry (encEntry e ++ rest) = some (e, rest) :=
  decEntry_encEntry e h rest

/-- `Table.Get` on a written table is the lookup in the run, for every key: present, absent, between two
keys, before the first, after the last (D19), and whatever the bloom filter answers for absent keys -/
theorem table_get_eq_lookup (es : List Entry) (hwf : ∀ e ∈ es, e.WF) (hs : SortedKeys es)
    (hsz : (encEntries es).length < offMod) (key : Bytes) :
    get (metaOf es) (docOf es).entriesSize (encTable es) key = GetRes.ofOption (lookup es key) :=
  get_encTable es hwf hs hsz key

/-- `Table.Get` is correct with ANY bloom filter that answers "yes" (a false positive on an absent key included:
before the first key (D19), between keys, between index blocks, after the last key): the bloom gate only ever
short-cuts to "not found", everything else is decided by the index search and the bounded scan -/
theorem table_get_any_bloom (b : Bloom) (es : List Entry) (hwf : ∀ e ∈ es, e.WF) (hs : SortedKeys es)
    (hsz : (encEntries es).length < offMod) (key : Bytes) :
    get ⟨b, (metaOf es).offsets⟩ (docOf es).entriesSize (encTable es) key
      = if b.mightHave key then GetRes.ofOption (lookup es key) else GetRes.notFound :=
  get_any_bloom b es hwf hs hsz key

/-- `Table.ScanPrefix` yields exactly the entries with the prefix, in order, tombstones included
(also for the empty run, D29) -/
theorem table_scanPrefix (es : List Entry) (hwf : ∀ e ∈ es, e.WF) (pfx : Bytes) :
    scanPrefix (docOf es).entriesSize (encTable es) pfx = some (es.filter (fun e => e.key.hasPrefix pfx)) :=
  scanPrefix_encTable es hwf pfx

/-- re-opening from the document: `loadFooter` recovers exactly the writer's bloom filter and index, so every
`Get`/`ScanPrefix` answer of the re-opened table is that of the fresh one. The other four conjuncts spell out
`docOf` (first and last key, sizes) and hold by definition -/
theorem table_reopen (es : List Entry) (hsz : (encEntries es).length < offMod) :
    openDoc (docOf es) (encTable es) = some (metaOf es) ∧
    (docOf es).startKey = (es.head?.map (·.key)).getD [] ∧ (docOf es).endKey = (es.getLast?.map (·.key)).getD [] ∧
    (docOf es).size = (encTable es).length ∧ (docOf es).entriesSize = (encEntries es).length :=
  ⟨loadFooter_encTable es hsz, rfl, rfl, rfl, rfl⟩

/-- the descriptor as the checkpoint document stores it (D30 site): `encoding/json` text of `TableDocument` — keys in
base64, sizes and sequence numbers in decimal, the URI verbatim — decodes back to the same document and URI -/
theorem table_document_json (d : Doc) (uri : List Char) (hu : PlainUri uri) :
    parseDoc (jsonDoc d uri) = some (d, uri) :=
  parseDoc_jsonDoc d uri hu

/-- re-opening a written table from the JSON text of its document yields the writer's metadata -/
theorem table_reopen_via_json (es : List Entry) (uri : List Char) (hu : PlainUri uri)
    (hsz : (encEntries es).length < offMod) :
    (parseDoc (jsonDoc (docOf es) uri)).bind (fun p => openDoc p.1 (encTable es)) = some (metaOf es) := by
  rw [parseDoc_jsonDoc _ _ hu, Option.bind_some]
  exact loadFooter_encTable es hsz

/-- `Get` on a written table re-opened from its document is the lookup in the run -/
theorem table_reopen_get (es : List Entry) (hwf : ∀ e ∈ es, e.WF) (hs : SortedKeys es)
    (hsz : (encEntries es).length < offMod) (key : Bytes) :
    (openDoc (docOf es) (encTable es)).map (fun m => get m (docOf es).entriesSize (encTable es) key)
      = some (GetRes.ofOption (lookup es key)) := by
  rw [(table_reopen es hsz).1]; exact congrArg some (table_get_eq_lookup es hwf hs hsz key)

/-- the bloom filter never denies a key that was added (for every filter of the model with at least one bit; the
`uint32` word count of `bloom.NewFilter`, which wraps for sizes above 2^32 − 64, is not modelled) -/
theorem bloom_no_false_negative (size hashes : Nat) (hsize : 0 < size) (ks : List Bytes) (k : Bytes) (hk : k ∈ ks) :
    ((Bloom.new size hashes).addAll ks).mightHave k = true :=
  Bloom.addAll_no_false_negative _ (Bloom.new_addressable size hashes hsize) ks k hk

/-- the filter of a written table (size and hash count from the source) never denies a key of the table -/
theorem table_bloom_no_false_negative (es : List Entry) (e : Entry) (he : e ∈ es) :
    (metaOf es).bloom.mightHave e.key = true :=
  bloomOf_no_false_negative es e he

/-- `WriteRun`: the tables, concatenated in order, are the input -/
theorem writeRun_concat (target : Nat) (es : List Entry) : (writeRun target es).flatten = es :=
  writeRun_flatten target es

/-- `WriteRun`: every key of an earlier table is below every key of a later table -/
theorem writeRun_ranges (target : Nat) (es : List Entry) (hs : SortedKeys es) :
    (writeRun target es).Pairwise (fun c d => ∀ a ∈ c, ∀ b ∈ d, Bytes.lt a.key b.key = true) ∧
    ∀ c ∈ writeRun target es, SortedKeys c :=
  writeRun_pairwise target es hs

/-- `WriteRun` (D31): no table of a non-empty run is empty, so every table's range is its first..last key -/
theorem writeRun_nonempty_tables (target : Nat) (ht : 0 < target) (es : List Entry) (hes : es ≠ []) :
    ∀ c ∈ writeRun target es, c ≠ [] :=
  writeRun_nonempty target ht es hes

/-- the key ranges in the documents of the tables of `WriteRun` are disjoint and ordered -/
theorem writeRun_doc_ranges (target : Nat) (ht : 0 < target) (es : List Entry) (hes : es ≠ []) (hs : SortedKeys es) :
    (writeRun target es).Pairwise (fun c d => Bytes.lt (docOf c).endKey (docOf d).startKey = true) :=
  writeRun_docs_ordered target ht es hs

/-- the loop of `WriteRun` terminates within the fuel the model gives it: with any extra fuel the result is the
same, i.e. the out-of-fuel branch of `runLoop` is dead (every iteration consumes an entry, cuts, or flushes a
non-empty chunk; measure `3·|input| + 2·|buffer| + [filling]`). For `target = 0` the real loop does not terminate. -/
theorem writeRun_fuel_independent (target : Nat) (ht : 0 < target) (es : List Entry) (k : Nat) :
    runLoop target (maxBuffer target) (3 * es.length + 3 + k) none [] 0 false es = writeRun target es :=
  Sst.writeRun_fuel_independent target ht es k

/-- table sizes as the code guarantees them (in `FlushSize` units, `M` = any bound on one entry's flush size):
every table but the last has `target ≤ size < target + M`, because the look-ahead entries stay in the buffer, and the
last one has `size < floor(1.5·target) + M`. Third conjunct, for every entry (of the run or not): the bytes written
for it never exceed its flush size before the reduction to `Facts.sstFlushSizeBits` bits. -/
theorem writeRun_sizes (target : Nat) (ht : 0 < target) (es : List Entry) (M : Nat) (hM : ∀ e ∈ es, flushSize e ≤ M) :
    (∀ c ∈ (writeRun target es).dropLast, target ≤ sumSize c ∧ sumSize c < target + M) ∧
    (∀ c, (writeRun target es).getLast? = some c → sumSize c < maxBuffer target + M) ∧
    (∀ e : Entry, (encEntry e).length ≤ Facts.sstEntryOverhead + e.key.length + e.val.length) :=
  ⟨(writeRun_chunk_sizes target ht es M hM).1, (writeRun_chunk_sizes target ht es M hM).2, encEntry_length_le⟩

/-! ## hand-off to C07 / C18: a level built from the tables of `WriteRun` -/

/-- every table of `WriteRun` answers `Get` and `ScanPrefix` like its slice of the run, and the run's lookup is the
first hit over the slices (this conjunct needs no hypothesis: the slices concatenate to the run). The `uint32` offset
limit is a hypothesis PER TABLE (`writeRun_table_bytes` derives it from the target size); the run as a whole may be of
any size. -/
theorem writeRun_tables_answer (target : Nat) (es : List Entry) (hwf : ∀ e ∈ es, e.WF) (hs : SortedKeys es)
    (hsz : ∀ c ∈ writeRun target es, (encEntries c).length < offMod) :
    (∀ c ∈ writeRun target es, ∀ key,
      get (metaOf c) (docOf c).entriesSize (encTable c) key = GetRes.ofOption (lookup c key)) ∧
    (∀ c ∈ writeRun target es, ∀ pfx,
      scanPrefix (docOf c).entriesSize (encTable c) pfx = some (c.filter (fun e => e.key.hasPrefix pfx))) ∧
    (∀ key, lookup es key = (writeRun target es).findSome? (fun c => lookup c key)) := by
  refine ⟨?_, ?_, writeRun_lookup target es⟩
  · intro c hc key
    exact get_encTable c (forall_mem_writeRun hc hwf) ((writeRun_pairwise target es hs).2 c hc)
      (hsz c hc) key
  · intro c hc pfx
    exact scanPrefix_encTable c (forall_mem_writeRun hc hwf) pfx

/-- the per-table limit holds for every run, however long, once `floor(1.5·target)` plus the largest entry
(`EntryOverheadSize + |key| + |value| ≤ M`) fits 32 bits -/
theorem writeRun_table_bytes (target : Nat) (ht : 0 < target) (es : List Entry) (M : Nat)
    (hM : ∀ e ∈ es, Facts.sstEntryOverhead + e.key.length + e.val.length ≤ M)
    (hfit : maxBuffer target + M ≤ offMod) :
    ∀ c ∈ writeRun target es, (encEntries c).length < offMod :=
  Sst.writeRun_table_bytes target ht es M hM hfit

/-- the whole path a restored DKV takes for every table of a compaction/flush run: the table's document goes through
its JSON text, the table is re-opened from the parsed document (sizes taken from it), and `Get` answers like the
slice of the run — for runs of any length, under the entry-size bound of `writeRun_table_bytes` -/
theorem writeRun_tables_reopen_via_json (target : Nat) (ht : 0 < target) (es : List Entry) (hwf : ∀ e ∈ es, e.WF)
    (hs : SortedKeys es) (M : Nat) (hM : ∀ e ∈ es, Facts.sstEntryOverhead + e.key.length + e.val.length ≤ M)
    (hfit : maxBuffer target + M ≤ offMod) (uri : List Char) (hu : PlainUri uri) :
    ∀ c ∈ writeRun target es, ∀ key,
      (parseDoc (jsonDoc (docOf c) uri)).bind (fun p =>
        (openDoc p.1 (encTable c)).map (fun m => get m p.1.entriesSize (encTable c) key))
      = some (GetRes.ofOption (lookup c key)) := by
  intro c hc key
  exact get_via_json c (forall_mem_writeRun hc hwf) ((writeRun_pairwise target es hs).2 c hc)
    (Sst.writeRun_table_bytes target ht es M hM hfit c hc) uri hu key

/-- seen as tables of the LSM model (`Lsm.Tbl`: a table is its run), the tables of `WriteRun` form a level that
satisfies what C07/C18 assume of a deeper level: every run is sorted (`Lsm.Run.Sorted`), ranges are pairwise
exclusive (`Lsm.RangeUnique`; both written out), the model's `Tbl.get` (range test + lookup) is the lookup of the
slice, i.e. what the byte-level `Table.Get` returns; and `Tbl.scan` of `toRun c` is `toRun` of the prefix filter of `c`,
the list `table_scanPrefix` gives for `Table.ScanPrefix` (by unfolding `Tbl.scan`, for every `c`) -/
theorem writeRun_level_invariants (target : Nat) (ht : 0 < target) (es : List Entry) (hs : SortedKeys es)
    (ts : List Lsm.Tbl) (hts : ts.map (·.run) = (writeRun target es).map toRun) :
    (∀ t ∈ ts, t.run.Pairwise (fun a b => Bytes.lt a.key b.key = true)) ∧
    ts.Pairwise (fun a b => ∀ k, ¬ (a.rangeContainsKey k = true ∧ b.rangeContainsKey k = true)) ∧
    (∀ c ∈ writeRun target es, ∀ id k, Lsm.Tbl.get ⟨id, toRun c⟩ k = (lookup c k).map toLsm) ∧
    (∀ c : List Entry, ∀ id p, Lsm.Tbl.scan ⟨id, toRun c⟩ p = toRun (c.filter (fun e => e.key.hasPrefix p))) := by
  obtain ⟨hsorted, hranges⟩ := writeRun_level target ht es hs ts hts
  refine ⟨hsorted, hranges, ?_, ?_⟩
  · intro c hc id k
    exact tbl_get_toRun id c ((writeRun_pairwise target es hs).2 c hc) k
  · intro c id p
    exact (toRun_filter c p).symm

/-! ## write-ahead log -/

/-- record codec: decode ∘ encode = id, with any bytes following -/
theorem wal_codec (e : Rec) (h : e.WF) (rest : Bytes) : decRec (encRec e ++ rest) = some (e, rest) :=
  decRec_encRec e h rest

/-- `Reader.All` on a file of records with consecutive sequence numbers `f, f+1, …` and a start marker from `f − 1` to
the file's last sequence number, below `seqMod − 1`: exactly the records after the marker, in order (deletes without
value and sequence number, as the code yields them) -/
theorem wal_reader_after (f : Nat) (e : Rec) (es : List Rec) (hwf : ∀ x ∈ e :: es, x.WF) (hc : Consecutive f (e :: es))
    (after : Nat) (hlo : f ≤ after + 1) (hhi : after + 1 ≤ f + (e :: es).length) (hw : after + 1 < seqMod) :
    readAll (encRecs (e :: es)) after = .ok (((e :: es).filter (fun x => decide (after < x.seq))).map Rec.toRead) :=
  readAll_consecutive f (e :: es) hwf hc after hlo hhi hw

/-- a start marker more than one below the first record of the file is refused (the records in between are gone) -/
theorem wal_reader_gap (e : Rec) (es : List Rec) (he : e.WF) (after : Nat) (h : after + 1 < e.seq) :
    readAll (encRecs (e :: es)) after = .panic :=
  readAll_panic e es he.seq after (Nat.lt_of_le_of_lt (Nat.mod_le _ _) h)

/-- the marker arithmetic wraps like the Go type: the largest marker `seqMod − 1` is refused by every file that does
not start at sequence number 0 (`startAfter + 1` is 0); this is why the replay theorems assume `after + 1 < seqMod` -/
theorem wal_reader_marker_wraps (e : Rec) (es : List Rec) (he : e.WF) (h : 0 < e.seq) :
    readAll (encRecs (e :: es)) (seqMod - 1) = .panic := by
  apply readAll_panic e es he.seq
  have hpos : 0 < seqMod := by decide
  have : seqMod - 1 + 1 = seqMod := by omega
  rw [this, Nat.mod_self]; exact h

/-- writer bookkeeping for every history of put/delete/cut/truncate/rotate (sequence numbers never decreasing):
what a save contains is a suffix of everything appended, and every record newer than all truncations is in it -/
theorem wal_writer_retains (ops : List Op) (id m : Nat) (hmono : MonoSeqs 0 ops) :
    (∃ n, ((Writer.new id m).run ops).entries = (appended ops).drop n) ∧
    ∀ e ∈ appended ops, maxTrunc ops < e.seq → e ∈ ((Writer.new id m).run ops).entries :=
  winv_retains (winv_run_new ops id m hmono)

/-- end to end: after any such history with consecutive sequence numbers, the saved file read with a start marker
that is at least every truncation, between `f − 1` and the last sequence number appended and below `seqMod − 1`
replays exactly the appended operations after the marker -/
theorem wal_replay (ops : List Op) (id m f after : Nat)
    (hmono : MonoSeqs 0 ops) (hcons : Consecutive f (appended ops)) (hwf : ∀ e ∈ appended ops, e.WF)
    (hT : maxTrunc ops ≤ after) (hlo : f ≤ after + 1) (hhi : after + 1 ≤ f + (appended ops).length)
    (hw : after + 1 < seqMod) :
    readAll ((Writer.new id m).run ops).save after
      = .ok (((appended ops).filter (fun e => decide (after < e.seq))).map Rec.toRead) :=
  readAll_save (winv_run_new ops id m hmono) f after hcons hwf hT hlo hhi hw

/-- a sealed writer is immutable: the writer rotated away after `ops₁` is what those operations built, at the same
position and with the same content after ANY later history `ops₂` of its successors — so the bytes `Save` writes for
it, whenever the asynchronous save runs, depend only on the operations before its `Rotate` (second conjunct: the first
with `Writer.save` unfolded).
In the functional model this holds BY CONSTRUCTION (`Log.apply` never touches `sealed`); its weight is what it
asks of the code, which is established elsewhere:
* successors do not share mutable storage with the sealed writer — not provable from source shape; held to the real
  `wal.Writer` by the lockstep ops `wrotl … wsavel` (the successor truncates carried segments, cuts and appends
  before the old writer is saved; seeded change C17-5 is exactly a violation of this);
* no method mutates a writer after `Rotate` sealed it — `wal_lock_shape` (3): every mutating method starts with a
  panicking test of `sealed` (that it fires on a sealed writer and not on an unsealed one is seen by the lockstep only);
* no `Truncate` is in flight between its guard and its lock while `Rotate` runs (the guard precedes the lock in
  `writer.go`) — NOT a fact of `dkv/wal`; in `dkv/db.go` `Rotate` runs inside the `db.mu` section of `DB.Checkpoint`
  and `Truncate` inside the `db.mu` section of the flush commit: C08's facts `Facts.c08CaptureUnderLock` (hard) and
  `Facts.c08FlushTruncates` (observed, with a correspondence fall-back). -/
theorem wal_sealed_writer_immutable (id m : Nat) (ops₁ ops₂ : List Op) :
    let l := (Log.new id m).run (ops₁ ++ Op.rotate :: ops₂)
    let k := ((Log.new id m).run ops₁).sealed.length
    l.sealed[k]? = some ((Writer.new id m).run ops₁) ∧
    (l.sealed[k]?).map Writer.save = some (encRecs ((Writer.new id m).run ops₁).entries) := by
  intro l k
  have h := sealed_writer_immutable id m ops₁ ops₂
  exact ⟨h, by show (l.sealed[k]?).map Writer.save = _; rw [h]; rfl⟩

/-- a save of the sealed writer that runs after any amount of successor activity still replays exactly the operations
appended before the `Rotate` and after the marker (marker as in `wal_replay`) -/
theorem wal_late_save_replay (ops₁ ops₂ : List Op) (id m f after : Nat)
    (hmono : MonoSeqs 0 ops₁) (hcons : Consecutive f (appended ops₁)) (hwf : ∀ e ∈ appended ops₁, e.WF)
    (hT : maxTrunc ops₁ ≤ after) (hlo : f ≤ after + 1) (hhi : after + 1 ≤ f + (appended ops₁).length)
    (hw : after + 1 < seqMod) :
    let l := (Log.new id m).run (ops₁ ++ Op.rotate :: ops₂)
    let k := ((Log.new id m).run ops₁).sealed.length
    (l.sealed[k]?).map (fun w => readAll w.save after)
      = some (.ok (((appended ops₁).filter (fun e => decide (after < e.seq))).map Rec.toRead)) := by
  intro l k
  have h := sealed_writer_immutable id m ops₁ ops₂
  show (l.sealed[k]?).map (fun w => readAll w.save after) = _
  rw [h]
  exact congrArg some (wal_replay ops₁ id m f after hmono hcons hwf hT hlo hhi hw)

/-! ## regression witness of D27 and non-vacuity -/

/-- with the unrepaired `Rotate` (carried segments lose `latestSeqNum`) a truncation after a rotation drops a
record newer than the truncation: put 1, cut, put 2, cut, rotate, truncate 1 -/
theorem d27_counterexample :
    let w := ((((Writer.new 0 100).put [1] [] 1).cut.put [2] [] 2).cut)
    (w.rotateD27.truncate 1).entries = [] ∧ (w.rotate.truncate 1).entries = [⟨2, [2], false, []⟩] := by
  decide

/-- the hypotheses of the table theorems are satisfiable by a run with a tombstone, an empty key and an empty value -/
example : (∀ e ∈ ([⟨[], 1, false, [7]⟩, ⟨[1], 2, true, []⟩, ⟨[1, 0], 3, false, []⟩] : List Entry), e.WF) ∧
    SortedKeys [⟨[], 1, false, [7]⟩, ⟨[1], 2, true, []⟩, ⟨[1, 0], 3, false, []⟩] := by
  refine ⟨?_, by unfold SortedKeys; decide⟩
  intro e he
  simp only [List.mem_cons, List.not_mem_nil, or_false] at he
  rcases he with rfl | rfl | rfl
  · exact ⟨by decide, by decide, by decide, by decide⟩
  · exact ⟨by decide, by decide, by decide, by decide⟩
  · exact ⟨by decide, by decide, by decide, by decide⟩

/-- `lookup` distinguishes present, tombstoned and absent keys -/
example : lookup [⟨[], 1, false, [7]⟩, ⟨[1], 2, true, []⟩] [1] = some ⟨[1], 2, true, []⟩ ∧
    lookup [⟨[], 1, false, [7]⟩, ⟨[1], 2, true, []⟩] [0] = none := by decide

/-- `WriteRun` really splits: with target 20 two 18-byte entries reach the target and, being already at
`maxBuffer 20 = 30`, are flushed without look-ahead; the third fills the next table -/
example : writeRun 20 [⟨[1], 1, false, []⟩, ⟨[2], 2, false, []⟩, ⟨[3], 3, false, []⟩]
    = [[⟨[1], 1, false, []⟩, ⟨[2], 2, false, []⟩], [⟨[3], 3, false, []⟩]] := by decide

/-- table file names are plain URIs -/
example : PlainUri "memory:///000000.sst".toList := by unfold PlainUri; decide +kernel

/-- the hypothesis of `writeRun_level_invariants` is met by the tables of the run under any ids (here all 0) -/
example (target : Nat) (es : List Entry) :
    ((writeRun target es).map (fun c => (⟨0, toRun c⟩ : Lsm.Tbl))).map (·.run) = (writeRun target es).map toRun := by
  simp [List.map_map, Function.comp_def]

/-- the size bounds are met with equality-free margins by a concrete run: target 20, entries of flush size 18 -/
example : (writeRun 20 [⟨[1], 1, false, []⟩, ⟨[2], 2, false, []⟩, ⟨[3], 3, false, []⟩]).map sumSize = [36, 18] := by decide

/-- a WAL history with a truncation and a rotation that meets `hmono`, `hcons` (first sequence number 1) and `hT`
(marker 1) of `wal_replay`, and the records its save retains -/
example : MonoSeqs 0 [.put [1] [] 1, .cut, .del [2] 2, .rotate, .truncate 1, .put [3] [9] 3] ∧
    Consecutive 1 (appended [.put [1] [] 1, .cut, .del [2] 2, .rotate, .truncate 1, .put [3] [9] 3]) ∧
    maxTrunc [.put [1] [] 1, .cut, .del [2] 2, .rotate, .truncate 1, .put [3] [9] 3] ≤ 1 ∧
    ((Writer.new 0 64).run [.put [1] [] 1, .cut, .del [2] 2, .rotate, .truncate 1, .put [3] [9] 3]).entries
      = [⟨2, [2], true, []⟩, ⟨3, [3], false, [9]⟩] :=
  ⟨show 0 ≤ 1 ∧ 1 ≤ 2 ∧ 2 ≤ 3 ∧ True by decide, show 1 = 1 ∧ 2 = 1 + 1 ∧ 3 = 1 + 1 + 1 ∧ True by decide, by decide, by decide⟩

end Rxn.C17
