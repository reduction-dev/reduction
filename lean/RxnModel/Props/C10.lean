import RxnModel.Proofs.TimersRun
import RxnModel.Proofs.TimersOpRefine
import RxnModel.Proofs.TimersCompose
/-!
# C10 — event-time timers fire exactly once, in order, and survive recovery

Model: `Model/Timers.lean` — `SortedCache`, `KeyGroupPriorityQueue` (line by line, with the
eviction and reload loops, after the D11 repair), `TimerStore`, `TimerRegistry`, and the set-based specification `Spec`.
The cache size is a free parameter everywhere (`maxCache : Nat`, including 0 and sizes smaller than one timer); the
heap's peeks at arbitrary partitions are the free action `ROp.touch`. The DKV is a sorted set of keys (C07/C08) and
the partition heap is represented by its specification (C19). Timestamps are those an `int64` of nanoseconds since the
epoch can hold (`0 ≤ t < 2^63`: `PutTimeBytes` encodes `uint64(UnixNano)`).
-/
namespace Rxn.C10
open Rxn Rxn.Timers

/-- `load`, `push` and `delete` of a key group's queue keep "the cache is a prefix of the key group's keys in DB order, all of them
if `allDataInCache`, byte accounting exact" — for every cache size -/
theorem kgpq_inv (q : KGPQ) (db : DB) (k : Bytes) (h : Inv q db) (hdb : Sorted db) :
    Inv (q.load db) db ∧
    (Bytes.hasPrefix k q.pfx = true → Inv (q.push db k).1 (q.push db k).2 ∧ (q.push db k).2 = sinsert k db) ∧
    (Inv (q.delete db k).1 (q.delete db k).2 ∧ (q.delete db k).2 = db.erase k) :=
  ⟨(KGPQ.load_spec q db h hdb).1,
   fun hk => ⟨(KGPQ.push_spec q db k h hdb hk).1, (KGPQ.push_spec q db k h hdb hk).2.1⟩,
   ⟨(KGPQ.delete_spec q db k h hdb).1, (KGPQ.delete_spec q db k h hdb).2.1⟩⟩

/-- `Peek` of a key group's queue is the least timer key of the key group that is in the DB, for every cache size -/
theorem kgpq_peek_min (q : KGPQ) (db : DB) (h : Inv q db) (hdb : Sorted db) :
    q.peekView db = (db.scan q.pfx).head? := KGPQ.peekView_eq q db h hdb

/-- `GetEarliest` is none iff no owned timer is stored; otherwise it is a stored timer with the least timestamp bytes -/
theorem store_earliest_min (s : Store) (hs : SInv s) :
    (s.earliest = none → s.timerKeys = []) ∧
    ∀ k, s.earliest = some k → k ∈ s.timerKeys ∧ ∀ k' ∈ s.timerKeys, leTs k k' := earliest_spec s hs

/-- FULL STATEMENT (false of the code, see `preepoch_counterexample`, finding D51): the same without the `0 ≤ t` part
of `ROp.valid`, i.e. for timers at any timestamp an `int64` of nanoseconds can hold.
PROVED (`_partial`): with `ROp.valid`: subject keys of the store's own key groups; `0 ≤ t` (timers not before 1970: the
exclusion of D51); and `t < 2^63`, an input restriction of Go itself — `time.Time.UnixNano`: "The result is undefined if the
Unix time in nanoseconds cannot be represented by an int64 (a date before the year 1678 or after 2262)" — so timers the
codec cannot represent are outside the property (on the code they wrap around; never generated, never labelled D51);
the registry refines the timer-set specification for every history: for every cache size, every key-group range,
every sequence of registrations (repeated or not), watermark advances from any runners and heap peeks, each advance
fires exactly the timers the specification fires (each once: `Perm` of duplicate-free lists), in non-decreasing timestamp
order; afterwards the stored timers are exactly the specification's pending set -/
theorem registry_refines_spec_partial (kgc start stop maxCache : Nat) (ids : List String) (hss : start ≤ stop)
    (hstop : stop ≤ 65536) (ops : List ROp) (hv : ∀ op ∈ ops, op.valid kgc start stop) :
    OutputsAgree ((Registry.new (Store.new [] kgc start stop maxCache) ids).run ops).2 ((Spec.new ids).run ops).2 ∧
    Rel ((Registry.new (Store.new [] kgc start stop maxCache) ids).run ops).1 ((Spec.new ids).run ops).1 := by
  have h := run_refines ops _ _ kgc start stop (rel_init kgc start stop maxCache ids hss hstop)
    (shape_new [] kgc start stop maxCache hss) hv
  exact ⟨h.2.2, h.1⟩

/-- full for every `int64` timer timestamp (before 1970 too) on histories whose reported watermarks are not before 1970
— so D51 needs a watermark before 1970 (the tick of a runner that has forwarded nothing yet is one: `time.Time{}` less
lateness + 1 ns): with watermarks ≥ 0 the composite stays at or after the epoch, `SetTimer` ignores every timer before it
exactly as the specification does, and the registry refines the specification as in `registry_refines_spec_partial` -/
theorem registry_refines_spec_nonneg_watermarks (kgc start stop maxCache : Nat) (ids : List String) (hss : start ≤ stop)
    (hstop : stop ≤ 65536) (ops : List ROp) (hv : ∀ op ∈ ops, op.validNN kgc start stop) :
    OutputsAgree ((Registry.new (Store.new [] kgc start stop maxCache) ids).run ops).2 ((Spec.new ids).run ops).2 ∧
    Rel ((Registry.new (Store.new [] kgc start stop maxCache) ids).run ops).1 ((Spec.new ids).run ops).1 := by
  have h := run_refines_nn ops _ _ kgc start stop (rel_init kgc start stop maxCache ids hss hstop)
    (shape_new [] kgc start stop maxCache hss) (wmNonneg_new _ ids) hv
  exact ⟨h.2.2, h.1⟩

/-- the specification itself: a timer is pending from its registration (if later than the watermark) until the first
advance whose composite watermark reaches it; that advance fires it and leaves it pending no more; registering it again
changes nothing -/
theorem spec_fires_exactly_once (sp : Spec) (key : Bytes) (t : Int) (sender : String) (wm : Int) :
    (sp.setTimer key t).setTimer key t = sp.setTimer key t ∧
    (∀ p, p ∈ (sp.advance sender wm).2 ↔ (p ∈ sp.pending ∧ p.2 ≤ (sp.advance sender wm).1.wm)) ∧
    (∀ p, p ∈ (sp.advance sender wm).1.pending ↔ (p ∈ sp.pending ∧ p.2 > (sp.advance sender wm).1.wm)) := by
  refine ⟨sp.setTimer_idem key t, ?_, ?_⟩
  · intro p; simp [Spec.advance, List.mem_filter]
  · intro p; simp [Spec.advance, List.mem_filter]

/-- registering the same timer again does not duplicate it in the implementation either -/
theorem set_idempotent (r : Registry) (sp : Spec) (kgc start stop : Nat) (h : Rel r sp)
    (hsh : Shape r.store kgc start stop) (key : Bytes) (t : Int) (hv : (ROp.set key t).valid kgc start stop) :
    Rel ((r.setTimer key t).setTimer key t) (sp.setTimer key t) := by
  have s1 := setTimer_refines r sp kgc start stop h hsh key t hv
  have s2 := (setTimer_refines _ _ kgc start stop s1.1 s1.2 key t hv).1
  rw [sp.setTimer_idem key t] at s2
  exact s2

/-- (`_partial`: same exclusion as `registry_refines_spec_partial`, timers not before 1970 — D51.)
recovery: a registry rebuilt with fresh caches of any size over the DB content at a checkpoint (C08: restore gives the
DB at the Checkpoint call) has exactly the timers pending at the checkpoint — a pending timer is still pending, a timer
that fired before the checkpoint (it is deleted from the DB before it is handed out) is not — and from there on it
refines the specification again -/
theorem restore_pending_partial (kgc start stop maxCache maxCache' : Nat) (ids ids' : List String) (hss : start ≤ stop)
    (hstop : stop ≤ 65536) (before after : List ROp)
    (hv1 : ∀ op ∈ before, op.valid kgc start stop) (hv2 : ∀ op ∈ after, op.valid kgc start stop) :
    let atCkpt := ((Registry.new (Store.new [] kgc start stop maxCache) ids).run before).1
    let specCkpt := ((Spec.new ids).run before).1
    let restored := Registry.new (Store.new atCkpt.store.db kgc start stop maxCache') ids'
    let specRestored : Spec := ⟨specCkpt.pending, Wm.Ups.init ids', Wm.regInit⟩
    Rel restored specRestored ∧
    OutputsAgree (restored.run after).2 (specRestored.run after).2 ∧
    Rel (restored.run after).1 (specRestored.run after).1 := by
  intro atCkpt specCkpt restored specRestored
  have h1 := run_refines before _ _ kgc start stop (rel_init kgc start stop maxCache ids hss hstop)
    (shape_new [] kgc start stop maxCache hss) hv1
  have hr : Rel restored specRestored := restore_rel atCkpt specCkpt kgc start stop h1.1 h1.2.1 hstop maxCache' ids'
  have h2 := run_refines after restored specRestored kgc start stop hr
    (shape_new _ kgc start stop maxCache' hss) hv2
  exact ⟨hr, h2.2.2, h2.1⟩

/-- (`_partial`: timers not before 1970 — D51.) recovery into a different key-group range (rescale): a registry rebuilt
with fresh caches of any size over the DB content at a checkpoint, for any sub-range `[start', stop')` of the old range,
has exactly the pending timers whose key group lies in the new range, and refines the specification from there on -/
theorem restore_pending_subrange_partial (kgc start stop start' stop' maxCache maxCache' : Nat) (ids ids' : List String)
    (hk0 : 0 < kgc) (hk1 : kgc ≤ 65536) (hss : start ≤ stop) (hstop : stop ≤ 65536)
    (hs1 : start ≤ start') (hs2 : start' ≤ stop') (hs3 : stop' ≤ stop) (before after : List ROp)
    (hv1 : ∀ op ∈ before, op.valid kgc start stop) (hv2 : ∀ op ∈ after, op.valid kgc start' stop') :
    let atCkpt := ((Registry.new (Store.new [] kgc start stop maxCache) ids).run before).1
    let specCkpt := ((Spec.new ids).run before).1
    let restored := Registry.new (Store.new atCkpt.store.db kgc start' stop' maxCache') ids'
    let specRestored : Spec :=
      ⟨specCkpt.pending.filter (fun p => decide (start' ≤ KeySpace.keyGroup kgc p.1) && decide (KeySpace.keyGroup kgc p.1 < stop')),
       Wm.Ups.init ids', Wm.regInit⟩
    Rel restored specRestored ∧
    OutputsAgree (restored.run after).2 (specRestored.run after).2 ∧
    Rel (restored.run after).1 (specRestored.run after).1 := by
  intro atCkpt specCkpt restored specRestored
  have h1 := run_refines before _ _ kgc start stop (rel_init kgc start stop maxCache ids hss hstop)
    (shape_new [] kgc start stop maxCache hss) hv1
  have hr : Rel restored specRestored :=
    restore_rel_subrange atCkpt specCkpt kgc start stop start' stop' h1.1 h1.2.1 hk0 hk1 hstop hs1 hs2 hs3 maxCache' ids'
  have h2 := run_refines after restored specRestored kgc start' stop' hr
    (shape_new _ kgc start' stop' maxCache' hs2) hv2
  exact ⟨hr, h2.2.2, h2.1⟩

/-- (`_partial`: timers `0 ≤ t` — D51 — of owned keys.) the operator's loop over `AdvanceWatermark` — `handleWatermark`, where
full batches are handed to the handler **between two firings** and the handler's new timers go through `SetTimer` while the
iterator is still being consumed — refines the specification: for every operator state related to a specification state,
every batch size and batch content (the modelled handler registers timers in answer to keyed events only), every cache size,
the `TimerExpired` events the step adds (to the requests it sends and to the batch it leaves) are exactly the timers pending at or before the new composite watermark, each once (`Perm` of a
duplicate-free list), in non-decreasing timestamp order — so a timer the handler registers during the step does not fire in
it; afterwards the registry is related to some specification state at the new composite in which nothing at or before the
composite is pending and every timer pending before and later than it still is (which of the handler's registrations are
pending there the statement does not say). -/
theorem op_refines_spec_partial (o : Op) (sp : Spec) (kgc start stop : Nat) (h : Rel o.reg sp)
    (hsh : Shape o.reg.store kgc start stop) (hv : ∀ x ∈ o.batch, x.valid kgc start stop) (sender : String) (v : Int) :
    (∃ fired : List (Bytes × Int),
      allEvents (o.watermark sender v).2 (o.watermark sender v).1 = o.batch ++ fired.map (fun p => HEv.expired p.1 p.2) ∧
      fired.Perm (sp.advance sender v).2 ∧ fired.Pairwise (fun a b => a.2 ≤ b.2) ∧ fired.Nodup) ∧
    (∃ sp', Rel (o.watermark sender v).1.reg sp' ∧ sp'.wm = (sp.advance sender v).1.wm ∧
      (∀ p ∈ sp'.pending, p.2 > sp'.wm) ∧ (∀ p ∈ (sp.advance sender v).1.pending, p ∈ sp'.pending)) ∧
    Shape (o.watermark sender v).1.reg.store kgc start stop ∧
    (∀ x ∈ (o.watermark sender v).1.batch, x.valid kgc start stop) := by
  have r := opWatermark_refines o sp kgc start stop h hsh hv sender v
  obtain ⟨fired, f1, f2, f3⟩ := r.out
  obtain ⟨sp', s1, s2, s3, s4⟩ := r.rel
  refine ⟨⟨fired, f1, f2, f3, ?_⟩, ⟨sp', s1, s2, ?_, ?_⟩, r.shape, r.valid⟩
  · exact (f2.nodup_iff).mpr (List.Pairwise.filter _ h.nodup)
  · intro p hp
    have : p ∉ dueOf sp' (sp.ups.report sender v).2 := by rw [s3]; exact List.not_mem_nil
    rw [s2]
    by_cases hle : p.2 ≤ (sp.ups.report sender v).2
    · exact absurd (List.mem_filter.mpr ⟨hp, by simpa using hle⟩) this
    · omega
  · intro p hp
    have hp' := List.mem_filter.mp hp
    exact s4 p hp'.1 (by simpa using hp'.2)

/-- composition with C07 (the DKV is not an assumption): in every state of the LSM reachable by any history of
puts, deletes, memtable rotations, flush begins/commits, compaction commits and reads, the key set `dbOf s` (what the
code's `ScanPrefix` returns for the empty prefix) is a `Timers.DB` — strictly ascending —, the code's `ScanPrefix(p)`
over the tables `AllTablesForPrefix` selects returns exactly `DB.scan (dbOf s) p` (what `loadFromDB` iterates), a `Put`
acts on it as `DB.put`, a `Delete` as `DB.delete`, and every other action leaves it unchanged. So the timer model's
DKV is the image of the proven LSM model under `dbOf`. (Uses `C07.reachable_ordered`, `C07.spec_last_write_wins`; the bridges
of `Proofs/TimersCompose.lean` hold of every state with C07's invariants.) -/
theorem dkv_is_timer_db (as : List Lsm.Act) (s : Lsm.State) (m : Lsm.Spec) (h : Lsm.runBoth {} [] as = some (s, m)) :
    Sorted (dbOf s) ∧
    (∀ p, (Rescale.scanR s p).map (·.key) = DB.scan (dbOf s) p) ∧
    (∀ k v s', Lsm.step s (.put k v) = some s' → dbOf s' = DB.put (dbOf s) k) ∧
    (∀ k s', Lsm.step s (.del k) = some s' → dbOf s' = DB.delete (dbOf s) k) ∧
    (∀ a s', Lsm.specStep m s.seq a = m → Lsm.step s a = some s' → dbOf s' = dbOf s) :=
  have ⟨hi, hr, ho⟩ := C07.reachable_ordered as s m h
  ⟨dbOf_sorted hi ho, scan_bridge hi ho, put_bridge hi hr ho, delete_bridge hi hr ho,
   fun a s' hw hs => background_bridge hi hr ho a hw s' hs⟩

/-! ### D51: timers before 1970 (open finding)

`encodeTimerKey` stores `uint64(t.UnixNano())` big-endian and every order in the timer store is the byte order of the
keys, so a timer with a negative `UnixNano` sorts after all timers from 1970 on. -/

/-- the runner's watermark is before 1970 (it processes older data); a timer 5 ns before the epoch and one in the year
2100 are registered; then the watermark advances to 10 s and beyond 2100 -/
def preEpochOps : List ROp :=
  [.adv "sr0" (-1000000000), .set [0x6b] (-5), .set [0x6b] 4102444800000000000, .adv "sr0" 10000000000,
   .adv "sr0" 4102444800000000001]

/-- the code (model) fires nothing at 10 s although the timer at −5 ns is due, and when the watermark passes the year
2100 it fires 2100 first and −5 ns after it; the specification fires −5 ns at 10 s. So `registry_refines_spec_partial`
without `0 ≤ t` is false: the outputs of the fourth action differ. -/
theorem preepoch_counterexample :
    ((Registry.new (Store.new [] 1 0 1 1048576) ["sr0"]).run preEpochOps).2 =
      [[], [], [], [], [([0x6b], 4102444800000000000), ([0x6b], -5)]] ∧
    ((Spec.new ["sr0"]).run preEpochOps).2.map (·.map (·.2)) = [[], [], [], [-5], [4102444800000000000]] ∧
    ¬ OutputsAgree ((Registry.new (Store.new [] 1 0 1 1048576) ["sr0"]).run preEpochOps).2
        ((Spec.new ["sr0"]).run preEpochOps).2 := by
  have h1 : ((Registry.new (Store.new [] 1 0 1 1048576) ["sr0"]).run preEpochOps).2 =
      [[], [], [], [], [([0x6b], 4102444800000000000), ([0x6b], -5)]] := by decide
  have h2 : ((Spec.new ["sr0"]).run preEpochOps).2 =
      [[], [], [], [([0x6b], -5)], [([0x6b], 4102444800000000000)]] := by decide
  refine ⟨h1, by rw [h2]; rfl, ?_⟩
  rw [h1, h2]
  intro h
  have := h.2.2.2.1.1.length_eq
  simp at this

/-- **A consumer that stops early loses nothing and repeats nothing.** `fireLoop comp k` is the iterator of
`AdvanceWatermark` whose consumer stops after `k` timers (`Operator.handleWatermark` returns from inside the loop when a
batch fails; the code deletes a timer before it yields it). Iterating again for the same composite watermark and draining
ends in the store of, and hands out together with the first `k` exactly the timers of, one drained `AdvanceWatermark` —
in its order, each once — for every `k`, every cache size and every store satisfying the store invariant. (That a repeated
report of the same sender and watermark yields the same composite watermark is `Wm.Ups.report_idem`, used by
`partial_then_drain_registry` below.) -/
theorem partial_then_drain (r : Registry) (sender : String) (wm : Int) (k : Nat) (hs : SInv r.store) :
    let c := (r.ups.report sender wm).2
    let p := fireLoop c k r.store
    let d := fireLoop c (p.1.db.length + 1) p.1
    (r.advance sender wm).1.store = d.1 ∧ (r.advance sender wm).2 = p.2 ++ d.2 :=
  fireLoop_partial_then_drain (r.ups.report sender wm).2 k r.store hs

/-- the same at the level of the registry: after an iteration stopped after `k` timers (store `p.1`, the report recorded),
`AdvanceWatermark` with the same report — the composite watermark is then the same, `Wm.Ups.report_idem` — ends in the
registry of, and completes the timers of, one drained call -/
theorem partial_then_drain_registry (r : Registry) (sender : String) (wm : Int) (k : Nat) (hs : SInv r.store) :
    let u := r.ups.report sender wm
    let p := fireLoop u.2 k r.store
    let r' : Registry := { store := p.1, ups := u.1, wm := u.2 }
    (r'.advance sender wm).1 = (r.advance sender wm).1 ∧ p.2 ++ (r'.advance sender wm).2 = (r.advance sender wm).2 := by
  intro u p r'
  have hi : u.1.report sender wm = u := Wm.Ups.report_idem r.ups sender wm
  obtain ⟨h1, h2⟩ := fireLoop_partial_then_drain u.2 k r.store hs
  simp only [Registry.advance, r', hi]
  exact ⟨by rw [h1], h2.symm⟩

/-- the two pieces on a concrete store: three pending timers, the consumer takes one, the second iteration the other two -/
example :
    let s := ((Registry.new (Store.new [] 1 0 1 30) ["sr0"]).run [.set [0x6b] 1, .set [0x6b] 2, .set [0x6b] 5]).1.store
    (fireLoop 100 1 s).2 = [([0x6b], 1)] ∧ (fireLoop 100 4 (fireLoop 100 1 s).1).2 = [([0x6b], 2), ([0x6b], 5)] := by
  decide

/-! non-vacuity and the D11 regression witness (2-entry cache: put 1, 2, 5; fire 1; put 9; the rest must fire as 2, 5, 9).
The `.touch 0` meets a non-empty cache (`[2]`) and reloads nothing. -/

def witnessOps : List ROp :=
  [.set [0x6b] 1, .set [0x6b] 2, .set [0x6b] 5, .adv "sr0" 1, .set [0x6b] 9, .touch 0, .adv "sr0" 100]

example : ((Registry.new (Store.new [] 1 0 1 30) ["sr0"]).run witnessOps).2 =
    [[], [], [], [([0x6b], 1)], [], [], [([0x6b], 2), ([0x6b], 5), ([0x6b], 9)]] := by decide

example : ((Spec.new ["sr0"]).run witnessOps).2.map (·.length) = [0, 0, 0, 1, 0, 0, 3] := by decide

example : ∀ op ∈ witnessOps, op.valid 1 0 1 := by
  -- with one key group every key is of group 0, which the range `[0, 1)` owns
  have hset : ∀ t : Int, 0 ≤ t → t < 9223372036854775808 → (ROp.set [0x6b] t).valid 1 0 1 := fun t h0 h1 =>
    ⟨Nat.zero_le _, Nat.mod_lt _ Nat.one_pos, h0, h1⟩
  intro op hop
  simp only [witnessOps, List.mem_cons, List.not_mem_nil, or_false] at hop
  rcases hop with h | h | h | h | h | h | h
  · rw [h]; exact hset 1 (by decide) (by decide)
  · rw [h]; exact hset 2 (by decide) (by decide)
  · rw [h]; exact hset 5 (by decide) (by decide)
  · rw [h]; trivial
  · rw [h]; exact hset 9 (by decide) (by decide)
  · rw [h]; trivial
  · rw [h]; trivial

end Rxn.C10
