import RxnModel.Proofs.Align
/-!
# C02 — barrier alignment gives every operator checkpoint a consistent cut

Model and its actions: `Model/Align.lean`; the vocabulary of traces (`procsOf`, `entriesOf`, `userOf`, `userProcs`,
`lastProc`, `timersOf`): `Proofs/AlignTrace.lean`.

The trace theorems are stated for one *deployment epoch*: a run `runFrom s0 [] as` from any `Fresh` state `s0`
(no checkpoint in progress, nobody parked, job reachable — the initial state `init k b` is fresh, and so is the
state right after a `redeploy` of a running operator with at least one runner and no armed ack failure,
`init_is_fresh` / `redeploy_is_fresh`) under any list `as` of plain actions (`Act.plain`: `align`, `go`, `tick`,
`stale`, `cancel`). Every `align sr it` carries its item, so this covers every number of senders,
every per-sender sequence of keyed events / watermarks / barriers / source-complete markers (including repeated,
skipped and mismatching barrier ids), every batch size and every interleaving, with any number of consecutive
checkpoints. A fresh state may carry keyed state, timers, events waiting in the batcher and calls that already
passed alignment (the last two survive a redeploy in the code); the theorems account for them (`s0.kv`,
`s0.timers`, `userOf s0.pending`).

What is guaranteed when the ack to the job fails is stated separately (`failed_ack_*`, `stale_record_rejects`): the
batch is flushed but the completed checkpoint record stays (when it is `db.Checkpoint` that fails, without a
snapshot); nobody blocks any more, every barrier with another id is rejected, and only a redeploy (which the failing
sender's worker triggers by exiting) starts a new epoch.

Senders `k … k+z-1` are callers that are not among the deployed `SourceRunnerIds` (runners of a previous deployment):
they are part of every schedule quantified over (`demoZombie`). Not covered: each sender issues its
`HandleEventBatch` calls sequentially; at least one runner is deployed (`Fresh.kpos`); a redeploy is modelled onto
fresh storage (restoring DKV state is C06/C08).
-/
namespace Rxn.C02
open Rxn Rxn.Align

def snapsOf : List Obs → List (Nat × KVf × Timers)
  | [] => []
  | Obs.snap id S T :: r => (id, S, T) :: snapsOf r
  | _ :: r => snapsOf r

def Plain (as : List Act) : Prop := ∀ a ∈ as, a.plain = true

/-- **Consistent cut (partial with respect to undeployed callers, finding D69, fixed).** The property speaks of the
events "each upstream source runner delivered". An operator that admits callers outside the deployed
`SourceRunnerIds` (`z > 0`: senders `k … k+z-1`, e.g. a runner of the previous assembly that is still alive; before the
repair of D69 `Operator.HandleEvent` did not look at the sender id) serves them like runners: their keyed events are
among `userProcs (procsOf pre)` below and enter the checkpoint (`consistent_cut_counterexample`). This statement holds
for every `z`; `consistent_cut` adds the missing clause for `z = 0`, which is the code since the repair
(`code_checks_sender`).
Whenever a checkpoint `id` is taken with keyed state `S`, then for the trace `pre` before it:
`S` is the fold of exactly the entries the handler received (nothing is still pending in the batcher); the keyed
events the handler received are exactly those waiting at the start of the epoch followed by the keyed events
the consumer took from the senders, in the same order; and for every deployed runner the last item taken from it is
its barrier `id` — the snapshot contains the effects of what each runner delivered up to its own barrier `id` and of
nothing a runner delivered after it. -/
theorem consistent_cut_partial (s0 : St) (hf : Fresh s0) (as : List Act) (hpl : Plain as) (pre post : List Obs) (id : Nat)
    (S : KVf) (T : Timers) (h : (runFrom s0 [] as).2 = pre ++ Obs.snap id S T :: post) :
    S = (entriesOf pre).foldl applyRec s0.kv ∧
    userOf (entriesOf pre) = userOf s0.pending ++ userProcs (procsOf pre) ∧
    ∀ sr, sr < s0.k → lastProc sr (procsOf pre) = some (Item.bar id) := by
  have hcut := (run_ok hf as hpl).cut
  rw [h] at hcut
  exact cutOK_split hcut

/-- **The code turns callers away that are not deployed runners** (repair of D69, a8de76c): the fact regenerated from
`Operator.HandleEvent` says the sender is checked before the alignment decision. If the check disappears from the
source this theorem no longer type-checks (the recogniser of tools/gofacts looks for an early return on a condition
over the sender and the runner set in front of `alignSender`, not at its polarity). -/
theorem code_checks_sender : Facts.c02SenderChecked = 1 := by decide

/-- hence the operator of the current source admits no caller outside its runners, however many call -/
theorem code_admits_runners_only (k b z : Nat) : (codeInit k b z).z = 0 := by
  simp [codeInit, admittedZ, code_checks_sender]

/-- **Consistent cut.** An operator that admits only its deployed runners (`z = 0`: what the current code does,
`code_admits_runners_only`) puts into checkpoint `id` the effects of exactly what the deployed runners delivered up to
their own barrier `id`: the clauses of `consistent_cut_partial`, and every item the consumer took before the snapshot
is a deployed runner's — whatever other senders try to call. -/
theorem consistent_cut (s0 : St) (hf : Fresh s0) (hz : s0.z = 0) (as : List Act) (hpl : Plain as)
    (pre post : List Obs) (id : Nat) (S : KVf) (T : Timers)
    (h : (runFrom s0 [] as).2 = pre ++ Obs.snap id S T :: post) :
    S = (entriesOf pre).foldl applyRec s0.kv ∧
    userOf (entriesOf pre) = userOf s0.pending ++ userProcs (procsOf pre) ∧
    (∀ sr, sr < s0.k → lastProc sr (procsOf pre) = some (Item.bar id)) ∧
    ∀ x ∈ procsOf pre, x.1 < s0.k := by
  obtain ⟨c1, c2, c3⟩ := consistent_cut_partial s0 hf as hpl pre post id S T h
  refine ⟨c1, c2, c3, ?_⟩
  intro x hx
  have hx' : x ∈ procsOf (runFrom s0 [] as).2 := by
    rw [h, procsOf_append]
    exact List.mem_append_left _ hx
  rcases runFrom_procs_lt as s0 [] x hx' with hnil | hlt
  · cases hnil
  · simpa [hz] using hlt

/-- the statement about the code: a run of the operator of the current source, with any number of further callers -/
theorem consistent_cut_code (k b z : Nat) (hk : 0 < k) (as : List Act) (hpl : Plain as) (pre post : List Obs)
    (id : Nat) (S : KVf) (T : Timers) (h : (runFrom (codeInit k b z) [] as).2 = pre ++ Obs.snap id S T :: post) :
    S = (entriesOf pre).foldl applyRec emptyKV ∧
    userOf (entriesOf pre) = userProcs (procsOf pre) ∧
    (∀ sr, sr < k → lastProc sr (procsOf pre) = some (Item.bar id)) ∧
    ∀ x ∈ procsOf pre, x.1 < k := by
  have hf : Fresh (codeInit k b z) := ⟨rfl, (fun _ _ h => nomatch h), rfl, hk⟩
  exact consistent_cut (codeInit k b z) hf (code_admits_runners_only k b z) as hpl pre post id S T h

/-- two deployed runners (0, 1) deliver barrier 1 after a caller that is not deployed (2) has delivered a keyed event -/
def zombieCut : List Act :=
  [.align 2 (.ev [0x61] 5 0), .go 2, .align 0 (.bar 1), .go 0, .align 1 (.bar 1), .go 1]

/-- **Counterexample (D69, the rule before the repair).** An operator that admits a caller outside its runners
(`z = 1`; the code before a8de76c) under `zombieCut`: before the first snapshot the handler received a keyed event of
a sender that is no deployed runner, so the last clause of `consistent_cut` fails. (`demoZombie` below evaluates such a
run: checkpoint 1 holds the caller's payload 5.) -/
theorem consistent_cut_counterexample :
    ∃ pre id S T post, (runFrom { init 2 1 with z := 1 } [] zombieCut).2 = pre ++ Obs.snap id S T :: post ∧
      Plain zombieCut ∧ ∃ e ∈ userOf (entriesOf pre), ¬ e.1 < 2 := by
  have hc : firstCut (runFrom { init 2 1 with z := 1 } [] zombieCut).2 =
      some ([(2, [0x61], 5, 0)], [(2, [0x61], 5, 0)]) := by rfl
  obtain ⟨pre, id, S, T, post, e, hu, _⟩ := firstCut_spec _ _ _ hc
  refine ⟨pre, id, S, T, post, e, by unfold Plain; decide, (2, [0x61], 5, 0), ?_, by decide⟩
  rw [← hu]
  exact List.mem_cons_self

/-- `consistent_cut_partial` for a run from the initial state -/
theorem consistent_cut_init (k b : Nat) (hk : 0 < k) (as : List Act) (hpl : Plain as) (pre post : List Obs) (id : Nat) (S : KVf)
    (T : Timers) (h : (run k b as).2 = pre ++ Obs.snap id S T :: post) :
    S = (entriesOf pre).foldl applyRec emptyKV ∧
    userOf (entriesOf pre) = userProcs (procsOf pre) ∧
    ∀ sr, sr < k → lastProc sr (procsOf pre) = some (Item.bar id) :=
  consistent_cut_partial (init k b) (init_fresh k b hk) as hpl pre post id S T h

/-- **The snapshot's timers.** The timer set of checkpoint `id` is exactly the store replayed from the trace before
it: timers requested by the events the handler processed before the cut (each under the `SetTimer` guard of the
watermark of that handler call) are in it, timers fired before the cut are not — and by `consistent_cut_partial` nothing
a deployed runner delivered after its barrier `id` (in particular no watermark) contributed. -/
theorem snapshot_timers (s0 : St) (hf : Fresh s0) (as : List Act) (hpl : Plain as) (pre post : List Obs) (id : Nat)
    (S : KVf) (T : Timers) (h : (runFrom s0 [] as).2 = pre ++ Obs.snap id S T :: post) :
    T = timersOf s0.timers pre := by
  have htok := (run_ok hf as hpl).snaps
  rw [h] at htok
  exact timersOK_split htok

/-- every timer in a checkpoint was pending at the start of the epoch or was requested by a keyed event with that
key and timestamp that the handler processed before the cut -/
theorem snapshot_timers_from_events (s0 : St) (hf : Fresh s0) (as : List Act) (hpl : Plain as)
    (pre post : List Obs) (id : Nat) (S : KVf) (T : Timers)
    (h : (runFrom s0 [] as).2 = pre ++ Obs.snap id S T :: post) (t : Nat) (key : Bytes) (ht : (t, key) ∈ T) :
    (t, key) ∈ s0.timers ∨ ∃ sr p, Entry.user sr key p t ∈ entriesOf pre := by
  rw [snapshot_timers s0 hf as hpl pre post id S T h] at ht
  exact mem_timersOf pre s0.timers ht

/-- **Post-barrier events are blocked.** After the barrier `id` of a deployed runner `sr` has been accepted, the
consumer takes no further item of `sr` (keyed event, watermark — hence no timer firing caused by it — barrier or
source-complete) until a snapshot has been taken, and the first snapshot taken after it is the one of checkpoint `id`. -/
theorem post_barrier_blocked (s0 : St) (hf : Fresh s0) (as : List Act) (hpl : Plain as) (pre mid post : List Obs)
    (sr id : Nat) (it : Item) (hsr : sr < s0.k)
    (h : (runFrom s0 [] as).2 = pre ++ Obs.reg sr id :: (mid ++ Obs.proc sr it :: post)) :
    ∃ m1 S T m2, mid = m1 ++ Obs.snap id S T :: m2 ∧ ∀ id' S' T', Obs.snap id' S' T' ∉ m1 := by
  have hal := (run_ok hf as hpl).align
  rw [h, alignOK_append] at hal
  have hu := alignOK_uniqueKeys pre [] uniqueKeys_nil hal.1
  have h2 := hal.2
  rw [alignOK_cons] at h2
  exact alignOK_blocked_id hsr mid _ post (hu.cons h2.1) List.mem_cons_self h2.2

/-- the same as a state invariant: while checkpoint `id` is in progress, a deployed runner whose barrier is no longer
missing has delivered that barrier as its last item and is not standing at the gate in front of the consumer -/
theorem delivered_sender_blocked (s0 : St) (hf : Fresh s0) (as : List Act) (hpl : Plain as) (id : Nat)
    (m : List Nat) (hc : (runFrom s0 [] as).1.ckpt = some (id, m)) (sr : Nat) (hsr : sr < s0.k) (hm : sr ∉ m) :
    lastProc sr (procsOf (runFrom s0 [] as).2) = some (Item.bar id) ∧
    ∀ it, (runFrom s0 [] as).1.slots sr ≠ some (it, true) := by
  have hr := run_ok hf as hpl
  exact (hr.inv.ck id m hc).2 sr (hr.k ▸ hsr) hm

/-- **Consecutive checkpoints.** Between two snapshots of one run every deployed runner had a fresh barrier accepted,
and it carries the id of the second snapshot: no checkpoint reuses barriers of an earlier one or mixes ids, for any
number of checkpoints in a run. -/
theorem consecutive_checkpoints (s0 : St) (hf : Fresh s0) (as : List Act) (hpl : Plain as) (pre mid post : List Obs)
    (id1 id2 : Nat) (S1 S2 : KVf) (T1 T2 : Timers)
    (h : (runFrom s0 [] as).2 = pre ++ Obs.snap id1 S1 T1 :: (mid ++ Obs.snap id2 S2 T2 :: post)) :
    ∀ sr, sr < s0.k → Obs.reg sr id2 ∈ mid := by
  have hal := (run_ok hf as hpl).align
  rw [h, alignOK_append] at hal
  have h2 := hal.2
  rw [alignOK_cons] at h2
  exact fun sr hsr => alignOK_fresh mid [] post h2.2 sr hsr List.not_mem_nil

/-- the first snapshot of an epoch, too, needs an accepted barrier with its id from every deployed runner -/
theorem first_checkpoint (s0 : St) (hf : Fresh s0) (as : List Act) (hpl : Plain as) (pre post : List Obs)
    (id : Nat) (S : KVf) (T : Timers) (h : (runFrom s0 [] as).2 = pre ++ Obs.snap id S T :: post) :
    ∀ sr, sr < s0.k → Obs.reg sr id ∈ pre := by
  have hal := (run_ok hf as hpl).align
  rw [h] at hal
  exact fun sr hsr => alignOK_fresh pre [] post hal sr hsr List.not_mem_nil

/-- **Id mismatch is rejected.** A barrier whose id differs from the checkpoint record in place changes nothing but
the sender's own call returning (with the mismatch error): the checkpoint, the missing set, the store, the
pending batch and the parked senders are untouched and no snapshot is taken. -/
theorem id_mismatch_rejected (s : St) (sr id cid : Nat) (m : List Nat) (hlive : s.stopped = false)
    (hsr : sr < s.k) (hslot : s.slots sr = some (Item.bar id, true)) (hc : s.ckpt = some (cid, m))
    (hne : id ≠ cid) :
    step s (Act.go sr) =
      ({ s with slots := fun i => if i = sr then none else s.slots i },
       [Obs.proc sr (Item.bar id), Obs.reject sr id cid]) :=
  step_go_reject hlive (Nat.lt_add_right _ hsr) hslot hc hne

/-- **No stranded sender.** A sender is parked only while a checkpoint is in progress whose missing set does not
contain it (a runner's barrier has been accepted; a caller that is no runner is never missing); in particular once the
checkpoint is reset nobody is left waiting on `allBarriersReceived`. -/
theorem no_stranded_sender (s0 : St) (hf : Fresh s0) (as : List Act) (hpl : Plain as) (sr : Nat) (it : Item)
    (h : (runFrom s0 [] as).1.slots sr = some (it, false)) :
    ∃ id m, (runFrom s0 [] as).1.ckpt = some (id, m) ∧ sr ∉ m :=
  (run_ok hf as hpl).inv.parked sr it h

/-- **Cancellations are invisible.** Cancelling the context of calls in flight (clients giving up) at any points of
any schedule yields exactly the state and trace — hence the same checkpoints with the same contents — as the
schedule without the cancellations: a sender parked behind its barrier stays parked, its post-barrier event cannot
slip in before the capture. (This is about the model, where `cancel` is a no-op: what is modelled is that neither the
wait on `allBarriersReceived` nor the hand-over to the consumer looks at the context. The code passes that context on
to the user handler and to the ack to the job, which is not modelled; the harness checks the real operator with
`cancel` ops against fakes of both that ignore it.) -/
theorem cancellations_are_invisible (s : St) (as : List Act) :
    runFrom s [] as = runFrom s [] (as.filter fun a => !a.isCancel) :=
  runFrom_filter_cancel as s []

/-! ## epochs: the initial state and a redeploy start a fresh epoch -/

theorem init_is_fresh (k b : Nat) (hk : 0 < k) : Fresh (init k b) := init_fresh k b hk

/-- **Redeploy (D15 + D43).** `HandleDeploy` abandons the checkpoint of the previous deployment: afterwards no
checkpoint is in progress and nobody is parked — the senders that were parked are reported as turned away and their
slots are empty (that their items never reach the consumer is `abandoned_call_never_applied`) — and the new epoch is
fresh. -/
theorem redeploy_is_fresh (s : St) (hlive : s.stopped = false) (haf : s.ackFails = false) (hk : 0 < s.k) :
    Fresh (step s Act.redeploy).1 ∧
    (step s Act.redeploy).2 = [Obs.redeployed (parkedList s)] ∧
    ∀ sr it, s.slots sr = some (it, false) → (step s Act.redeploy).1.slots sr = none := by
  rw [step_redeploy hlive]
  refine ⟨⟨rfl, ?_, haf, hk⟩, rfl, ?_⟩
  · intro sr it e
    cases (redeploy_slots_eq_some.mp e).2
  · intro sr it hs
    simp only [redeploy]
    rw [hs]

/-- **The cut of an epoch started by a redeploy (partial, open finding D45).**
Full statement wanted by the property (`epoch_cut_of_clean_redeploy`): after a redeploy every checkpoint of the new
deployment is cut from what was delivered in the new epoch — the handler's keyed events are exactly the taken ones,
and every taken item was handed in by a call that started after the redeploy.
The code does not give that: `HandleDeploy` keeps (1) the event batcher and (2) the calls that already passed
alignment. Proved here, for any state `s` with any history (failed acks included) in which the job is reachable:
all guarantees of `consistent_cut_partial` hold for the new epoch relative to the restored (empty) state, with exactly
the two residues explicit — the keyed events waiting in the batcher at the redeploy (`userOf s.pending`) head the
first cut, and an item taken without a call of its sender in the new epoch comes from a call that was past
alignment at the redeploy. Both residues occur: `epoch_cut_counterexample`, `epoch_cut_counterexample_call`. -/
theorem epoch_cut_partial (s : St) (hlive : s.stopped = false) (haf : s.ackFails = false) (hk : 0 < s.k)
    (as : List Act) (hpl : Plain as) (pre post : List Obs) (id : Nat) (S : KVf) (T : Timers)
    (h : (runFrom (step s Act.redeploy).1 [] as).2 = pre ++ Obs.snap id S T :: post) :
    S = (entriesOf pre).foldl applyRec emptyKV ∧
    userOf (entriesOf pre) = userOf s.pending ++ userProcs (procsOf pre) ∧
    (∀ sr, sr < s.k → lastProc sr (procsOf pre) = some (Item.bar id)) ∧
    T = timersOf [] pre ∧
    ∀ p1 sr it p2, pre = p1 ++ Obs.proc sr it :: p2 → sr < s.k + s.z →
      (∃ b, Obs.aligned sr b ∈ p1) ∨ ∃ it0, s.slots sr = some (it0, true) := by
  obtain ⟨hfresh, _, _⟩ := redeploy_is_fresh s hlive haf hk
  obtain ⟨c1, c2, c3⟩ := consistent_cut_partial _ hfresh as hpl pre post id S T h
  have c4 := snapshot_timers _ hfresh as hpl pre post id S T h
  rw [step_redeploy hlive] at c1 c2 c3 c4
  refine ⟨c1, c2, c3, c4, ?_⟩
  intro p1 sr it p2 hp _
  exact epoch_delivered s hlive as p1 (p2 ++ Obs.snap id S T :: post) sr it (by rw [h, hp]; simp)

/-- **The cut of an epoch after a clean redeploy** — the full statement, under exactly the condition excluded above:
the redeploy finds the batcher empty and no call past alignment. Then the handler's keyed events are exactly the
taken ones and every item taken before a checkpoint of the new deployment was handed in by a call that started in
the new epoch: nothing of the previous deployment is in its checkpoints. -/
theorem epoch_cut_of_clean_redeploy (s : St) (hlive : s.stopped = false) (haf : s.ackFails = false)
    (hk : 0 < s.k) (hempty : s.pending = []) (hnocall : ∀ sr it, s.slots sr ≠ some (it, true))
    (as : List Act) (hpl : Plain as) (pre post : List Obs) (id : Nat) (S : KVf)
    (T : Timers) (h : (runFrom (step s Act.redeploy).1 [] as).2 = pre ++ Obs.snap id S T :: post) :
    userOf (entriesOf pre) = userProcs (procsOf pre) ∧
    ∀ p1 sr it p2, pre = p1 ++ Obs.proc sr it :: p2 → sr < s.k + s.z → ∃ b, Obs.aligned sr b ∈ p1 := by
  obtain ⟨_, c2, _, _, c5⟩ := epoch_cut_partial s hlive haf hk as hpl pre post id S T h
  refine ⟨by rw [hempty] at c2; exact c2, ?_⟩
  intro p1 sr it p2 hp hsr
  rcases c5 p1 sr it p2 hp hsr with hal | ⟨it0, hs⟩
  · exact hal
  · exact absurd hs (hnocall sr it0)

/-- sender 0's keyed event waits in the batcher (batch size 3) -/
def leakState : St := (run 2 3 [.align 0 (.ev [0x61] 7 0), .go 0]).1
/-- both senders only deliver barrier 1 -/
def leakEpoch : List Act := [.align 0 (.bar 1), .go 0, .align 1 (.bar 1), .go 1]

/-- **Counterexample (D45, batcher).** The operator is redeployed in `leakState` and runs `leakEpoch`: before the first
snapshot of the new deployment the handler received a keyed event (the old one) although the consumer took none in
this epoch. -/
theorem epoch_cut_counterexample :
    ∃ pre id S T post, (runFrom (step leakState Act.redeploy).1 [] leakEpoch).2 = pre ++ Obs.snap id S T :: post ∧
      Plain leakEpoch ∧ userOf (entriesOf pre) ≠ userProcs (procsOf pre) := by
  have hc : firstCut (runFrom (step leakState Act.redeploy).1 [] leakEpoch).2 =
      some ([(0, [0x61], 7, 0)], []) := by rfl
  obtain ⟨pre, id, S, T, post, e, hu, hv⟩ := firstCut_spec _ _ _ hc
  refine ⟨pre, id, S, T, post, e, by unfold Plain; decide, ?_⟩
  rw [← hu, ← hv]
  decide

/-- the batcher is empty, sender 1's call with a keyed event (payload 8) has passed alignment -/
def leakState2 : St := (run 2 1 [.align 1 (.ev [0x62] 8 0)]).1
def leakEpoch2 : List Act := [.go 1, .align 0 (.bar 1), .go 0, .align 1 (.bar 1), .go 1]

/-- **Counterexample (D45, call past alignment).** The operator is redeployed in `leakState2` (nothing pending) and runs
`leakEpoch2`: the consumer takes an item of a sender that started no call in this epoch, and the one snapshot of the
new deployment, checkpoint 1, contains payload 8. -/
theorem epoch_cut_counterexample_call :
    leakState2.pending = [] ∧ Plain leakEpoch2 ∧
    (∃ p1 sr it p2, (runFrom (step leakState2 Act.redeploy).1 [] leakEpoch2).2 = p1 ++ Obs.proc sr it :: p2 ∧
      ∀ b, Obs.aligned sr b ∉ p1) ∧
    (snapsOf (runFrom (step leakState2 Act.redeploy).1 [] leakEpoch2).2).map (fun x => (x.1, x.2.1 [0x62])) = [(1, [8])] := by
  have hd : deliveredHere [] (runFrom (step leakState2 Act.redeploy).1 [] leakEpoch2).2 = false := by rfl
  obtain ⟨p1, sr, it, p2, e, _, hna⟩ := deliveredHere_false _ _ hd
  exact ⟨by decide, by unfold Plain; decide, ⟨p1, sr, it, p2, e, hna⟩, by decide⟩

/-- with the redeploy the property asks for (`redeploySpec`: batcher emptied, every call in flight turned away) the
new epoch starts clean: fresh, nothing pending, no call in flight -/
theorem redeploySpec_is_clean (s : St) (haf : s.ackFails = false) (hk : 0 < s.k) :
    Fresh (redeploySpec s).1 ∧ (redeploySpec s).1.pending = [] ∧ ∀ sr, (redeploySpec s).1.slots sr = none :=
  ⟨⟨rfl, by intro sr it; simp [redeploySpec], haf, hk⟩, rfl, fun _ => rfl⟩

/-- **An abandoned call is never applied.** For every schedule whatsoever (any start state, failures and redeploys
included): once a redeploy has turned sender `sr` away (it was parked behind its barrier of the abandoned
checkpoint), the consumer takes an item of `sr` only after `sr` has started a new `HandleEvent` call — the
post-barrier item of the previous deployment that the parked call carried never reaches the new deployment's
state. (Letting the parked callers through instead of failing them breaks exactly this.) -/
theorem abandoned_call_never_applied (s0 : St) (as : List Act) (pre mid post : List Obs) (l : List Nat)
    (sr : Nat) (it : Item) (hsr : sr ∈ l)
    (h : (runFrom s0 [] as).2 = pre ++ Obs.redeployed l :: (mid ++ Obs.proc sr it :: post)) :
    ∃ b, Obs.aligned sr b ∈ mid := by
  obtain ⟨_, hok⟩ := runFrom_away as [] s0 [] (by intro x hx; cases hx) trivial
  rw [h, awayOK_append] at hok
  exact awayOK_new_call mid _ post (List.mem_append_left _ hsr) hok.2.2

/-! ## the window between waking the parked senders and capturing the checkpoint

`handleCheckpointBarrier` closes `allBarriersReceived` (waking the parked senders) before it flushes and captures.
`hstep`/`hrunFrom` (Model/Align.lean) let a schedule stop the consumer exactly there (`hold`), let woken senders
run on, and `resume`. -/

def HPlain (has : List HAct) : Prop := ∀ a ∈ HAct.bases has, a.plain = true

/-- **A released sender waits for the capture.** When the consumer, held inside the last barrier's handler, resumes,
it first finishes that handler — flush, DKV capture, ack, reset — then takes the items of the senders that ran on
while it was held, and only then are calls started in the meantime aligned: the trace of `resume` is the trace of
`go sr0`, then the `go`s of the queue, then the `align`s of the blocked calls, and so is the state (that much is
stated: `hstep` on `resume`, unfolded). Read off it, not stated: the flush and the capture are part of
`step h.s (go sr0)`, which sees the state before any queued item is taken, so a woken sender's post-barrier event is
not in the pending batch the barrier handler flushes into checkpoint N. (That a sender running on can
do nothing but queue is the modelling assumption about the unbuffered channel; it is what the `gohold` ops check
on the real operator, and `held_schedule_is_plain_schedule` turns it into: holds change no trace.) -/
theorem released_sender_waits_for_capture (h : HSt) (sr0 : Nat) (hh : h.held = some sr0) :
    (hstep h HAct.resume).2 = (step h.s (Act.go sr0)).2 ++
        (runFrom (step h.s (Act.go sr0)).1 []
          (h.queue.map Act.go ++ h.blocked.map fun x => Act.align x.1 x.2)).2 ∧
    (hstep h HAct.resume).1.s = (runFrom (step h.s (Act.go sr0)).1 []
          (h.queue.map Act.go ++ h.blocked.map fun x => Act.align x.1 x.2)).1 := by
  obtain ⟨s, held, queue, blocked⟩ := h
  cases hh
  -- with `held` known, `hstep` evaluates to the run of `go sr0 :: …`, whose first step is split off
  have e := runFrom_acc (queue.map Act.go ++ blocked.map fun x => Act.align x.1 x.2) (step s (.go sr0)).1
    ([] ++ (step s (.go sr0)).2)
  exact ⟨(congrArg Prod.snd e :), (congrArg Prod.fst e :)⟩

/-- **Holds change nothing.** Every schedule with holds yields exactly the state and trace of a plain schedule, so
every theorem above holds verbatim for schedules in which the consumer is stopped between waking the parked
senders and capturing the checkpoint, in any order of the woken senders' progress. -/
theorem held_schedule_is_plain_schedule (s0 : St) (has : List HAct) (hpl : HPlain has) :
    ∃ as : List Act, Plain as ∧ (hrunFrom { s := s0 } [] has).1.s = (runFrom s0 [] as).1 ∧
      (hrunFrom { s := s0 } [] has).2 = (runFrom s0 [] as).2 := by
  obtain ⟨as, e1, e2, e3⟩ := hrun_sim has { s := s0 } []
  refine ⟨as, ?_, e1, e2⟩
  intro a ha
  rcases e3 a ha with hb | ⟨x, rfl⟩ | ⟨sr, it, rfl⟩
  · exact hpl a hb
  · rfl
  · rfl

/-- the consistent cut for schedules with holds -/
theorem consistent_cut_with_holds (s0 : St) (hf : Fresh s0) (has : List HAct) (hpl : HPlain has)
    (pre post : List Obs) (id : Nat) (S : KVf) (T : Timers)
    (h : (hrunFrom { s := s0 } [] has).2 = pre ++ Obs.snap id S T :: post) :
    S = (entriesOf pre).foldl applyRec s0.kv ∧
    userOf (entriesOf pre) = userOf s0.pending ++ userProcs (procsOf pre) ∧
    (∀ sr, sr < s0.k → lastProc sr (procsOf pre) = some (Item.bar id)) ∧
    T = timersOf s0.timers pre := by
  obtain ⟨as, hp, _, e2⟩ := held_schedule_is_plain_schedule s0 has hpl
  rw [e2] at h
  obtain ⟨c1, c2, c3⟩ := consistent_cut_partial s0 hf as hp pre post id S T h
  exact ⟨c1, c2, c3, snapshot_timers s0 hf as hp pre post id S T h⟩

/-! ## what the code guarantees when the ack to the job fails -/

/-- the completing barrier whose ack fails still flushes the batch; its sender gets the error (`ackfail`, no `ack`), the
completed record `(id, [])` stays in place, nobody stays parked, the failure flag is consumed. When it is
`db.Checkpoint` that failed there is no snapshot (that there is one otherwise is `barrier_failed`, not restated here). -/
theorem failed_ack_leaves_record (s : St) (sr id : Nat) (hid : id = (virtCk s id).1)
    (hlast : ((virtCk s id).2.filter (· ≠ sr)).isEmpty = true) (haf : s.ackFails = true) :
    (barrier s sr id).1.ckpt = some (id, []) ∧ (barrier s sr id).1.pending = [] ∧
    (barrier s sr id).1.ackFails = false ∧
    (∀ i it, (barrier s sr id).1.slots i ≠ some (it, false)) ∧
    Obs.ackfail id ∈ (barrier s sr id).2 ∧ (∀ j, Obs.ack j ∉ (barrier s sr id).2) ∧
    (s.dbFails = true → ∀ j S T, Obs.snap j S T ∉ (barrier s sr id).2) := by
  rw [barrier_failed hid hlast haf, ← hid]
  -- the trace: `reg`, the handler call of the flush, the snapshot unless `db.Checkpoint` failed, `ackfail`, `released`
  have hflush : ∀ x ∈ (flush s).2, x.isCkptProgress = false := (flush_ext s).onlyH.noProgress
  refine ⟨rfl, flush_pending s, rfl, fun i it => release_ne_parked _ i it,
    List.mem_append_right _ List.mem_cons_self, ?_, ?_⟩
  · intro j hj
    rcases List.mem_append.mp hj with hj | hj
    · rcases List.mem_append.mp hj with hj | hj
      · rcases List.mem_cons.mp hj with hj | hj
        · cases hj
        · exact nomatch hflush _ hj
      · split at hj
        · cases hj
        · cases List.mem_singleton.mp hj
    · rcases List.mem_cons.mp hj with hj | hj
      · cases hj
      · cases List.mem_singleton.mp hj
  · intro hdb j S T hj
    rw [hdb, if_pos rfl, List.append_nil] at hj
    rcases List.mem_append.mp hj with hj | hj
    · rcases List.mem_cons.mp hj with hj | hj
      · cases hj
      · exact nomatch hflush _ hj
    · rcases List.mem_cons.mp hj with hj | hj
      · cases hj
      · cases List.mem_singleton.mp hj

/-- **After a failed ack (or a failed `db.Checkpoint`) checkpointing is stuck until the redeploy.** From any state
in which the completed record of checkpoint `id` is still in place (and no call in flight carries barrier `id`
again), under every schedule that neither redeploys nor re-sends barrier `id` — failures, cancellations and
barriers with any other id included — no barrier is accepted, no snapshot is taken and nothing is acknowledged; the
record stays. (Events keep flowing: `passes` holds nobody back when the missing set is empty, `passes_eq_false`; see
`stale_record_rejects` for the barriers.) -/
theorem failed_ack_stuck_until_redeploy (id : Nat) (s : St) (h : StaleInv id s) (as : List Act)
    (hk : ∀ a ∈ as, a.keepsStale id = true) :
    (runFrom s [] as).1.ckpt = some (id, []) ∧
    ∀ x ∈ (runFrom s [] as).2, x.isCkptProgress = false := by
  obtain ⟨h1, h2⟩ := stale_run as s [] h hk (by intro x hx; cases hx)
  exact ⟨h1.1, h2⟩

/-- and every barrier carrying another id is rejected (instance of `id_mismatch_rejected`), so no checkpoint with a
new id can complete until a redeploy replaces the record -/
theorem stale_record_rejects (s : St) (sr id cid : Nat) (hlive : s.stopped = false) (hsr : sr < s.k)
    (hslot : s.slots sr = some (Item.bar id, true)) (hc : s.ckpt = some (cid, [])) (hne : id ≠ cid) :
    (step s (Act.go sr)).1.ckpt = some (cid, []) ∧ (step s (Act.go sr)).2 = [Obs.proc sr (Item.bar id), Obs.reject sr id cid] := by
  rw [id_mismatch_rejected s sr id cid [] hlive hsr hslot hc hne]
  exact ⟨hc, rfl⟩

/-! ## non-vacuity -/

def parkedOf : List Obs → List Nat
  | [] => []
  | Obs.aligned sr false :: r => sr :: parkedOf r
  | _ :: r => parkedOf r

def rejectsOf : List Obs → List (Nat × Nat × Nat)
  | [] => []
  | Obs.reject sr a c :: r => (sr, a, c) :: rejectsOf r
  | _ :: r => rejectsOf r

def abortedOf : List Obs → List (List Nat)
  | [] => []
  | Obs.redeployed l :: r => l :: abortedOf r
  | _ :: r => abortedOf r

/-- two senders, batch size 3: sender 0 runs ahead, delivers barrier 1 and parks with a post-barrier event; the
pending batch is flushed into the snapshot; the post-barrier event (payload 9) is not in checkpoint 1 but is in
checkpoint 2 -/
def demo : List Act :=
  [.align 0 (.ev [0x61] 1 0), .go 0, .align 0 (.bar 1), .go 0, .align 0 (.ev [0x61] 9 0),
   .align 1 (.ev [0x61] 2 0), .go 1, .go 0, .align 1 (.bar 1), .go 1, .go 0,
   .align 0 (.bar 2), .go 0, .align 1 (.bar 2), .go 1]

example : Plain demo := by unfold Plain; decide
example : parkedOf (run 2 3 demo).2 = [0] := by decide
example : (snapsOf (run 2 3 demo).2).map (fun x => (x.1, x.2.1 [0x61])) = [(1, [1, 2]), (2, [1, 2, 9])] := by decide

/-- a mismatching barrier id is rejected and the checkpoint in progress completes afterwards -/
def demoMismatch : List Act :=
  [.align 0 (.bar 1), .go 0, .align 1 (.bar 7), .go 1, .align 1 (.bar 1), .go 1]

example : rejectsOf (run 2 1 demoMismatch).2 = [(1, 7, 1)] := by decide
example : (snapsOf (run 2 1 demoMismatch).2).map (·.1) = [1] := by decide

/-- a timer set before the barrier and fired by a post-barrier watermark fires only after checkpoint 1: it is still
in checkpoint 1's timer set -/
def demoTimer : List Act :=
  [.align 0 (.ev [0x61] 1 5), .go 0, .align 0 (.bar 1), .go 0, .align 0 (.wm 9), .align 1 (.wm 9), .go 1,
   .align 1 (.bar 1), .go 1, .go 0]

example : (snapsOf (run 2 1 demoTimer).2).map (fun x => (x.1, x.2.1 [0x61], x.2.2)) = [(1, [1], [(5, [0x61])])] := by
  decide
example : (run 2 1 demoTimer).1.kv [0x61] = [1, 0xff, 5] := by decide

/-- a timer fired before the cut is not in the checkpoint -/
def demoTimerFired : List Act :=
  [.align 0 (.ev [0x61] 1 5), .go 0, .align 0 (.wm 9), .go 0, .align 0 (.bar 1), .go 0]

example : (snapsOf (run 1 1 demoTimerFired).2).map (fun x => (x.1, x.2.1 [0x61], x.2.2)) = [(1, [1, 0xff, 5], [])] := by
  decide

/-- D43: sender 0 is parked behind barrier 1 when the operator is redeployed: it is turned away, its event (payload 9)
never reaches the state, and the new epoch checkpoints normally -/
def demoRedeploy : List Act :=
  [.align 0 (.bar 1), .go 0, .align 0 (.ev [0x61] 9 0), .redeploy, .go 0,
   .align 0 (.ev [0x61] 2 0), .go 0, .align 0 (.bar 2), .go 0, .align 1 (.bar 2), .go 1]

example : abortedOf (run 2 1 demoRedeploy).2 = [[0]] := by decide
example : (snapsOf (run 2 1 demoRedeploy).2).map (fun x => (x.1, x.2.1 [0x61])) = [(2, [2])] := by decide

/-- failed ack: the record of checkpoint 1 stays, barrier 2 is rejected until the redeploy -/
def demoAckFail : List Act :=
  [.armFail, .align 0 (.bar 1), .go 0, .align 0 (.bar 2), .go 0, .redeploy, .align 0 (.bar 2), .go 0]

example : rejectsOf (run 1 1 demoAckFail).2 = [(0, 2, 1)] := by decide
example : (snapsOf (run 1 1 demoAckFail).2).map (·.1) = [1, 2] := by decide

/-- the seeded race: sender 0 is parked with a post-barrier event (payload 9); the consumer is held in the last
barrier's handler, sender 0 runs on, the consumer resumes: payload 9 is not in checkpoint 1 -/
def demoHold : List HAct :=
  [.base (.align 0 (.ev [0x61] 1 0)), .base (.go 0), .base (.align 0 (.bar 1)), .base (.go 0),
   .base (.align 0 (.ev [0x61] 9 0)), .base (.align 1 (.bar 1)), .hold 1, .base (.go 0), .resume, .base .tick]

example : ((hrunFrom { s := init 2 3 } [] (demoHold.take 8)).1.held, (hrunFrom { s := init 2 3 } [] (demoHold.take 8)).1.queue)
    = (some 1, [0]) := by decide
example : (snapsOf (hrunFrom { s := init 2 3 } [] demoHold).2).map (fun x => (x.1, x.2.1 [0x61])) = [(1, [1])] := by decide
example : (hrunFrom { s := init 2 3 } [] demoHold).1.s.kv [0x61] = [1, 9] := by decide

/-- a failed `db.Checkpoint`: no snapshot, the record stays, barrier 2 is rejected, a redeploy recovers -/
def demoDbFail : List Act :=
  [.armDbFail, .align 0 (.bar 1), .go 0, .align 0 (.bar 2), .go 0, .redeploy, .align 0 (.bar 2), .go 0]

example : rejectsOf (run 1 1 demoDbFail).2 = [(0, 2, 1)] := by decide
example : (snapsOf (run 1 1 demoDbFail).2).map (·.1) = [2] := by decide

/-- after the failed ack of `demoAckFail` the completed record is in place (the first half of `StaleInv`, the hypothesis
of `failed_ack_stuck_until_redeploy`) -/
example : (run 1 1 (demoAckFail.take 3)).1.ckpt = some (1, []) := by decide

/-- cancellations in the middle of `demo` change no snapshot -/
example : (snapsOf (run 2 3 (demo.take 5 ++ [.cancel 0, .cancel 1] ++ demo.drop 5)).2).map (fun x => (x.1, x.2.1 [0x61]))
    = [(1, [1, 2]), (2, [1, 2, 9])] := by decide

/-- an undeployed sender (a runner of a previous deployment that is still alive; sender 2 of a deployment with
runners 0 and 1): its event is handled like any other, it parks while a checkpoint is being aligned, and its stale
barrier 7 starts a checkpoint record that makes the deployed runners' barrier 2 mismatch (open finding D56, C15);
checkpoint 1 holds the caller's payload 5 (D69). The theorems above that are stated for any `z` quantify over these
schedules too -/
def demoZombie : List Act :=
  [.align 2 (.ev [0x61] 5 0), .go 2, .align 0 (.bar 1), .go 0, .align 2 (.ev [0x61] 6 0),
   .align 1 (.bar 1), .go 1, .go 2, .align 2 (.bar 7), .go 2, .align 0 (.bar 2), .go 0]

example : parkedOf (runFrom { init 2 1 with z := 1 } [] demoZombie).2 = [2] := by decide
example : (snapsOf (runFrom { init 2 1 with z := 1 } [] demoZombie).2).map (fun x => (x.1, x.2.1 [0x61])) = [(1, [5])] := by
  decide
example : rejectsOf (runFrom { init 2 1 with z := 1 } [] demoZombie).2 = [(0, 2, 7)] := by decide
example : Fresh { init 2 1 with z := 1 } := ⟨rfl, by intro sr it; simp [init], rfl, by decide⟩

end Rxn.C02
