import RxnModel.Proofs.FilesLineage
import RxnModel.Proofs.FilesCompose
import RxnModel.Proofs.FilesSteps
/-!
# C09 — files needed by retained checkpoints or live tables are never deleted

Property theorems only. Model: `Model/Files.lean` (dkv instances as sets of Table objects with explicit roots, a
persistent file set, checkpoint lists, the job's retained checkpoint handles as ghost state; the garbage collector is
the action `collect i u`, enabled only for unreachable objects). Helper lemmas and the invariants behind the
global theorems: `Proofs/Files*.lean`.
The decision rules (`decision`, `needsTable`, which cleanup deletes) are read from the source on every run
(`Generated/Facts.lean`: `c09OwnsErrKeeps`, `c09NeedsChecksLive`, `c09CkptUsesLevels`, `c09LoadedGuarded`,
`c09CreatedDeletes`), so every theorem below is re-checked against the rules as they are in the source.

PARTIAL, by nature and by finding:
* that Go's collector runs a cleanup only for an unreachable object (and when) is trusted; the harness forces
  collections at the trace's `gc` points and compares which cleanups ran with the model's unreachable set;
* WAL files are files with names (`Wal`: directory, number, version): a checkpoint that seals a WAL under a name that
  is already taken overwrites that file (`clobber`) — an overwrite is a deletion of the older content — and
  `Checkpoint.Destroy` deletes by name (`rmWals`). The global theorems therefore say: no file — table or WAL —
  referenced by a retained checkpoint document is deleted or overwritten.
* the global invariant `Safe` (every needed file exists) is proved for four scopes of histories (`runC`, `runN`,
  `runL` ⊆ `runC`, `runIn` ⊆ `runN`):
  - `no_needed_file_deleted_composed_partial`: any number of operators running at the same time, each of which may
    crash and be restarted — any number of times, from the newest checkpoint handle of its own lineage the job still
    retains, in a directory of its own — while the others keep running (the deployment with restarts, without rescale);
  - `no_needed_file_deleted_concurrent_partial`: the no-restart deployment, which also lets a crashed instance's
    leftover garbage be collected (the one thing `runN` admits and `runC` does not);
  - `no_needed_file_deleted_lineage_partial`: the one-operator case of the composed scope;
  - `no_needed_file_deleted_partial`: the one-instance case of the concurrent scope.
  In all of them the JOB's retained set changes only by the job's own actions (`ckpt` adds a handle, `jobDrop` and
  `jobAbandon` remove handles); a restart (`openFrom`) removes nothing.
  Not proved: restores that share tables between running operators (rescale), reopening in the directory of an
  earlier instance, and a restart from a retained checkpoint that is not the newest one the job retains of that
  operator (refuted: `d68_counterexample`).
  The full statement
    `∀ as s, run {} as = some s → Safe s`   (any number of instances, crashes, releases, restores, rescales)
  is FALSE of the code as it is; each of these ends in a state where a needed file is missing: `d25_counterexample`
  (D25, in-process release), `d34_counterexample` (D34, a table shared after a rescale), `d68_counterexample` (D68,
  restart from a retained checkpoint that is not the newest), `d63_counterexample` (late write: D63, repaired for tasks
  in flight, `previous_instance_drained_before_reopen`; D70, open for writes accepted after `Close`,
  `late_write_window_open`). `d50_counterexample` (D50, same-directory reopen) does not refute `Safe` — its trace ends
  with `missing = []`: it shows the directory's document without an entry for an older checkpoint the job retains.
  Open findings: D25, D34, D50, D68, D70.
* for ALL histories (any number of instances, restores, rescales, releases) the theorems
  `table_file_removed_only_by_justified_collect`, `error_means_keep` and
  `wal_file_removed_only_by_retention_or_overwrite` say who can remove a file and why, and `two_read_no_is_final`
  that a neighbour's "no" stays true.
-/
namespace Rxn.C09
open Rxn Rxn.Files

/-- Composition of the concurrent scope and the lineage scope below: any number of operators ("lineages"), each opened
empty at any moment in a storage directory of its own, running at the same time with arbitrarily interleaved flushes,
compactions, checkpoints, job drops, retention updates that drop only checkpoints the job has dropped, snapshots,
failed redeploys and collections of any unreachable table object — written by the instance or loaded from a document —
of any running instance at any moment with any neighbour answers. Any operator's process may die at any time, and the
operator is then restarted, any number of times: a new instance, in a directory of its own, restored from ONE
checkpoint handle the job still retains — the newest the job retains of that operator (`newestOf`; written by any
earlier instance of it; to roll back further the job first gives up the newer checkpoints, `jobAbandon`) — while no
instance of that operator is running; the other operators keep running meanwhile. The job's retained set changes only
by the job's own actions (`ckpt`, `jobDrop`, `jobAbandon`): a restart drops nothing. In every state every file — table
or WAL — referenced by a job-retained checkpoint of any instance of any operator and every table of every running
instance's level list is in the file store.
The invariant behind it (`InvC`, `Proofs/FilesCompose.lean`): tables never cross lineages; one running instance per
lineage, and it is the newest; a loaded table is pinned by the restored checkpoint until the job has dropped it, and
then no retained handle of an earlier instance of the lineage is left; WAL names referenced from a later directory
belong to a later instance of the same lineage.
Scope (`inScopeC`), i.e. exactly what is excluded: a restart from a retained checkpoint while the job retains a newer
one of that operator (D68, `d68_counterexample`); restores from several handles or from a handle of a lineage that is
running (rescale, shared tables: D34); reopening in the directory of an earlier instance (D50); an instance released
inside a living process (D25) and with it a table write of such an instance landing later (`lateWrite`: D63 repaired
for tasks in flight, D70 open for writes accepted after `Close`); cleanups run by a dead process. Note that the job as
built reacts to a lost operator by redeploying the whole assembly, and the surviving operators then take the
in-process path (release + same-directory reopen), which is outside this scope and refuted by D25. -/
theorem no_needed_file_deleted_composed_partial (as : List Act) (s : State) (h : runC {} as = some s) :
    ∀ f ∈ needed s, f ∈ s.files :=
  (runC_invC invC_init h).safe

/-- …and every job-retained checkpoint of every instance of every operator is still listed, with the same tables and
WALs, in the checkpoint list of the instance that wrote it. -/
theorem retained_checkpoint_listed_composed_partial (as : List Act) (s : State) (h : runC {} as = some s) :
    ∀ hd ∈ s.retained, ∃ d, s.insts[hd.writer]? = some d ∧
      ∃ c ∈ d.ckpts, c.id = hd.id ∧ c.tables = hd.tables ∧ c.wals = hd.wals :=
  (runC_invC invC_init h).listed

/-- …and at most one instance of an operator runs at a time, the newest of its lineage. -/
theorem one_running_instance_per_operator (as : List Act) (s : State) (h : runC {} as = some s) (i j : Nat)
    (x y : Inst) (hx : s.insts[i]? = some x) (hy : s.insts[j]? = some y) (hl : x.life = .alive) (hlin : y.lin = x.lin) :
    j ≤ i ∧ (y.life = .alive → i = j) :=
  ⟨(runC_invC invC_init h).newest i j x y hx hy hl hlin,
   fun hl' => (runC_invC invC_init h).onealive i j x y hx hy hl hl' hlin.symm⟩

/-- two operators; operator 0 dies and is restarted as instance 2 from its checkpoint 1 while operator 1 keeps
running; instance 2 compacts the restored table away, both take job checkpoint 2, the job drops 1, both apply the
retention update, instance 2's collection deletes the first generation's table file; then operator 1 dies and is
restarted as instance 3 -/
def composedTrace : List Act :=
  [.openFresh ⟨0, 4⟩ 0 [⟨4, 8⟩] 0, .openFresh ⟨4, 8⟩ 0 [⟨0, 4⟩] 1, .flush 0 ⟨"a0", 0, 3⟩, .flush 1 ⟨"b0", 4, 7⟩,
   .ckpt 0 1 ⟨0, 0, 0⟩, .ckpt 1 1 ⟨1, 0, 0⟩, .flush 0 ⟨"a1", 1, 2⟩, .crash 0,
   .openFrom ⟨0, 4⟩ 1 [⟨4, 8⟩] [0] 1 2, .flush 2 ⟨"c0", 0, 3⟩, .flush 1 ⟨"b1", 5, 5⟩,
   .compact 2 ["a0", "c0"] [⟨"c1", 0, 3⟩], .collect 2 "c0" [.no], .ckpt 2 2 ⟨2, 1, 0⟩, .ckpt 1 2 ⟨1, 1, 0⟩,
   .jobDrop 1, .retain 2 [2], .retain 1 [2], .collect 2 "a0" [.no], .crash 1,
   .openFrom ⟨4, 8⟩ 2 [⟨0, 4⟩] [1] 2 3, .flush 3 ⟨"d0", 4, 7⟩]

example : (runC {} composedTrace).map (fun s => (s.files, needed s)) =
    some ([.sst "d0", .wal ⟨1, 1, 0⟩, .wal ⟨2, 1, 0⟩, .sst "c1", .sst "b1", .sst "a1", .sst "b0"],
          [.sst "c1", .sst "d0", .sst "b1", .sst "b0", .sst "b1", .sst "b0", .wal ⟨1, 1, 0⟩, .sst "c1",
           .wal ⟨2, 1, 0⟩]) := by decide +kernel

/-- while the job retains checkpoint 1 the restarted instance cannot collect the restored table -/
example : runC {} (composedTrace.take 15 ++ [.collect 2 "a0" [.no]]) = none := by decide +kernel

/-- restarting an operator whose instance is still running is outside the scope (and possible in the model) -/
example : runC {} (composedTrace.take 7 ++ [.openFrom ⟨0, 4⟩ 1 [⟨4, 8⟩] [0] 1 2]) = none ∧
    (run {} (composedTrace.take 7 ++ [.openFrom ⟨0, 4⟩ 1 [⟨4, 8⟩] [0] 1 2])).isSome = true := by decide +kernel

/-- Concurrency: any number of operators, each opened empty at any moment in a storage directory of its own, running
at the same time with arbitrarily interleaved flushes, compactions, checkpoints (the same job checkpoint id on several
operators), job drops, retention updates that drop only checkpoints the job has dropped, snapshots, collections of
any unreachable table object of any instance at any moment with any neighbour answers, failed redeploys and crashes
(a crashed operator is not reopened). In every state every file — table or WAL — referenced by a job-retained
checkpoint of any operator and every table of every running operator's level list is in the file store: no
operator's cleanup, retention update or WAL seal touches a file of another operator.
Scope (`inScopeN`), i.e. what remains excluded: restores (`openFrom`: restarts are the composed scope above;
operators that share tables after a rescale are covered only by the per-history deletion theorems below and refuted
in general by D34) and in-process release (D25). -/
theorem no_needed_file_deleted_concurrent_partial (as : List Act) (s : State) (h : runN {} as = some s) :
    ∀ f ∈ needed s, f ∈ s.files :=
  (runN_invC invC_init ownLin_init h).1.safe

/-- …and every job-retained checkpoint of every operator is still listed, with the same tables and WALs, in the
checkpoint list of the operator that wrote it. -/
theorem retained_checkpoint_listed_concurrent_partial (as : List Act) (s : State) (h : runN {} as = some s) :
    ∀ hd ∈ s.retained, ∃ d, s.insts[hd.writer]? = some d ∧
      ∃ c ∈ d.ckpts, c.id = hd.id ∧ c.tables = hd.tables ∧ c.wals = hd.wals :=
  (runN_invC invC_init ownLin_init h).1.listed

/-- two operators interleaved: both take job checkpoint 1 and 2, compact, the job drops 1, both apply the retention
update (each deleting its own WAL 0 only) and collect their garbage; operator 0 crashes -/
def concurrentTrace : List Act :=
  [.openFresh ⟨0, 4⟩ 0 [⟨4, 8⟩] 0, .flush 0 ⟨"a0", 0, 3⟩, .openFresh ⟨4, 8⟩ 0 [⟨0, 4⟩] 1, .flush 1 ⟨"b0", 4, 7⟩,
   .ckpt 0 1 ⟨0, 0, 0⟩, .ckpt 1 1 ⟨1, 0, 0⟩, .flush 0 ⟨"a1", 1, 2⟩, .compact 0 ["a0", "a1"] [⟨"a2", 0, 3⟩],
   .flush 1 ⟨"b1", 5, 5⟩, .ckpt 1 2 ⟨1, 1, 0⟩, .ckpt 0 2 ⟨0, 1, 0⟩, .jobDrop 1, .retain 1 [2], .collect 0 "a1" [.no],
   .retain 0 [2], .collect 0 "a0" [.err], .crash 0, .compact 1 ["b0", "b1"] [⟨"b2", 4, 7⟩]]

example : (runN {} concurrentTrace).map (fun s => (s.files, needed s)) =
    some ([.sst "b2", .wal ⟨0, 1, 0⟩, .wal ⟨1, 1, 0⟩, .sst "b1", .sst "a2", .sst "b0"],
          [.sst "b2", .sst "a2", .wal ⟨0, 1, 0⟩, .sst "b1", .sst "b0", .wal ⟨1, 1, 0⟩]) := by decide +kernel

/-- Lineage: any number of generations of one operator. An instance runs (flushes, compactions, checkpoints,
retention updates that drop only checkpoints the job has dropped, snapshots, collections of any unreachable table
object — written by the instance or loaded from the document — at any moment with any neighbour answers), its
process dies, and a new instance is opened from ONE checkpoint handle the job still retains — the newest the job
retains (of any earlier instance; to go back further the job first gives up the newer ones, `jobAbandon`) — when no
other instance is running; and so on. The job's retained set changes only by `ckpt`, `jobDrop`, `jobAbandon`. In
every state every file referenced by a job-retained checkpoint of any generation and every table of the running
instance's level list is in the file store. This is the composed scope with one running instance at a time
(`runC_of_init1`; `Proofs/FilesLineage.lean`, `LastL`, has what this adds to the invariant).
Scope (`inScopeL`), i.e. exactly what is excluded: a restart from a retained checkpoint while the job retains a newer
one (D68, `d68_counterexample`); an instance released inside a living process (D25: its objects die while a successor
uses the files) and with it a table write of such an instance landing after the directory was reopened (`lateWrite`:
D63 repaired, D70 open); reopening in an earlier instance's directory (D50); several instances alive at once and
restores from several handles (rescale; D34: holders whose key range does not overlap a table are never consulted);
cleanups run by a dead process. -/
theorem no_needed_file_deleted_lineage_partial (range : KGRange) (nbrs : List KGRange) (as : List Act) (s : State)
    (h : runL (init1 range nbrs) as = some s) : ∀ f ∈ needed s, f ∈ s.files :=
  no_needed_file_deleted_composed_partial _ s (runC_of_init1 h)

/-- …and every job-retained checkpoint of every generation is still listed, with the same tables and WALs, in the
checkpoint list of the instance that wrote it. -/
theorem retained_checkpoint_listed_lineage_partial (range : KGRange) (nbrs : List KGRange) (as : List Act) (s : State)
    (h : runL (init1 range nbrs) as = some s) :
    ∀ hd ∈ s.retained, ∃ d, s.insts[hd.writer]? = some d ∧
      ∃ c ∈ d.ckpts, c.id = hd.id ∧ c.tables = hd.tables ∧ c.wals = hd.wals :=
  retained_checkpoint_listed_composed_partial _ s (runC_of_init1 h)

/-- three generations: the second one compacts the restored table away, drops the restored checkpoint and its
collection deletes the first generation's table file; the third restores from the second -/
def lineageTrace : List Act :=
  [.flush 0 ⟨"a0", 0, 7⟩, .ckpt 0 1 ⟨0, 0, 0⟩, .flush 0 ⟨"a1", 0, 3⟩, .crash 0,
   .openFrom ⟨0, 8⟩ 1 [] [0] 1 1, .flush 1 ⟨"b0", 0, 7⟩, .compact 1 ["a0", "b0"] [⟨"b1", 0, 7⟩], .collect 1 "b0" [],
   .ckpt 1 2 ⟨1, 1, 0⟩, .jobDrop 1, .retain 1 [2], .collect 1 "a0" [], .crash 1,
   .openFrom ⟨0, 8⟩ 2 [] [1] 2 2, .flush 2 ⟨"c0", 4, 5⟩, .ckpt 2 3 ⟨2, 2, 0⟩]

example : (runL (init1 ⟨0, 8⟩ []) lineageTrace).map (fun s => (s.files, needed s)) =
    some ([.wal ⟨2, 2, 0⟩, .sst "c0", .wal ⟨1, 1, 0⟩, .sst "b1", .sst "a1"],
          [.sst "c0", .sst "b1", .sst "c0", .sst "b1", .wal ⟨2, 2, 0⟩, .sst "b1", .wal ⟨1, 1, 0⟩]) := by decide +kernel

/-- while the job retains checkpoint 1 the second generation cannot collect the restored table -/
example : runL (init1 ⟨0, 8⟩ []) (lineageTrace.take 9 ++ [.collect 1 "a0" []]) = none := by decide +kernel

/-- Every history of one dkv instance that was opened empty — flushes and compactions with any change sets,
checkpoints, job retention decisions, `UpdateRetainedCheckpoints` calls that drop only checkpoints the job has
dropped, snapshots held and released by readers, garbage collections of any unreachable table object at any moment
with any neighbour answers, and a crash at any moment (after which the job's decisions and collections of what was
unreachable at the crash go on) — leaves every file referenced by a job-retained checkpoint and every table of the
live level list in the file store. This is the concurrent scope with one instance (`runN_of_init1`).
Excluded (see the counterexamples below): reopening from a checkpoint, in-process release, several instances. -/
theorem no_needed_file_deleted_partial (range : KGRange) (nbrs : List KGRange) (as : List Act) (s : State)
    (h : runIn (init1 range nbrs) as = some s) : ∀ f ∈ needed s, f ∈ s.files :=
  no_needed_file_deleted_concurrent_partial _ s (runN_of_init1 h)

/-- …and in those histories every job-retained checkpoint is still in the instance's checkpoint list, with the same
tables and WALs. -/
theorem retained_checkpoint_listed_partial (range : KGRange) (nbrs : List KGRange) (as : List Act) (s : State)
    (h : runIn (init1 range nbrs) as = some s) :
    ∃ x, s.insts = [x] ∧ ∀ hd ∈ s.retained, ∃ c ∈ x.ckpts, c.id = hd.id ∧ c.tables = hd.tables ∧ c.wals = hd.wals := by
  -- no instance is opened along the history, so the writer of every handle is the one instance there is
  obtain ⟨x, hx⟩ := List.length_eq_one_iff.mp (runIn_length h)
  refine ⟨x, hx, fun hd hh => ?_⟩
  obtain ⟨d, hd', hc⟩ := retained_checkpoint_listed_concurrent_partial _ s (runN_of_init1 h) hd hh
  cases List.mem_singleton.mp (hx ▸ List.mem_of_getElem? hd')
  exact hc

/-- a history inside the scope of the global theorem with two checkpoints, a compaction, a retention update that
deletes a WAL, a snapshot and collections that delete three table files -/
def sampleTrace : List Act :=
  [.flush 0 ⟨"t0", 0, 3⟩, .flush 0 ⟨"t1", 2, 7⟩, .snap 0, .ckpt 0 1 ⟨0, 0, 0⟩, .compact 0 ["t0", "t1"] [⟨"t2", 0, 7⟩],
   .flush 0 ⟨"t3", 1, 1⟩, .compact 0 ["t3"] [], .collect 0 "t3" [], .ckpt 0 2 ⟨0, 1, 0⟩, .jobDrop 1, .retain 0 [2],
   .unsnap 0 0, .collect 0 "t0" [], .collect 0 "t1" [], .crash 0]

example : (runIn (init1 ⟨0, 8⟩ []) sampleTrace).map (fun s => (s.files, needed s)) =
    some ([.wal ⟨0, 1, 0⟩, .sst "t2"], [.sst "t2", .wal ⟨0, 1, 0⟩]) := by decide +kernel

/-- the retention step of that history really deletes the WAL of the dropped checkpoint and nothing else -/
example : (runIn (init1 ⟨0, 8⟩ []) (sampleTrace.take 10)).map (·.files) =
      some [.wal ⟨0, 1, 0⟩, .sst "t2", .wal ⟨0, 0, 0⟩, .sst "t1", .sst "t0"] ∧
    (runIn (init1 ⟨0, 8⟩ []) (sampleTrace.take 11)).map (·.files) =
      some [.wal ⟨0, 1, 0⟩, .sst "t2", .sst "t1", .sst "t0"] := by decide +kernel

/-- while the snapshot is held the collector may not touch the tables it pins -/
example : runIn (init1 ⟨0, 8⟩ []) (sampleTrace.take 11 ++ [.collect 0 "t0" []]) = none := by decide +kernel

/-- `UpdateRetainedCheckpoints(ids)`: afterwards exactly the files that have the NAME of a WAL of a dropped checkpoint
are gone (`Checkpoint.Destroy` deletes by name) — no table file, no WAL of a kept checkpoint unless a dropped
checkpoint references a file of the same name — and the checkpoint list holds exactly the kept checkpoints. -/
theorem wal_gc (s s' : State) (i : Nat) (ids : List Nat) (x : Inst) (hx : s.insts[i]? = some x)
    (h : step s (.retain i ids) = some s') :
    (∀ f, f ∈ s'.files ↔ f ∈ s.files ∧
      ¬ ∃ c ∈ x.ckpts, keeps ids c = false ∧ ∃ w ∈ c.wals, ∃ v, f = .wal v ∧ w.same v = true) ∧
    (∃ x', s'.insts[i]? = some x' ∧ ∀ c, c ∈ x'.ckpts ↔ c ∈ x.ckpts ∧ keeps ids c = true) := by
  obtain ⟨hf, hi, _⟩ := retain_effect hx h
  exact ⟨fun f => hf ▸ mem_rmWals_dropped, _, hi, fun c => mem_keptOf⟩

/-- Restore from any number of checkpoint handles (scale-in included), into any directory — also the directory of
one of the writers: right after the restore no WAL number from the instance's next one on is the number of a WAL of
the composite checkpoint in its directory, so the WAL it seals next does not take the file name of a WAL the loaded
checkpoint references. -/
theorem restore_numbers_above_loaded (s s' : State) (r : KGRange) (g : Nat) (n : List KGRange) (ws : List Nat)
    (id dir : Nat) (h : step s (.openFrom r g n ws id dir) = some s') :
    ∃ x, s'.insts = s.insts ++ [x] ∧ x.dir = dir ∧
      ∀ c ∈ x.ckpts, ∀ w ∈ c.wals, ∀ k, x.walNext ≤ k → (⟨x.dir, k, 0⟩ : Wal).same w = false := by
  obtain ⟨ts, wl, _, _, rfl⟩ := step_openFrom h
  refine ⟨_, rfl, rfl, fun c hc w hw k hk => ?_⟩
  cases List.mem_singleton.mp hc
  exact not_same_of_num (Nat.ne_of_gt (Nat.lt_of_lt_of_le (nextWalId_gt wl w hw) hk))

/-- In ANY history — any number of instances, restores, rescales, releases, any neighbour answers — a table file
disappears only (a) through a collection of an object for that very table that was unreachable in its instance (in no
level list the instance holds), where either the instance wrote the table itself, or it loaded it and the table's key
groups lie inside its own range, or every neighbour that the collection's `answers` reach (`x.nbrs.zip answers`: a
list shorter than `nbrs` leaves the rest unasked) and whose range overlaps the table answered a definite "no"; or
(b) because a late table write of an instance dropped inside a living process lands under the same file name
(`lateWrite`, D63 / D70: overwrite). -/
theorem table_file_removed_only_by_justified_collect (s0 s : State) (as : List Act) (u : Path)
    (h : run s0 as = some s) (hin : File.sst u ∈ s0.files) (hout : File.sst u ∉ s.files) :
    (∃ pre i answers post sm x, as = pre ++ Act.collect i u answers :: post ∧ run s0 pre = some sm ∧
      sm.insts[i]? = some x ∧ x.unreachable u = true ∧
      (u ∈ x.created ∨ ∃ t ∈ x.loaded, t.uri = u ∧
        (Gen.kgContains x.range t.span = true ∨
          ∀ ra ∈ x.nbrs.zip answers, Gen.kgOverlaps ra.1 t.span = true → ra.2 = .no))) ∨
    (∃ pre i t post, as = pre ++ Act.lateWrite i t :: post ∧ t.uri = u) :=
  run_removes_sst h hin hout

/-- error ⇒ keep, for whole histories (D9, repaired: `c09OwnsErrKeeps`; no deadline, errors never swallowed:
`c09OwnsNoDeadline`, `c09OwnsErrPassed`): if along a history every collection of an object for table `u` is by an
instance that did not write `u` itself and, for each object of `u` it loaded, the table's key groups are not inside the
instance's own range and some overlapping neighbour could not be asked (error), did not answer or said it
needs the table, and no late write of a released instance lands on the name (`lateWrite`, D63 / D70), then the file of
`u` is never deleted. -/
theorem error_means_keep (s0 s : State) (as : List Act) (u : Path) (h : run s0 as = some s)
    (hin : File.sst u ∈ s0.files)
    (hbad : ∀ pre i answers post sm x, as = pre ++ Act.collect i u answers :: post → run s0 pre = some sm →
      sm.insts[i]? = some x → u ∉ x.created ∧ ∀ t ∈ x.loaded, t.uri = u → Gen.kgContains x.range t.span = false ∧
        ∃ ra ∈ x.nbrs.zip answers, Gen.kgOverlaps ra.1 t.span = true ∧ ra.2 ≠ .no)
    (hnolate : ∀ pre i t post, as = pre ++ Act.lateWrite i t :: post → t.uri ≠ u) :
    File.sst u ∈ s.files := by
  by_cases hout : File.sst u ∈ s.files
  · exact hout
  · rcases run_removes_sst h hin hout with ⟨pre, i, answers, post, sm, x, has, hpre, hx, _, hwhy⟩ | ⟨pre, i, t, post, has, htu⟩
    · obtain ⟨hnc, hl⟩ := hbad pre i answers post sm x has hpre hx
      rcases hwhy with hc | ⟨t, ht, htu, hd⟩
      · exact absurd hc hnc
      · obtain ⟨hcont, ra, hra, ho, hne⟩ := hl t ht htu
        rcases hd with hd | hd
        · rw [hd] at hcont; cases hcont
        · exact absurd (hd ra hra ho) hne
    · exact absurd htu (hnolate pre i t post has)

/-- the decision rule has all three outcomes, and an error really flips delete to keep -/
example : decision ⟨0, 4⟩ ⟨"t", 2, 5⟩ [(⟨4, 8⟩, .no)] = .delete ∧
    decision ⟨0, 4⟩ ⟨"t", 2, 5⟩ [(⟨4, 8⟩, .err)] = .keep ∧
    decision ⟨0, 4⟩ ⟨"t", 2, 5⟩ [(⟨4, 6⟩, .hang), (⟨6, 8⟩, .no)] = .block ∧
    decision ⟨0, 4⟩ ⟨"t", 2, 5⟩ [(⟨4, 6⟩, .err), (⟨6, 8⟩, .needs)] = .keep ∧
    decision ⟨0, 4⟩ ⟨"t", 1, 3⟩ [(⟨4, 8⟩, .needs)] = .delete := by decide +kernel

/-- In ANY history a WAL file disappears only when a checkpoint seals a WAL of the same file name (overwrite) or a
retention update drops a checkpoint that references a WAL of that name — nothing else ever removes a WAL, and a
retention update removes the WALs of exactly the checkpoints it drops (`wal_gc`). -/
theorem wal_file_removed_only_by_retention_or_overwrite (s0 s : State) (as : List Act) (v : Wal)
    (h : run s0 as = some s) (hin : File.wal v ∈ s0.files) (hout : File.wal v ∉ s.files) :
    ∃ pre a post sm, as = pre ++ a :: post ∧ run s0 pre = some sm ∧
      ((∃ i id wal, a = .ckpt i id wal ∧ wal.same v = true) ∨
       (∃ i ids x, a = .retain i ids ∧ sm.insts[i]? = some x ∧
          ∃ c ∈ x.ckpts, keeps ids c = false ∧ ∃ w ∈ c.wals, w.same v = true)) :=
  run_removes_wal h hin hout

/-- A "no" is final (D46, repaired: `c09NeedsLiveFirst`). `DB.NeedsTable` reads the live level list in state `s1` and
the checkpoint list in a later state `s2`; any actions of any instance — checkpoints, compaction commits, retention
updates — may happen in between (`as`) and afterwards (`as'`). If the answer is "no" for a table that exists
(`u ∈ s1.used`), then the instance does not need the table at the second read nor at any later moment: it is in no
checkpoint of its list and not in its live level list. -/
theorem two_read_no_is_final (s1 s2 s3 : State) (as as' : List Act) (j : Nat) (u : Path) (x1 x2 x3 : Inst)
    (h12 : run s1 as = some s2) (h23 : run s2 as' = some s3)
    (hx1 : s1.insts[j]? = some x1) (hx2 : s2.insts[j]? = some x2) (hx3 : s3.insts[j]? = some x3)
    (hu : u ∈ s1.used) (hno : needsTable2 x1 x2 u = false) : needsTable x3 u = false := by
  -- the first read is the live level list, the second the checkpoint list
  rw [needsTable2, needsFirst_eq, needsSecond_eq, Bool.or_eq_false_iff] at hno
  obtain ⟨y2, hy2, hu2, hn2⟩ := run_notLive h12 ⟨x1, hx1, hu, readLive_false.mp hno.1⟩
  rw [hx2] at hy2; injection hy2 with hy2; subst hy2
  obtain ⟨y3, hy3, _, hn3, hc3⟩ := run_notNeeded h23 ⟨x2, hx2, hu2, hn2, readCkpts_false.mp hno.2⟩
  rw [hx3] at hy3; injection hy3 with hy3; subst hy3
  exact needsTable_of_notNeeded hn3 hc3

/-- The order matters: reading the checkpoint list first (the code before the repair) can answer "no" for a table
the newest checkpoint references — checkpoint 2 captures `t1`, a compaction drops it, both between the two reads. -/
def d46Before : List Act := [.openFresh ⟨0, 8⟩ 0 [] 0, .flush 0 ⟨"t0", 0, 7⟩, .ckpt 0 1 ⟨0, 0, 0⟩, .flush 0 ⟨"t1", 0, 7⟩]
def d46Between : List Act := [.ckpt 0 2 ⟨0, 1, 0⟩, .compact 0 ["t0", "t1"] [⟨"t2", 0, 7⟩]]

theorem d46_counterexample :
    ((run {} d46Before).bind fun s1 => (run s1 d46Between).bind fun s2 =>
      match s1.insts[0]?, s2.insts[0]? with
      | some x1, some x2 => some (readCkpts x1 "t1" || readLive x2 "t1", needsTable x2 "t1", needsTable2 x1 x2 "t1")
      | _, _ => none) = some (false, true, true) := by decide +kernel

/-- D63, repaired (f9820ca): `Operator.HandleDeploy` closes the previous database before `dkv.Open`, and `DB.Close`
waits for every flush and compaction the instance had enqueued — read from the source on every run (hard facts
`c09DeployClosesFirst`, `c09CloseWaits`). This rules out a late write of a task that was in flight at the redeploy;
it does NOT rule out `lateWrite` altogether (next theorem). -/
theorem previous_instance_drained_before_reopen : drained = true := by decide +kernel

/-- D70 (open): `DB.Close` is one wait on the pending-task counter — it drains, it does not stop intake — and the
operator's event goroutine applies a batch to the old store without the operator's mutex until `dkv.Open` has
returned (`c09WritersFenced` = 0: no closed flag read by `Put`/`rotateMemtable`/`enqueue`, `processEventBatch` not
under `o.mu`). A flush enqueued after `Close` returned writes a table file, under the old instance's numbering, into
the directory the new instance has reopened. So `lateWrite` is still a behaviour of the code, in a narrower window;
every global theorem excludes it. (Breaks, as it should, when the window is closed in the source.) -/
theorem late_write_window_open : quiesced = false := by decide +kernel

/-- The late write (D63 for a task in flight — repaired; D70 for a write accepted after `Close` — open): the operator is
redeployed inside a living process. Instance 0 is dropped (`release`); instance 1 is opened from checkpoint 1 in the
same directory and flushes table "t1" — the name instance 0's numbering gives its next table too. When instance 0's
write lands, the live table "t1" of the running instance 1 is lost. -/
def d63Trace : List Act :=
  [.openFresh ⟨0, 8⟩ 0 [] 0, .flush 0 ⟨"t0", 0, 7⟩, .ckpt 0 1 ⟨0, 0, 0⟩, .release 0,
   .openFrom ⟨0, 8⟩ 1 [] [0] 1 0, .flush 1 ⟨"t1", 0, 7⟩, .lateWrite 0 ⟨"t1", 0, 7⟩]

theorem d63_counterexample :
    (run {} d63Trace).map (fun s => (liveTables s, missing s)) = some (["t1", "t0"], [File.sst "t1"]) := by decide +kernel

/-- D68 (open): the job retains checkpoints 1 and 2 of operator X (both list table t0). X's process dies and the
operator is restarted as Y, in a directory of its own, from the OLDER retained checkpoint 1. Y knows only the
checkpoint it restored from: it compacts t0 away, takes checkpoint 3, the job drops checkpoint 1 — and only 1 —, Y's
retention update (the job's list: 2 and 3) drops the restored checkpoint, and the collection of Y's loaded t0 object
deletes the file (its key groups lie inside Y's own range, nobody is asked). Checkpoint 2, which the job never dropped
and whose document entry is intact, has lost its table. The same history with the job giving up checkpoint 2 first
(`jobAbandon 2`) is inside the scope of the composed theorem. -/
def d68Trace : List Act :=
  [.openFresh ⟨0, 8⟩ 0 [] 0, .flush 0 ⟨"t0", 0, 7⟩, .ckpt 0 1 ⟨0, 0, 0⟩, .ckpt 0 2 ⟨0, 1, 0⟩, .crash 0,
   .openFrom ⟨0, 8⟩ 1 [] [0] 1 1, .flush 1 ⟨"u0", 0, 7⟩, .compact 1 ["t0", "u0"] [⟨"u1", 0, 7⟩],
   .ckpt 1 3 ⟨1, 1, 0⟩, .jobDrop 1, .retain 1 [2, 3], .collect 1 "t0" []]

theorem d68_counterexample :
    (run {} d68Trace).map (fun s => (s.floor, s.retained.map (fun h => (h.writer, h.id)),
        (docEntry s 0 2).map (fun c => uris c.tables), missing s)) =
      some (1, [(1, 3), (0, 2)], some ["t0"], [File.sst "t0"]) ∧
    runC {} d68Trace = none ∧
    (runC {} (d68Trace.take 5 ++ [.jobAbandon 2] ++ d68Trace.drop 5)).map missing = some [] := by decide +kernel

/-- D50: an instance reopened in the directory of the instance it restores from saves a checkpoints document that
starts at the restored checkpoint 2: the directory's document (now instance 1's) has an entry for checkpoint 2 and
none for the older checkpoint 1, which the job still retains (in this trace the files checkpoint 1 references are
still there). -/
def d50Trace : List Act :=
  [.openFresh ⟨0, 8⟩ 0 [] 0, .flush 0 ⟨"t0", 0, 7⟩, .ckpt 0 1 ⟨0, 0, 0⟩, .ckpt 0 2 ⟨0, 1, 0⟩, .crash 0,
   .openFrom ⟨0, 8⟩ 1 [] [0] 2 0, .ckpt 1 3 ⟨0, 2, 0⟩]

theorem d50_counterexample :
    (run {} d50Trace).map (fun s => (s.retained.map (fun h => (h.writer, h.id)), s.docs,
        (docEntry s 1 1).isSome, (docEntry s 1 2).isSome, missing s)) =
      some ([(1, 3), (0, 2), (0, 1)], [1], false, true, []) := by decide +kernel

/-- D25: open; write; checkpoint 1; the instance is released inside the living process (operator redeploy); the next
collection deletes the table although checkpoint 1 is retained. -/
def d25Trace : List Act :=
  [.openFresh ⟨0, 8⟩ 0 [] 0, .flush 0 ⟨"t0", 0, 7⟩, .ckpt 0 1 ⟨0, 0, 0⟩, .release 0, .collect 0 "t0" []]

theorem d25_counterexample : (run {} d25Trace).map missing = some [File.sst "t0"] := by decide +kernel

/-- D34: X (all key groups) writes a table covering key groups 0..1, checkpoints and dies; Y (0..3) and Z (4..7)
restore from it — both list the table. Y compacts it away, takes checkpoint 2, the job drops checkpoint 1, Y drops it:
Y's collection deletes the table without asking Z (Y's range contains it), while Z is running with the table in its
level list and in its retained checkpoint 2 (so the file is missing twice over). -/
def d34Trace : List Act :=
  [.openFresh ⟨0, 8⟩ 0 [] 0, .flush 0 ⟨"x0", 0, 1⟩, .ckpt 0 1 ⟨0, 0, 0⟩, .crash 0,
   .openFrom ⟨0, 4⟩ 1 [⟨4, 8⟩] [0] 1 1, .openFrom ⟨4, 8⟩ 1 [⟨0, 4⟩] [0] 1 2,
   .flush 1 ⟨"y0", 0, 1⟩, .compact 1 ["x0", "y0"] [⟨"y1", 0, 1⟩], .ckpt 1 2 ⟨1, 1, 0⟩, .ckpt 2 2 ⟨2, 1, 0⟩, .jobDrop 1,
   .retain 1 [2], .collect 1 "x0" [.needs]]

theorem d34_counterexample : (run {} d34Trace).map missing = some [File.sst "x0", File.sst "x0"] := by decide +kernel

end Rxn.C09
