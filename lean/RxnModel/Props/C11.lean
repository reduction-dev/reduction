import RxnModel.Proofs.Watermark
import RxnModel.Proofs.TimersOp
/-!
# C11 — watermarks are monotone; operators act on the minimum of their upstreams

Models: `Model/Watermark.lean` (Watermarker, the runner's stamping of watermark placeholders when
they are sent, the registry's upstream map and composite) and the operator event loop of `Model/Timers.lean`.
The comparisons and the slack constant are regenerated from the source on every run (`Generated/Facts.lean`).
Times are `Int` nanoseconds; `zeroTime` is `time.Time{}`.
-/
namespace Rxn.C11
open Rxn Rxn.Wm Rxn.Timers

/-- FULL STATEMENT (false of the code, see `wm_monotone_two_senders_counterexample`, finding D39): the watermarks a runner
broadcasts never decrease.
PROVED (`_partial`): they never decrease, for every stream of event batches and watermark ticks, every timestamp order
and every allowed lateness, **while one goroutine consumes the runner's output stream** (`runnerRun`: stamping and
sending a placeholder is one step) — i.e. as long as the runner is not deployed again while it is live. The same
exclusion applies to `wm_eq_max_minus`, `wm_lt_max_forwarded` and the delivered-stream theorems, which are about `runnerRun`/`sentStream`. -/
theorem wm_monotone_partial (w : Watermarker) (evs : List REv) : (runnerRun w evs).Pairwise (· ≤ ·) :=
  -- the broadcast watermarks are those of the sent stream, which obeys `streamOK`
  watermarksOf_sentStream evs w ▸ (streamOK_watermarks _ _ _ (sentStream_ok evs w)).of_cons

/-- D39 seen from C11: with two consumers of the output stream (a second `HandleDeploy` on a live runner) one of them
stamps 9 and is descheduled, the other forwards an event at 100, stamps and broadcasts 99, then the first broadcasts its
9: the runner's watermarks decrease (reproduced on the real runner: `fixes/D39_c11_demo_test.go`) -/
theorem wm_monotone_two_senders_counterexample :
    run2 ⟨Watermarker.new 0, none, none⟩
      [.forward [10], .stamp false, .forward [100], .stamp true, .send true, .send false] = [99, 9] ∧
    ¬ (run2 ⟨Watermarker.new 0, none, none⟩
      [.forward [10], .stamp false, .forward [100], .stamp true, .send true, .send false]).Pairwise (· ≤ ·) := by
  have h : run2 ⟨Watermarker.new 0, none, none⟩
      [.forward [10], .stamp false, .forward [100], .stamp true, .send true, .send false] = [99, 9] := by decide
  refine ⟨h, ?_⟩
  rw [h]
  decide

/-- the watermark stamped on a placeholder when it is sent equals the largest timestamp forwarded before it (the zero
time if none) minus (allowed lateness + 1ns) -/
theorem wm_eq_max_minus (lat : Int) (pre post : List REv) :
    runnerRun (Watermarker.new lat) (pre ++ REv.tick :: post) =
      runnerRun (Watermarker.new lat) pre ++
        (maxOf zeroTime (forwarded pre) - (lat + 1)) :: runnerRun (runnerState (Watermarker.new lat) pre) post := by
  rw [runnerRun_split, runnerState_current]
  rfl

/-- the watermark never reaches the largest event timestamp already forwarded (lateness ≥ 0; timestamps are not before
`time.Time{}`), and that largest timestamp is one that was forwarded -/
theorem wm_lt_max_forwarded (lat : Int) (hlat : 0 ≤ lat) (pre : List REv) :
    (runnerState (Watermarker.new lat) pre).current < maxOf zeroTime (forwarded pre) ∧
    (∀ t ∈ forwarded pre, t ≤ maxOf zeroTime (forwarded pre)) ∧
    ((∃ t ∈ forwarded pre, zeroTime ≤ t) → maxOf zeroTime (forwarded pre) ∈ forwarded pre) := by
  obtain ⟨hat, _, hle⟩ := maxOf_spec zeroTime (forwarded pre)
  refine ⟨?_, hle, ?_⟩
  · rw [runnerState_current]
    show maxOf zeroTime (forwarded pre) - (lat + 1) < maxOf zeroTime (forwarded pre)
    omega
  · rintro ⟨t, ht, hz⟩
    rcases hat with e | e
    · have := hle t ht
      have : t = zeroTime := by omega
      rw [e, ← this]; exact ht
    · exact e

/-- the property as the operator sees it: in the stream of keyed events and watermarks an operator has received from a
runner — for every stream the runner's event loop produced, every batch size of the key-event and operator batchers,
at every moment (whole batches only are delivered) — each watermark, **as delivered**, equals the largest event
timestamp received before it minus (lateness + 1ns); in particular (stated for lateness ≥ 0) a later watermark is never
smaller. (A watermark whose value changes after it was stamped breaks this.) -/
theorem delivered_watermarks_ok (n : Nat) (lat : Int) (evs : List REv) :
    streamOK lat zeroTime (delivered n (Watermarker.new lat) evs) ∧
    (0 ≤ lat → ∀ pre v post, delivered n (Watermarker.new lat) evs = pre ++ SEv.wm v :: post →
      streamOK lat zeroTime pre ∧ ∀ u, SEv.wm u ∈ post → v ≤ u) := by
  have hok : streamOK lat zeroTime (delivered n (Watermarker.new lat) evs) := delivered_ok n (Watermarker.new lat) evs
  exact ⟨hok, fun _ pre v post hsplit => streamOK_split_wm lat pre v post zeroTime (hsplit ▸ hok)⟩

/-- several operators and a runner whose watermarker survives redeployments: for every starting watermarker `w`
(the runner creates it once; `HandleDeploy` does not reset it), every batch size, every routing of the keyed events
and every operator `j`, what `j` has received is a subsequence (order kept, values unchanged) of the stream
`sendOperatorEvent` produced, which satisfies the watermark law at every prefix with the maximum taken over ALL
forwarded events; the watermarks `j` has received are a subsequence of the runner's broadcast watermarks and so
never decrease -/
theorem delivered_to_operators_ok (n : Nat) (w : Watermarker) (evs : List REvK) (j : Nat) :
    let sent := sentStream w ((sentPrefixK (rawCountK evs / batchSize n * batchSize n) evs).map REvK.erase)
    (deliveredTo n w evs j).Sublist sent ∧
    (∀ k, streamOK w.lateness w.maxTs (sent.take k)) ∧
    (watermarksOf (deliveredTo n w evs j)).Pairwise (· ≤ ·) := by
  intro sent
  have hsub : (deliveredTo n w evs j).Sublist sent := by
    unfold deliveredTo
    refine (List.take_sublist _ _).trans ?_
    have := streamOf_sublist j (sentTagged w (sentPrefixK (rawCountK evs / batchSize n * batchSize n) evs))
    rw [sentTagged_erase] at this
    exact this
  refine ⟨hsub, fun k => streamOK_take _ k _ _ (sentStream_ok _ w), ?_⟩
  exact List.Pairwise.sublist (watermarksOf_sublist hsub) (streamOK_watermarks _ _ _ (sentStream_ok _ w)).of_cons

/-- after any interleaving of the runners' watermark messages, the registry's composite watermark is the minimum over
all runners (configured or reporting) of the runner's latest report, a runner that has not reported counting as the epoch -/
theorem composite_eq_min (ids : List String) (msgs : List (String × Int)) (hne : msgs ≠ []) :
    let c := (reportAll (Ups.init ids, regInit) msgs).2
    (∀ k, k ∈ ids ∨ k ∈ msgs.map (·.1) → c ≤ lastOr msgs k) ∧
    ∃ k, (k ∈ ids ∨ k ∈ msgs.map (·.1)) ∧ c = lastOr msgs k := by
  intro c
  rw [show c = _ from reportAll_snd msgs _ hne]
  exact composite_reportAll_min ids msgs regInit (Or.inr hne)

/-- the composite never decreases when a runner reports a watermark that is not below its previous report (for a
runner's first report: not below the current composite — in particular not below the epoch it was counted as, if it was
configured). With `wm_monotone_partial` the operator's effective watermark is monotone whenever only configured runners
report and none reports below the epoch — which an idle runner does at its first tick (`time.Time{}` − (lateness + 1 ns)):
then the composite drops below the epoch once. -/
theorem composite_monotone (u : Ups) (hwf : u.wf) (hne : u ≠ []) (sender : String) (v : Int)
    (hprev : ∀ x, u.get? sender = some x → x ≤ v) (hfirst : u.get? sender = none → u.composite ≤ v) :
    u.composite ≤ (u.report sender v).2 := by
  obtain ⟨_, k, x, hg, hx⟩ := Ups.composite_get? _ (Ups.wf_set u sender v hwf) (Ups.set_ne_nil u sender v)
  obtain ⟨hle, _⟩ := Ups.composite_get? u hwf hne
  show u.composite ≤ (u.set sender v).composite
  rw [hx]
  -- the entry that attains the new minimum is the sender's new report or an entry of the old map
  rw [Ups.get?_set] at hg
  by_cases hk : k = sender
  · rw [if_pos hk] at hg
    cases hg
    cases hs : u.get? sender with
    | none => exact hfirst hs
    | some y => exact Int.le_trans (hle sender y hs) (hprev y hs)
  · rw [if_neg hk] at hg
    exact hle k x hg

/-- every `ProcessEventBatchRequest` tells the handler the composite watermark of the registry of the **current
deployment** as of the watermark messages received since that deployment (including the one being handled): with
`composite_eq_min`, the minimum over the upstream runners. Holds for every history of keyed events, watermark messages,
source completions (a completed runner stays in the minimum with its latest report: `epochOf` keeps its messages) and
redeployments (`HandleDeploy` again on the same operator: every runner back to "not reported"), every batch size and
every timer store. Before the first watermark message of a deployment the field is the registry's initial value
`regInit` (`reportAll` of no messages) — never a value of an earlier deployment; `handler_told_min` identifies it. -/
theorem handler_sees_composite (store : Store) (ids : List String) (maxBatch : Nat) (pre : List OpEv) (e : OpEv) :
    ∀ r ∈ ((Op.runState ⟨Registry.new store ids, [], maxBatch⟩ pre).step e).2,
      r.told = (reportAll (Ups.init (epochOf (ids, []) (pre ++ [e])).1, regInit) (epochOf (ids, []) (pre ++ [e])).2).2 := by
  intro r hr
  have h0 : Tracks ⟨Registry.new store ids, [], maxBatch⟩ (ids, []) := rfl
  have h1 := runState_tracks pre _ _ h0
  have h2 := (step_tracks _ _ h1 e).2 r hr
  rw [h2, epochOf_append]

/-! ### what the handler is told before the first watermark message of a deployment (finding D58, repaired by 204a1f7)

The property's minimum counts a runner that has not reported as the epoch, so with no report at all it is the epoch.
`NewTimerRegistry` now initialises `watermark` to that value (`Wm.regInit`, regenerated from the source); before the
repair the field stayed `time.Time{}` until the first `AdvanceWatermark`. -/

/-- the property's minimum for a deployment with runners `ids` that has received `msgs`: the minimum of the upstream map
(every configured runner starts at the epoch) — defined whether or not a message has arrived -/
def propMin (ids : List String) (msgs : List (String × Int)) : Int :=
  (reportAll (Ups.init ids, regInit) msgs).1.composite

theorem regInit_eq_upstreamInit : regInit = upstreamInit := regInit_eq.trans upstreamInit_eq.symm

/-- at every moment — before the first watermark message of a deployment too — every request tells the handler the
minimum over the upstream runners of their latest watermark, a runner that has not reported counting as the epoch
(`propMin` of the current deployment; with `composite_eq_min` for its characterisation once a message arrived).
Every history of keyed events, watermark messages, completions, barriers and redeployments, every batch size.
(A deployment with no runner at all and no message has no minimum: excluded.) -/
theorem handler_told_min (store : Store) (ids : List String) (maxBatch : Nat) (pre : List OpEv) (e : OpEv)
    (hne : (epochOf (ids, []) (pre ++ [e])).2 ≠ [] ∨ (epochOf (ids, []) (pre ++ [e])).1 ≠ []) :
    ∀ r ∈ ((Op.runState ⟨Registry.new store ids, [], maxBatch⟩ pre).step e).2,
      r.told = propMin (epochOf (ids, []) (pre ++ [e])).1 (epochOf (ids, []) (pre ++ [e])).2 := by
  intro r hr
  rw [handler_sees_composite store ids maxBatch pre e r hr]
  generalize (epochOf (ids, []) (pre ++ [e])).1 = ids' at *
  generalize (epochOf (ids, []) (pre ++ [e])).2 = msgs at *
  by_cases hmsg : msgs = []
  · -- no message yet: the field is its initial value, and the minimum is attained at a configured runner, at the epoch
    subst hmsg
    obtain ⟨_, k, _, hk⟩ := composite_reportAll_min ids' [] regInit (hne.symm.imp_right (absurd rfl))
    exact regInit_eq_upstreamInit.trans hk.symm
  · exact reportAll_snd msgs _ hmsg

/-- the witness of D58, about the old initial value: a registry whose `watermark` field starts as `time.Time{}` (the code
before 204a1f7) tells the handler `time.Time{}` before the first watermark message, below the property's minimum (the epoch) -/
theorem handler_told_initial_counterexample :
    ((Op.step ⟨{ Registry.new (Store.new [] 1 0 1 64) ["a", "b"] with wm := zeroTime }, [], 1⟩ (.keyed [0x6b] [])).2.map (·.told)
      = [zeroTime]) ∧
    propMin ["a", "b"] [] = 0 ∧ zeroTime < 0 ∧
    -- the repaired code: the epoch
    ((Op.step ⟨Registry.new (Store.new [] 1 0 1 64) ["a", "b"], [], 1⟩ (.keyed [0x6b] [])).2.map (·.told) = [0]) := by decide

/-- handling a watermark message only adds `TimerExpired` events whose timestamp is at or before the new composite
watermark: no timer later than the minimum of the upstreams fires. (Events are conserved: what the handler received
during the step plus what is still batched is the old batch followed by the new events.) -/
theorem no_timer_above_composite (o : Op) (sender : String) (wm : Int) :
    ∃ new, allEvents (o.watermark sender wm).2 (o.watermark sender wm).1 = o.batch ++ new ∧
      ∀ e ∈ new, ∃ k t, e = HEv.expired k t ∧ t ≤ (o.watermark sender wm).1.reg.wm ∧
        (o.watermark sender wm).1.reg.wm = (o.reg.ups.report sender wm).2 := by
  have h := opFireLoop_ok (o.reg.ups.report sender wm).2 (o.reg.store.db.length + 1)
    { o with reg := { o.reg with ups := (o.reg.ups.report sender wm).1, wm := (o.reg.ups.report sender wm).2 } }
  obtain ⟨hok, new, hnew, hall⟩ := h
  refine ⟨new, hnew, ?_⟩
  intro e he
  obtain ⟨k, t, hk, ht⟩ := hall e he
  have hw : (o.watermark sender wm).1.reg.wm = (o.reg.ups.report sender wm).2 := hok.wm
  exact ⟨k, t, hk, by rw [hw]; exact ht, hw⟩

/-- an unordered stream with lateness 5: watermarks 24 (after 10, 30, 20) and 34 (after 40, 35) -/
example : runnerRun (Watermarker.new 5) [.events [10, 30, 20], .tick, .events [40, 35], .tick] = [24, 34] := by decide

/-- two runners: the composite follows the slower one; an unreported runner counts as the epoch -/
example : (reportAll (Ups.init ["a", "b"], regInit) [("a", 10)]).2 = 0 ∧
    (reportAll (Ups.init ["a", "b"], regInit) [("a", 10), ("b", 6), ("a", 12)]).2 = 6 ∧
    lastOr [("a", 10), ("b", 6), ("a", 12)] "a" = 12 := by decide

/-- batches of 4: one event, a tick, one event, a tick (the other raw events are keyed to nothing): the operator receives
`10, 9, 100, 99` — the first watermark keeps the value it was stamped with -/
example : delivered 4 (Watermarker.new 0)
    [.events [10], .events [], .events [], .events [], .tick, .events [100], .events [], .events [], .events [], .tick] =
    [.ev 10, .wm 9, .ev 100, .wm 99] := by decide

/-- after a redeployment the handler is told the epoch again until a runner of the new deployment reports -/
example : ((Op.runState ⟨Registry.new (Store.new [] 1 0 1 64) ["a"], [], 1⟩
      [.wmark "a" 100, .redeploy (Store.new [] 1 0 1 64) ["a"]]).step (.keyed [0x6b] [])).2.map (·.told) = [0] ∧
    ((Op.runState ⟨Registry.new (Store.new [] 1 0 1 64) ["a"], [], 1⟩
      [.wmark "a" 100]).step (.keyed [0x6b] [])).2.map (·.told) = [100] := by decide

/-- runner `a` completes at watermark 5 while `b` is at 50: the next report of `b` leaves the composite at 5 -/
example : ((Op.runState ⟨Registry.new (Store.new [] 1 0 1 64) ["a", "b"], [], 1⟩
      [.wmark "a" 5, .wmark "b" 50, .complete "a", .wmark "b" 60]).step (.keyed [0x6b] [])).2.map (·.told) = [5] := by decide

/-- two operators, batches of 2, a watermarker that already saw 50 in an earlier deployment: operator 1 has received the
event routed to it and the first watermark (49: the old maximum still counts), operator 0 its events and both watermarks -/
example : deliveredTo 2 ⟨50, 0⟩ [.events [(0, 10)], .events [(1, 20)], .tick, .events [(0, 100)], .events [], .tick] 1 =
    [.ev 20, .wm 49] ∧
    deliveredTo 2 ⟨50, 0⟩ [.events [(0, 10)], .events [(1, 20)], .tick, .events [(0, 100)], .events [], .tick] 0 =
    [.ev 10, .wm 49, .ev 100, .wm 99] := by decide

/-- a report above the previous one cannot lower the composite -/
example : (Ups.init ["a", "b"]).composite ≤ ((Ups.init ["a", "b"]).report "a" 10).2 := by decide

end Rxn.C11
