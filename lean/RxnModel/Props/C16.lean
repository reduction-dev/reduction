import RxnModel.Proofs.SplitsLoop
import RxnModel.Proofs.SplitsJob
import RxnModel.Proofs.SplitsInv
import RxnModel.Generated.Facts
/-!
# C16 — source positions match the barrier cut; every split has exactly one reader
-/
namespace Rxn.C16
open Rxn Rxn.Splits

/-- `sliceu.Partition` returns `n` groups whose concatenation is a permutation of the input: every element is in
exactly one group (embedded splitter: every split goes to exactly one runner). -/
theorem partition_exact {α : Type} (xs : List α) (n : Nat) (hn : 0 < n) :
    (partition xs n).length = n ∧ (partition xs n).flatten.Perm xs :=
  partition_spec xs n hn

/-- distinct splits: no split is in two groups (or twice in one) -/
theorem partition_disjoint {α : Type} (xs : List α) (n : Nat) (hn : 0 < n) (hx : xs.Nodup) :
    (partition xs n).flatten.Nodup :=
  (partition_exact xs n hn).2.nodup_iff.mpr hx

/-- **Embedded splitter, end to end**: with `n ≥ 1` runners and `k` splits, runner `r` gets group `r` of `n` groups;
every split `i < k` is in the list of exactly one runner, once, and no runner gets anything else. -/
theorem embedded_every_split_one_runner (k n : Nat) (hn : 0 < n) :
    (embeddedAssign k n).length = n ∧
    (∀ i, i < k → ∃ r g, r < n ∧ (embeddedAssign k n)[r]? = some g ∧ i ∈ g ∧ g.Nodup ∧
      ∀ (r' : Nat) (g' : List Nat), (embeddedAssign k n)[r']? = some g' → i ∈ g' → r' = r) ∧
    (∀ (r : Nat) (g : List Nat), (embeddedAssign k n)[r]? = some g → ∀ j ∈ g, j < k) := by
  obtain ⟨h1, h2⟩ := partition_one_group (List.range k) n hn List.nodup_range
  exact ⟨(partition_exact _ n hn).1, fun i hi => h1 i (List.mem_range.mpr hi),
    fun r g hr j hj => List.mem_range.mp (h2 r g hr j hj)⟩

/-- **httpapi splitter**: the single split resumes from the last non-empty split state of the checkpoint (and from
the start when there is none); with the one runner's one state `p` this is `p`, the position `jstep` assigns the
split with directly. -/
theorem httpCursor_spec {α : Type} (pre post : List (List α)) (d : List α) (hd : d ≠ [])
    (hpost : ∀ e ∈ post, e = []) :
    httpCursor (pre ++ [d] ++ post) = d ∧ httpCursor post = [] := by
  refine ⟨?_, ?_⟩
  · rw [httpCursor_append_empties _ _ hpost]; exact httpCursor_append_nonempty pre d hd
  · exact httpCursor_append_empties ([] : List (List α)) post hpost

example : httpCursor [[1], [], [2, 3], []] = [2, 3] := by decide +kernel

example : partition [10, 11, 12, 13, 14] 2 = [[10, 12, 14], [11, 13]] := by decide +kernel
example : embeddedAssign 5 3 = [[0, 3], [1, 4], [2]] := by decide +kernel

/-- **The cut** (partial: one deployment of a runner). Full statement: also across `HandleDeploy` on a live runner.
Excluded: a redeployment of a live runner — the old loop and the old consumer of `outputStream` keep running next to
the new ones (D39, open, recorded under C01), so reads and barriers are no longer one sequential history.
For every history of split assignments, reads, dropped splits and checkpoint barriers of the runner loop in one
deployment of a runner, in which no split is assigned to the reader twice (guaranteed by the splitters: `one_reader`,
`partition_disjoint`, and a fresh reader per deployment): every checkpoint report `rep` sits at the position of its
barrier on the output stream and, for every split `r` it reports: the reported position `r.cur` is the assigned
position plus the number of the split's records ahead of the barrier, every record ahead of the barrier lies before
the position and every record behind it at or after the position. -/
theorem cursor_matches_cut_partial (as : List RAct) (hd : (assignedIds as).Nodup) :
    let st := rrun {} as
    ∀ rep ∈ st.reports,
      st.out[rep.pos]? = some (Ev.barrier rep.id) ∧
      ∀ r ∈ rep.snap,
        r.init + (recIdx r.split (st.out.take rep.pos)).length = r.cur ∧
        (∀ i ∈ recIdx r.split (st.out.take rep.pos), i < r.cur) ∧
        (∀ i ∈ recIdx r.split (st.out.drop rep.pos), r.cur ≤ i) := by
  intro st rep hrep
  exact ((RInv.run as {} RInv.init hd).reps rep hrep).2.1

example :
    let st := rrun {} [.assign [(0, 0), (1, 5)], .read [0, 1, 0], .barrier 1, .read [1, 1], .barrier 2]
    st.out = [.record 0 0, .record 1 5, .record 0 1, .barrier 1, .record 1 6, .record 1 7, .barrier 2] ∧
    st.reports.map (fun r => (r.id, r.pos, r.snap.map fun x => (x.split, x.cur))) =
      [(1, 3, [(0, 2), (1, 6)]), (2, 6, [(0, 2), (1, 8)])] := by decide +kernel

/-- **The cut with the Kinesis reader, also across failed reads, expired iterators and shard ends** (partial: one
deployment, as `cursor_matches_cut_partial`; D39). For every history of records arriving in the shards, shard
assignments, `ReadEvents` calls of the round-robin Kinesis reader under `ReadSourceChannel` and the runner loop — any
of which may fail with a retryable `GetRecords` error — and checkpoint barriers, with at most one record per
`GetRecords` (the start state `{}` has `limit = 1` and no action changes it): the positions reported at a barrier
cover exactly the records emitted before it. -/
theorem cursor_matches_cut_kinesis_partial (as : List KAct) (hd : (kAssignedIds as).Nodup) :
    let st := (krun {} as).r
    ∀ rep ∈ st.reports,
      st.out[rep.pos]? = some (Ev.barrier rep.id) ∧
      ∀ r ∈ rep.snap,
        r.init + (recIdx r.split (st.out.take rep.pos)).length = r.cur ∧
        (∀ i ∈ recIdx r.split (st.out.take rep.pos), i < r.cur) ∧
        (∀ i ∈ recIdx r.split (st.out.drop rep.pos), r.cur ≤ i) := by
  obtain ⟨ras, h, e⟩ := krun_is_rrun as {}
  exact h ▸ cursor_matches_cut_partial ras (e ▸ hd)

/-- the hypothesis of `cursor_matches_cut_partial` is necessary for readers that append: a split assigned twice is read
twice from the same position (what `one_reader` rules out) -/
example :
    (rrun {} [.assign [(0, 0)], .assign [(0, 0)], .read [0]]).splits.map (fun x => (x.split, x.cur)) = [(0, 1), (0, 1)] := by
  decide +kernel

/-- a read whose first `GetRecords` fails moves no position and emits nothing (what the cut relies on) -/
theorem failed_read_moves_nothing (k : KRd) (sp : RSplit) (hs : (activeOf k.r)[k.idx]? = some sp) (hf : k.failIn = 1) :
    (kstep k .read).1.r = k.r ∧ (kstep k .read).1.idx = k.idx ∧ (kstep k .read).2 = some none := by
  simp only [kstep, hs, hf, beq_self_eq_true, if_true, and_self]

example :
    let k := krun { limit := 2 } [.put 0 5, .put 1 3, .assign [(0, 0), (1, 0)], .read, .fail 1, .read, .read, .barrier 1, .read]
    k.r.out = [.record 0 0, .record 0 1, .record 1 0, .record 1 1, .barrier 1, .record 0 2, .record 0 3] ∧
    k.r.reports.map (fun r => r.snap.map fun x => (x.split, x.cur)) = [[(0, 2), (1, 2)]] := by decide +kernel

/-- the reader contract is necessary: a read that moves positions and whose records are then dropped (a failing read
that had already polled other shards, its events discarded by the channel) breaks the cut. Shown on one history: the
report of the barrier at position 0 gives split 0, assigned at 0, the position 2 with no record of it ahead (`take 0`
is empty whatever the stream); that this contradicts `init + records ahead = cur` is left to the reader. -/
theorem dropped_read_breaks_cut :
    let st := rstep (readDrop (rstep {} (.assign [(0, 0)])) [0, 0]) (.barrier 1)
    st.reports.map (fun r => r.snap.map fun x => (x.split, x.init, x.cur)) = [[(0, 0, 2)]] ∧
    recIdx 0 (st.out.take 0) = [] := by decide +kernel

/-- **A split that reached its end.** When the reader drops a split (Kinesis: the shard ended, the job is notified and
the shard leaves `assignedShards`) later checkpoint reports omit it (`rstep … (.barrier _)` reports the splits still
held) and, for every history of the model, no record of it is emitted after that moment: all its records are ahead of
every later barrier, so there is nothing of it left to resume (before that moment it is reported like any other split,
`cursor_matches_cut_partial`). The model's `readOne` never reads a dropped split id again, also when it is assigned
anew; the readers append and would, so for the code this needs, as there, that no split is assigned twice. -/
theorem dropped_split_emits_nothing_more (as : List RAct) :
    let st := rrun {} as
    ∀ sp ∈ st.finished, sp.2 ≤ st.out.length ∧ recIdx sp.1 (st.out.drop sp.2) = [] :=
  (FInv.run as {} ⟨by simp⟩).fin

example :
    let k := krun { limit := 2 } [.put 0 3, .put 1 1, .assign [(0, 0), (1, 0)], .close 0, .read, .read, .read, .barrier 1, .read]
    k.r.out = [.record 0 0, .record 0 1, .record 1 0, .record 0 2, .barrier 1] ∧
    k.r.finished = [(0, 4)] ∧ k.r.reports.map (fun r => r.snap.map fun x => (x.split, x.cur)) = [[(1, 1)]] := by decide +kernel

/-- **A read is emitted atomically.** One `ReadEvents` of the loop — however many records it returns — appends only
events that are no barrier to the output stream and takes no checkpoint report (which events it appends the statement
leaves open): no barrier can fall between the first and the last record of a read, whose positions the reader has
already passed (so a checkpoint requested while a read is being emitted is cut after the whole read;
`cursor_matches_cut_partial` then gives its reported positions). -/
theorem read_is_atomic (st : RSt) (batch : List Nat) :
    ∃ recs, (rstep st (.read batch)).out = st.out ++ recs ∧ (∀ e ∈ recs, ∀ n, e ≠ Ev.barrier n) ∧
      (rstep st (.read batch)).reports = st.reports :=
  read_atomic batch st

/-- `uniformlyAssignShard` always names an existing runner, by its final clamp `min(idx, numRunners-1)` -/
theorem uidx_lt (lo hi n : Nat) (hn : 0 < n) : uidx lo hi n < n := by
  unfold uidx; omega

/-! ## The Kinesis splitter: one reader per shard, children after their parents, restore

`run keep readd s as` runs the splitter together with its stream for an arbitrary list of actions: a splitter (re)starting
from the last checkpoint, discovery ticks, finish notifications for any ids in any order, checkpoints, and
splits / merges of the stream. `keep` = the splitter checkpoint also contains the withheld shards (D16c repair),
`readd` = a restart resumes shards with a reported position that were no longer assigned (D52 repair). The code as it
is (HEAD, all of D16a/b/c/d, D52, D61 repaired) is `run true true`; `false` selects the old rules, kept for the
counterexamples. `s.log` lists the shards handed out since the last (re)start; by `log_records_calls` it is exactly
the content of the `AssignSplits` calls. -/

theorem log_records_calls (keep readd : Bool) (s : Sp) (a : Act) :
    (step keep readd s a).1.log = (match a with | .start => [] | _ => s.log) ++ callIds (step keep readd s a).2 :=
  step_log keep readd s a

/-- **One reader.** Between two (re)starts no shard is handed out twice (each `AssignSplits` call names one runner
per shard, `uidx_lt`), for every history, also across restores. -/
theorem one_reader (keep readd : Bool) (shards runners : Nat) (as : List Act) :
    (run keep readd (initSp shards runners) as).log.Nodup :=
  (Inv.run keep readd as _ (Inv.init shards runners)).L1

/-- a shard that is currently assigned has no parent that the tracker still knows (tracker-level form) -/
theorem assigned_has_no_known_parent (keep readd : Bool) (shards runners : Nat) (as : List Act) :
    let s := run keep readd (initSp shards runners) as
    ∀ sh ∈ s.tr.known, sh.id ∈ s.tr.assigned → ∀ p ∈ sh.parents, knownId s.tr.known p = false :=
  (Inv.run keep readd as _ (Inv.init shards runners)).W

/-- **Children withheld** (the code as it is, `keep = true`: D16c repaired in /repo e1d3d29, the splitter checkpoint
persists the shards that are known but withheld): whenever a shard has been handed out, a finish notification for each
of its parents had been processed before — for every split/merge history and every checkpoint/restore placement. -/
theorem children_withheld (readd : Bool) (shards runners : Nat) (as : List Act) :
    let s := run true readd (initSp shards runners) as
    ∀ i ∈ s.log, ∀ sh : Shard, s.stream[i]? = some sh → ∀ p ∈ sh.parents, p ∈ s.done :=
  (Inv.run true readd as _ (Inv.init shards runners)).D
    (Clean.run readd as _ (Clean.init shards runners)).untainted

/-- History (the rule before the D16c repair, `keep = false`: withheld shards were not persisted; witnesses
`children_withheld_counterexample`, `assignable_is_assigned_counterexample`): children were withheld as long as
`tainted = false`: no restore so far used a checkpoint that was taken while a withheld (known, unassigned) shard had an
id below `LastAssignedShardId` (`Ckpt.good = false`), nor one taken after such a restore. -/
theorem children_withheld_old_rule (readd : Bool) (shards runners : Nat) (as : List Act) :
    let s := run false readd (initSp shards runners) as
    s.tainted = false →
    ∀ i ∈ s.log, ∀ sh : Shard, s.stream[i]? = some sh → ∀ p ∈ sh.parents, p ∈ s.done :=
  (Inv.run false readd as _ (Inv.init shards runners)).D

/-- `tainted` arises only by the excluded condition -/
theorem tainted_only_by_bad_restore (readd : Bool) (s : Sp) (a : Act) (h : s.tainted = false)
    (h' : (step false readd s a).1.tainted = true) :
    a = .start ∧ ∃ c, s.ck = some c ∧ (c.good = false ∨ c.clean = false) := by
  obtain ⟨ha, c, hc, hbad⟩ := step_taints false readd s a h h'
  exact ⟨ha, c, hc, hbad.symm.imp And.right id⟩

/-- **Restore resumes** (shards still assigned when the splitter's part of the checkpoint was taken). A splitter
restarted from a checkpoint hands out every such shard, with the cursor the runners reported for it, in its first
`AssignSplits` call — unless (`readd = true` only) a parent of it is resumed first because its reported position had
been dropped from the tracker (D52); nothing is handed out twice. -/
theorem restore_resumes (keep readd : Bool) (shards runners : Nat) (as : List Act) (c : Ckpt) :
    let s := run keep readd (initSp shards runners) as
    s.ck = some c →
    (∀ sh ∈ c.tr.known, sh.id ∈ c.tr.assigned →
      (∃ call ∈ (restart keep readd s).2, (uidx sh.lo sh.hi s.runners, sh.id, cursorOf c.states sh.id) ∈ call) ∨
      (readd = true ∧ ∃ p ∈ sh.parents, p ∈ (readdList s.stream c).map (·.id))) ∧
    (restart keep readd s).1.log = callIds (restart keep readd s).2 ∧ (restart keep readd s).1.log.Nodup := by
  intro s hck
  have hI : Inv s := Inv.run keep readd as _ (Inv.init shards runners)
  refine ⟨fun sh hs ha => restart_assigns keep readd s hI c hck sh hs ha, ?_, (Inv.restart keep readd s hI).L1⟩
  have := step_log keep readd s .start
  simpa [step] using this

/-- **Every reported position is resumed** (`readd = true`, the D52 repair /repo c7455f1: `resumeFinishedShards` re-adds
shards which have a reported position but were no longer assigned when the splitter's part of the checkpoint was
taken; for either `keep`, the code as it is being `keep = true`). For every history: a restart hands out every shard
of the stream for which the checkpoint holds a position, with that position, or the shard waits for a tracked
parent. -/
theorem reported_positions_resumed (keep : Bool) (shards runners : Nat) (as : List Act) (c : Ckpt) :
    let s := run keep true (initSp shards runners) as
    s.ck = some c →
    ∀ (i : Nat) (sh : Shard), s.stream[i]? = some sh → i ∈ c.states.map (·.1) →
      (∃ call ∈ (restart keep true s).2, (uidx sh.lo sh.hi s.runners, i, cursorOf c.states i) ∈ call) ∨
      ∃ p ∈ sh.parents, knownId (discover (load keep true s)).tr.known p = true := by
  intro s hck i sh hsh hst
  exact reported_resumed keep true s (Inv.run keep true as _ (Inv.init shards runners)) c hck i sh hsh hst
    (Or.inr (Or.inr rfl))

/-- History (the rule before the D52 repair, `readd = false`): positions were resumed only for shards that, when the
splitter's part of the checkpoint was taken (`Store.finishSnapshot`, after the last acknowledgement), were still
tracked and assigned, or not yet passed by discovery; a shard that finished between its runner's barrier and that
moment was in no list of the checkpoint any more (`reported_positions_resumed_counterexample`). -/
theorem reported_positions_resumed_old_rule (shards runners : Nat) (as : List Act) (c : Ckpt) :
    let s := run false false (initSp shards runners) as
    s.ck = some c →
    ∀ (i : Nat) (sh : Shard), s.stream[i]? = some sh → i ∈ c.states.map (·.1) →
      ((knownId c.tr.known i = true ∧ i ∈ c.tr.assigned) ∨ c.tr.next ≤ i) →
      (∃ call ∈ (restart false false s).2, (uidx sh.lo sh.hi s.runners, i, cursorOf c.states i) ∈ call) ∨
      ∃ p ∈ sh.parents, knownId (discover (load false false s)).tr.known p = true := by
  intro s hck i sh hsh hst hx
  exact reported_resumed false false s (Inv.run false false as _ (Inv.init shards runners)) c hck i sh hsh hst
    (hx.elim (fun h => Or.inl ⟨h.1, Or.inl h.2⟩) fun h => Or.inr (Or.inl h))

/-- after every step that ends with an assignment round nothing assignable is left: by `tracked_cases` every tracked
shard is then assigned or has a tracked parent -/
theorem assignment_round_leaves_nothing_available (keep readd : Bool) (s : Sp) (a : Act)
    (ha : a = .start ∨ a = .tick ∨ ∃ ids, a = .finish ids) : available (step keep readd s a).1.tr = [] := by
  rcases ha with rfl | rfl | ⟨ids, rfl⟩
  · exact available_after_assign (discover (load keep readd s))
  · exact available_after_assign (discover s)
  · exact available_after_assign (remove s ids)

/-- `none_left_behind` for any `keep`, under the hypothesis that the state after the step is untainted (needed for
`keep = false`, the rule before the D16c repair; excluded condition as in `children_withheld_old_rule`). Full
statement: without the hypothesis. -/
theorem none_left_behind_untainted (keep readd : Bool) (shards runners : Nat) (as : List Act) (a : Act)
    (ha : a = .start ∨ a = .tick) :
    let s' := (step keep readd (run keep readd (initSp shards runners) as) a).1
    s'.tainted = false →
    ∀ (i : Nat) (sh : Shard), s'.stream[i]? = some sh →
      i ∈ s'.done ∨ i ∈ s'.log ∨ ∃ p ∈ sh.parents, knownId s'.tr.known p = true := by
  exact fun ht => step_complete keep readd _ (Inv.run keep readd as _ (Inv.init shards runners)) a ha ht

/-- **No shard is left behind** (the code as it is, `keep = true`; unconditional, `Clean` excluding taint). After a
(re)start or a discovery tick — both end with an assignment round — every shard of the stream is finished, has been
handed out, or waits for a parent the tracker still tracks. -/
theorem none_left_behind (readd : Bool) (shards runners : Nat) (as : List Act) (a : Act) (ha : a = .start ∨ a = .tick) :
    let s' := (step true readd (run true readd (initSp shards runners) as) a).1
    ∀ (i : Nat) (sh : Shard), s'.stream[i]? = some sh →
      i ∈ s'.done ∨ i ∈ s'.log ∨ ∃ p ∈ sh.parents, knownId s'.tr.known p = true := by
  intro s'
  have hc : Clean (run true readd (initSp shards runners) as) := Clean.run readd as _ (Clean.init shards runners)
  exact none_left_behind_untainted true readd shards runners as a ha (Clean.step readd _ hc a).untainted

/-- `assignable_is_assigned` for any `keep`, under the hypothesis that the state after the step is untainted (as in
`none_left_behind_untainted`). -/
theorem assignable_is_assigned_untainted (keep readd : Bool) (shards runners : Nat) (as : List Act) (a : Act)
    (ha : a = .start ∨ a = .tick) :
    let s' := (step keep readd (run keep readd (initSp shards runners) as) a).1
    s'.tainted = false → s'.wild = false →
    ∀ (i : Nat) (sh : Shard), s'.stream[i]? = some sh → (∀ p ∈ sh.parents, p ∈ s'.done) → i ∉ s'.done → i ∈ s'.log := by
  exact step_assignable keep readd _ (Inv.run keep readd as _ (Inv.init shards runners))
    (Tame.run keep readd as _ (Inv.init shards runners) (Tame.init shards runners)) a ha

/-- **Every assignable shard is assigned** (the code as it is, `keep = true`; unconditional on taint by `Clean`). As
long as finish notifications only name shards that were assigned (`wild = false`: what readers do), after a (re)start
or a discovery tick every shard of the stream whose parents are all finished, and which is not finished itself, has
been handed out. -/
theorem assignable_is_assigned (readd : Bool) (shards runners : Nat) (as : List Act) (a : Act) (ha : a = .start ∨ a = .tick) :
    let s' := (step true readd (run true readd (initSp shards runners) as) a).1
    s'.wild = false →
    ∀ (i : Nat) (sh : Shard), s'.stream[i]? = some sh → (∀ p ∈ sh.parents, p ∈ s'.done) → i ∉ s'.done → i ∈ s'.log := by
  intro s'
  have hc : Clean (run true readd (initSp shards runners) as) := Clean.run readd as _ (Clean.init shards runners)
  exact assignable_is_assigned_untainted true readd shards runners as a ha (Clean.step readd _ hc a).untainted

/-- **Recovery resumes the sources from the cut the operators restore.** For every history of completed checkpoints
(snapshot write finished at once or still in flight), late publications and (re)deployments — including a publication
that lands between `assembly.Deploy` and `sourceSplitter.Start` — every (re)start either restores nothing and assigns
no cursor, or deploys the operators with a checkpoint id and assigns the split with the position the runner reported
for exactly that id (ids are unique). In the model both halves of an observation come from the one
`CurrentCheckpoint()` that `jstep` reads at the start (as `Job.start` does); proved of it: it is a checkpoint the
runner reported, and reported ids are unique. -/
theorem job_resumes_restored_cut (as : List JAct) :
    ((jrun {} as).1.reported.map (·.1)).Nodup ∧
    ∀ o ∈ (jrun {} as).2, o = (none, none) ∨ ∃ c ∈ (jrun {} as).1.reported, o = (some c.1, some c.2) :=
  ⟨(JInv.run as {} JInv.init).nodup, jrun_obs as {} JInv.init⟩

example : (jrun {} [.start false, .ckpt 10 false, .ckpt 20 true, .start true, .start false]).2 =
    [(none, none), (some 1, some 10), (some 2, some 20)] := by decide +kernel

/-- **The splitter's checkpoint is one locked read** (structural fact, regenerated from the source on every run by
`tools/gofacts/facts_c16.go`): `SourceSplitter.Checkpoint` obtains the assigned shards and `LastAssignedSplitID` from
ONE call of a `SplitTracker` method that holds the tracker's mutex for its whole body, and reads neither of them
anywhere else; that the tracker's writers hold the same mutex is not part of the fact. With that, this is what makes
the model's atomic `checkpoint` step right (D61, repaired in /repo 3c1870d: the list was read under the mutex and the
id afterwards without it, so an assignment in between produced a checkpoint whose id covered shards missing from its
list). -/
theorem checkpoint_is_one_locked_read : Facts.c16CheckpointOneLockedRead = 1 := by decide

/-! ### non-vacuity and the witnesses of the repaired findings -/

/-- a small stream: shard 0 → 2,3; shard 1 → 4,5; later shard 2 → 6,7 -/
def witness : List Act :=
  [.start, .split 0 100, .split 1 (2 ^ 127 + 5), .tick, .finish [1], .ckpt [(0, 7), (4, 9)], .split 2 50, .start]

example : (run true true (initSp 2 2) witness).log = [0, 4, 5] := by decide +kernel
example : ((run true true (initSp 2 2) witness).ck.map fun c => (c.tr.assigned, c.tr.next, c.good)) = some ([5, 4, 0], 6, false) := by
  decide +kernel
example : (restart true true (run true true (initSp 2 2) (witness.take 7))).2 = [[(0, 0, 7), (1, 4, 9), (1, 5, 0)]] := by decide +kernel
example : (restart false true (run false true (initSp 2 2) (witness.take 7))).2 =
    [[(0, 7, 0), (0, 6, 0), (0, 0, 7), (1, 4, 9), (1, 5, 0)]] := by decide +kernel

/-- D16c on the model of the code before the repair (`keep = false`): after the restore the grandchildren 6,7 of the
unfinished shard 0 are handed out although their parent 2 was never read (and 2,3 are lost) -/
theorem children_withheld_counterexample :
    let s := run false true (initSp 2 2) witness
    s.tainted = true ∧ 6 ∈ s.log ∧ s.stream[6]?.map (·.parents) = some [2] ∧ 2 ∉ s.done := by decide +kernel

/-- ... and after shard 0 finishes and a discovery tick its children 2,3 are still not handed out -/
theorem assignable_is_assigned_counterexample :
    let s := run false true (initSp 2 2) (witness ++ [.finish [0], .tick])
    s.wild = false ∧ s.stream[2]?.map (·.parents) = some [0] ∧ 0 ∈ s.done ∧ 2 ∉ s.done ∧ 2 ∉ s.log := by decide +kernel

/-- D52 on the model of the code before the repair (`readd = false`; the auditor's witness): shard 0 is split, its
children are discovered; the runner reports position 5 of shard 0 at the barrier, shard 0 finishes before the
splitter's part of the checkpoint is taken; the restart hands out only the children — shard 0, which the operators'
state covers up to position 5 only, is never read again -/
def witnessD52 : List Act := [.start, .split 0 100, .tick, .finish [0], .ckpt [(0, 5)]]

theorem reported_positions_resumed_counterexample :
    let s := run false false (initSp 1 1) witnessD52
    (s.ck.map fun c => (c.states, c.tr.assigned, c.tr.next)) = some ([(0, 5)], [2, 1], 3) ∧
    (restart false false s).2 = [[(0, 1, 0), (0, 2, 0)]] ∧ (restart false false s).1.dropped = true ∧
    (restart false false s).1.tainted = false := by decide +kernel

/-- the code as it is (`keep = readd = true`) resumes shard 0 from position 5 and withholds the children -/
example : (restart true true (run true true (initSp 1 1) witnessD52)).2 = [[(0, 0, 5)]] := by decide +kernel
/-- so does `keep = false` with `readd = true`: only `readd` matters here -/
example : (restart false true (run false true (initSp 1 1) witnessD52)).2 = [[(0, 0, 5)]] := by decide +kernel

end Rxn.C16
