import RxnModel.Proofs.KeyedStateLsm
import RxnModel.Props.C07
/-!
# C03 — keyed state behaves as a per-key map the handler fully controls

Model: `Model/KeyedState.lean` (the store and the operator's batch rule over the sorted-map specification `KV` of the
DKV), the key encoders of `Model/KeySpace.lean` (schema bytes regenerated from the source) and
`Model/KeyedStateLsm.lean` (the same store on the LSM transition system of C07). C07 proves that the LSM refines its
own specification `Lsm.Spec` under every timing of rotation, flush and compaction; `lsm_scan_refines_kv` below carries
that to `KV`.

Explicit preconditions (what the encoders can represent): subject keys shorter than 2^32 bytes (`uint32(len)`,
`Act.KeysOK` / `Batch.KeysOK`) and, LOCAL to the key whose state is concluded, namespaces of at most 255 bytes in the
mutations returned for that key (`NsOKFor k`, from `uint8(len(namespace))`): what other keys' mutations use is
irrelevant. `getState_spec_general` needs no namespace precondition at all (it speaks about the normalised mutations);
`namespace_256_aliases` records what happens at 256 bytes (a guard, not a claimed violation). The property quantifies
over subject keys, entry keys and values, not over namespaces.
-/
namespace Rxn.C03
open Rxn Rxn.KeyedState

/-- the scan prefix of one subject key matches exactly the composite keys of that subject key, whatever the key groups
are: the 4-byte length in front of the subject key makes the per-key prefixes prefix-free -/
theorem subject_prefix_free (kgc : Nat) (k₁ k₂ ns d : Bytes)
    (h1 : k₁.length < 2 ^ 32) (h2 : k₂.length < 2 ^ 32) :
    Bytes.hasPrefix (Keys.dbKey kgc k₂ ns d) (Keys.subjectKey kgc k₁) = true ↔ k₁ = k₂ :=
  dbKey_hasPrefix_iff kgc k₁ k₂ ns d h1 h2

/-- distinct (subject key, namespace, entry key) triples of representable lengths never share a composite key -/
theorem dbkey_injective (kgc : Nat) (k k' ns ns' d d' : Bytes)
    (hk : k.length < 2 ^ 32) (hk' : k'.length < 2 ^ 32) (hn : ns.length ≤ 255) (hn' : ns'.length ≤ 255)
    (h : Keys.dbKey kgc k ns d = Keys.dbKey kgc k' ns' d') : k = k' ∧ ns = ns' ∧ d = d' :=
  dbKey_inj hk hk' hn hn' h

/-- a timer key is never inside the state prefix of any subject key (the schema bytes regenerated from the source differ) -/
theorem state_timer_disjoint (kgc : Nat) (k k' : Bytes) (t : Nat) :
    Bytes.hasPrefix (Keys.timerKey kgc k t) (Keys.subjectKey kgc k') = false :=
  timerKey_not_hasPrefix_subjectKey kgc k k' t

/-- `decodeKey` recovers namespace and entry key from the composite key of every triple of representable lengths -/
theorem decode_encode (kgc : Nat) (k ns d : Bytes) (hk : k.length < 2 ^ 32) (hn : ns.length ≤ 255) :
    decodeKey (Keys.dbKey kgc k ns d) = (ns, d) :=
  decode_dbKey kgc k ns d hk hn

/-- **GetState is the per-key map.** After any sequence of `ApplyMutations` calls and timer writes (any subject keys,
entry keys and values), `GetState k` is exactly the map obtained by replaying, in order, the mutations returned for `k`:
same entries (`content`: nothing of another key, another namespace or a timer appears; an overwritten or deleted entry
does not reappear), every namespace once, no empty namespace, entries in entry-key order. -/
theorem getState_spec (kgc : Nat) (acts : List Act) (hkeys : ∀ a ∈ acts, a.KeysOK) (k : Bytes) (hk : k.length < 2 ^ 32)
    (hns : NsOKFor k (acts.flatMap Act.lwrites)) :
    Matches (getState kgc (run kgc [] acts) k) (specLookup (acts.flatMap Act.lwrites) k) :=
  getState_matches_local kgc acts hkeys k hk hns

/-- **Without any namespace precondition**: a mutation whose namespace is longer than 255 bytes addresses the entry of
its normalised form (`normW`: the first `len % 256` bytes as namespace, the rest in front of the entry key), and
`GetState k` is exactly the per-key map of the normalised mutations. (`normW` is the identity up to 255 bytes.) -/
theorem getState_spec_general (kgc : Nat) (acts : List Act) (hkeys : ∀ a ∈ acts, a.KeysOK) (k : Bytes)
    (hk : k.length < 2 ^ 32) :
    Matches (getState kgc (run kgc [] acts) k) (specLookup ((acts.flatMap Act.lwrites).map normW) k) ∧
    (∀ w : LWrite, w.2.1.length ≤ 255 → normW w = w) :=
  ⟨getState_matches_norm kgc acts hkeys k hk, normW_id⟩

/-- the per-key map is controlled by the mutations naming that key only: `specLookup · k` looks only at the mutations
with subject key `k` (a statement about the specification side of `getState_spec`; timer writes carry no mutations) -/
theorem spec_ignores_others (acts : List Act) (k : Bytes) :
    specLookup (acts.flatMap Act.lwrites) k = specLookup ((acts.flatMap Act.lwrites).filter (fun w => w.1 = k)) k := by
  funext ns ek
  exact (lastBy_filter _ _ (fun w _ hw => decide_eq_true hw.1) none).symm

/-- **Batch rule.** For every sequence of handler invocations (batches of events with repeated keys, arbitrary responses,
timers set and fired in between): invocation `i` receives one key state per distinct event key, and the state for
key `k` is the map obtained by replaying all mutations returned by invocations `< i` for `k`, in invocation and result
order — the mutations of invocation `i` itself are applied only after the handler returned. An event is a keyed event
or a timer-expired event; both carry a key. -/
theorem batch_semantics (kgc : Nat) (bs : List Batch) (hkeys : ∀ b ∈ bs, b.KeysOK) (i : Nat) (b : Batch)
    (hb : bs[i]? = some b) :
    ∃ obs, (runBatches kgc [] bs)[i]? = some obs ∧
      obs.map (·.1) = distinctKeys b.events ∧ (distinctKeys b.events).Nodup ∧
      (∀ k, k ∈ distinctKeys b.events ↔ k ∈ b.events) ∧
      ∀ k st, (k, st) ∈ obs → NsOKFor k (mutsBefore bs i) → Matches st (specLookup (mutsBefore bs i) k) := by
  obtain ⟨obs, h, h1, h2⟩ := batch_keyStates kgc bs i b hb
    (fun b' hb' => (hkeys b' (List.mem_of_mem_take hb')).2) (hkeys b (List.mem_of_getElem? hb)).1
  exact ⟨obs, h, h1, distinctKeys_nodup _, distinctKeys_mem _,
    fun k st hm hns => by rw [← specLookup_local k _ hns]; exact h2 k st hm⟩

/-- **Batch rule across checkpoints and restores** ("since job start or since the restored checkpoint"). For every
history of handler invocations (events are keyed events and timer-expired events alike: `fired` are the timers the
watermark popped before the invocation), DKV checkpoints with ids, and redeploys from ANY checkpoint id (a retained one:
the latest, or an older one — recovery restores the newest checkpoint the job published, which can be older than the
operator's own latest; or, in the model, one that is not retained: the database is then empty and no earlier invocation
is effective): invocation `i` receives one key state per distinct event key, and the state for `k` is the
replay of the mutations returned by the *effective* earlier invocations — those before the restored checkpoint and
those since the restore; what was returned after the restored checkpoint is gone, nothing else is lost or added. -/
theorem restore_semantics (kgc : Nat) (steps : List OpStep) (hkeys : ∀ b, OpStep.batch b ∈ steps → b.KeysOK)
    (i : Nat) (b : Batch) (hb : steps[i]? = some (.batch b)) :
    ∃ obs, (runOps kgc {} steps)[i]? = some (some obs) ∧
      obs.map (·.1) = distinctKeys b.events ∧
      ∀ k st, (k, st) ∈ obs →
        NsOKFor k ((effective (steps.take i)).1.flatMap (fun b => b.resp.flatMap KeyResult.lwrites)) →
        Matches st (specLookup ((effective (steps.take i)).1.flatMap (fun b => b.resp.flatMap KeyResult.lwrites)) k) := by
  have hres := eff_all (fun b => ∀ kr ∈ b.resp, kr.key.length < 4294967296) (steps.take i) ([], []) ⟨nofun, nofun⟩
    (fun b' hb' => (hkeys b' (List.mem_of_mem_take hb')).2)
  obtain ⟨obs, h, h1, h2⟩ := restore_keyStates kgc steps i b hb hres (hkeys b (List.mem_of_getElem? hb)).1
  exact ⟨obs, h, h1, fun k st hm hns => by rw [← specLookup_local k _ hns]; exact h2 k st hm⟩

/-! ## "regardless of how the state has been batched, flushed or compacted underneath"

The theorems above read and write the sorted-map specification `KV`. The following ones place the same store on the LSM
transition system of C07 (`Model/Lsm.lean`: memtable queue, level 0..n, rotation, flush begin/commit, compaction commit
with any change set passing `safeCS`, two-phase reads) and use C07's proved scan refinement, so that the timing of
rotation, flush and compaction is universally quantified inside the C03 statement itself. The read is `Lsm.scan` /
`Lsm.scan2`, the merge of ALL tables of all levels; the read over the tables `AllTablesForPrefix` selects
(`Rescale.scanR`, `Lsm.scan2R`: `C07.scan_code_returns_live_keys`, `C07.two_phase_scan_code`) is not composed here. -/

/-- **The LSM model's `Lsm.scan` is the sorted map's scan.** For every LSM history `as` (writes, rotations, flush
begins/commits, compaction commits, point reads, in any order) whose foreground writes are, in order, the writes the
store issued for `acts`, and every prefix: the scan of the reached LSM state is the scan of `run kgc [] acts`. -/
theorem lsm_scan_refines_kv (kgc : Nat) (acts : List Act) (as : List Lsm.Act) (s : Lsm.State) (m : Lsm.Spec)
    (hrun : Lsm.runBoth {} [] as = some (s, m)) (hw : writesOf as = acts.flatMap (Act.rawWrites kgc)) (p : Bytes) :
    kvOfRun (Lsm.scan s p) = (run kgc [] acts).scan p := by
  obtain ⟨hs, hr⟩ := C07.scan_returns_live_keys as s m hrun p
  exact kvOfRun_eq_scan kgc acts as s m hrun hw p _ hs hr

/-- **GetState over the LSM.** After any sequence of `ApplyMutations` calls and timer writes, executed on the LSM with
memtable rotations, flushes and compactions committing at arbitrary points (also between the single writes of one
call), `GetState k` read through `Lsm.scan` (`getStateLsm`) is exactly the per-key map of the mutations returned for `k`. -/
theorem getState_over_lsm (kgc : Nat) (acts : List Act) (hkeys : ∀ a ∈ acts, a.KeysOK)
    (as : List Lsm.Act) (s : Lsm.State) (m : Lsm.Spec)
    (hrun : Lsm.runBoth {} [] as = some (s, m)) (hw : writesOf as = acts.flatMap (Act.rawWrites kgc))
    (k : Bytes) (hk : k.length < 2 ^ 32) (hns : NsOKFor k (acts.flatMap Act.lwrites)) :
    getStateLsm kgc s k = getState kgc (run kgc [] acts) k ∧
    Matches (getStateLsm kgc s k) (specLookup (acts.flatMap Act.lwrites) k) := by
  have e : getStateLsm kgc s k = getState kgc (run kgc [] acts) k := by
    simp only [getStateLsm, getState, decoded, lsm_scan_refines_kv kgc acts as s m hrun hw]
  exact ⟨e, by rw [e]; exact getState_matches_local kgc acts hkeys k hk hns⟩

/-- the same when the scan runs in two phases (`Lsm.scan2`: the memtables of state `sA`, all tables of the later
state `sB`) with arbitrary background commits `as₂` in between: no flush or compaction landing inside a `GetState`
changes what it returns -/
theorem getState_over_lsm_two_phase (kgc : Nat) (acts : List Act) (hkeys : ∀ a ∈ acts, a.KeysOK)
    (as₁ as₂ : List Lsm.Act) (sA sB : Lsm.State) (m m' : Lsm.Spec)
    (h1 : Lsm.runBoth {} [] as₁ = some (sA, m)) (hw : writesOf as₁ = acts.flatMap (Act.rawWrites kgc))
    (hnw : Lsm.noWrite as₂ = true) (h2 : Lsm.runBoth sA m as₂ = some (sB, m'))
    (k : Bytes) (hk : k.length < 2 ^ 32) (hns : NsOKFor k (acts.flatMap Act.lwrites)) :
    Matches (group (decodedOf (kvOfRun (Lsm.scan2 sA sB (Keys.subjectKey kgc k)))))
      (specLookup (acts.flatMap Act.lwrites) k) := by
  obtain ⟨_, hs, hr⟩ := C07.two_phase_scan as₁ as₂ sA sB m m' h1 hnw h2 (Keys.subjectKey kgc k)
  rw [kvOfRun_eq_scan kgc acts as₁ sA m h1 hw _ _ hs hr]
  exact getState_matches_local kgc acts hkeys k hk hns

/-- **Batch rule over the LSM.** Whatever rotations, flushes and compactions happened underneath before invocation `i`
fetches its states (LSM history `as` whose foreground writes are those of the earlier invocations' results and of the
timers fired so far): the state fetched for every event key is the replay of the mutations returned by invocations `< i`. -/
theorem batch_semantics_over_lsm (kgc : Nat) (bs : List Batch) (hkeys : ∀ b ∈ bs, b.KeysOK) (i : Nat) (b : Batch)
    (hb : bs[i]? = some b) (as : List Lsm.Act) (s : Lsm.State) (m : Lsm.Spec)
    (hrun : Lsm.runBoth {} [] as = some (s, m))
    (hw : writesOf as = (histBefore bs i).flatMap (Act.rawWrites kgc)) (k : Bytes) (hk : k ∈ b.events)
    (hns : NsOKFor k (mutsBefore bs i)) :
    Matches (getStateLsm kgc s k) (specLookup (mutsBefore bs i) k) := by
  have := (getState_over_lsm kgc (histBefore bs i) (histBefore_keysOK bs i (fun b' hb' => (hkeys b' (List.mem_of_mem_take hb')).2)) as s m hrun hw k
    ((hkeys b (List.mem_of_getElem? hb)).1 k hk) (by rw [histBefore_lwrites]; exact hns)).2
  rwa [histBefore_lwrites] at this

/-- the widths of `u32be` and of the length byte `nsEnc` puts in front of the namespace are the ones the source writes
(facts regenerated from `keyed_state_store.go` on every run); the regenerated byte order is big-endian, the order `u32be`
writes. That `Keys.subjectKey` / `Keys.dbKey` are built from these two is their definition (`dbKey_eq`), not part of
the statement -/
theorem layout_agrees (k ns : Bytes) :
    (Bytes.u32be k.length).length * 8 = Facts.ksLenBits ∧ Facts.ksLenBigEndian = 1 ∧
    ((nsEnc ns).length - ns.length) * 8 = Facts.ksNsLenBits := by
  refine ⟨congrArg (· * 8) (Bytes.u32be_length k.length), rfl, ?_⟩
  show (ns.length + 1 - ns.length) * 8 = 8
  rw [Nat.add_sub_cancel_left]

/-- guard: a namespace of 256 bytes is stored under the composite keys of the empty namespace (`uint8(256) = 0`):
two triples share a composite key, so the 255-byte precondition of `dbkey_injective` cannot be dropped -/
theorem namespace_256_aliases (kgc : Nat) (k ns d : Bytes) (h : ns.length = 256) :
    Keys.dbKey kgc k ns d = Keys.dbKey kgc k [] (ns ++ d) := by
  have := dbKey_norm kgc k ns d
  rwa [h] at this

/-- two subject keys that are prefixes of one another, in the same key group, with entries that are prefixes of one
another, a delete-then-put, a delete, and a timer of the same key put into the same database and deleted again -/
def demoActs : List Act :=
  [ .apply [0x61] [([0x61], [.put [] [1], .put [0x00] [2], .put [0x00, 0x00] []]), ([], [.put [0xff] [3]])],
    .timerPut [0x61] 5,
    .apply [0x61, 0x01, 0x61] [([], [.put [] [9]])],
    .apply [0x61] [([0x61], [.del [0x00], .put [0x00] [4], .del []]), ([0x61, 0x62], [.put [0x01] []])],
    .timerDel [0x61] 5 ]

example : getState 1 (run 1 [] demoActs) [0x61] =
    [([], [([0xff], [3])]), ([0x61], [([0x00], [4]), ([0x00, 0x00], [])]), ([0x61, 0x62], [([0x01], [])])] := by decide +kernel

example : getState 1 (run 1 [] demoActs) [0x61, 0x01, 0x61] = [([], [([], [9])])] := by decide +kernel

example : ∀ a ∈ demoActs, a.WF := by
  intro a ha
  simp only [demoActs, List.mem_cons, List.not_mem_nil, or_false] at ha
  rcases ha with rfl | rfl | rfl | rfl | rfl
  · exact apply_wf (by decide) (by decide)
  · exact nofun
  · exact apply_wf (by decide) (by decide)
  · exact apply_wf (by decide) (by decide)
  · exact nofun

/-- the batch rule on a concrete run: the second invocation sees what the first returned, once per distinct key -/
def demoBatches : List Batch :=
  [ { fired := [], events := [[0x6b], [0x6c], [0x6b]],
      resp := [{ key := [0x6b], timers := [7], muts := [([0x61], [.put [1] [2]])] }] },
    { fired := [([0x6b], 7)], events := [[0x6b], [0x6b]], resp := [{ key := [0x6b], timers := [], muts := [([0x61], [.del [1]])] }] },
    { fired := [], events := [[0x6b]], resp := [] } ]

set_option synthInstance.maxSize 1024 in
example : (runBatches 2 [] demoBatches)[0]? = some [([0x6b], []), ([0x6c], [])] := by decide +kernel
set_option synthInstance.maxSize 1024 in
example : (runBatches 2 [] demoBatches)[1]? = some [([0x6b], [([0x61], [([1], [2])])])] := by decide +kernel
set_option synthInstance.maxSize 1024 in
example : (runBatches 2 [] demoBatches)[2]? = some [([0x6b], [])] := by decide +kernel

/-- two checkpoints, more mutations, restore of the OLDER checkpoint: the put of the first invocation stays, the
mutations of the second and third invocation are forgotten; the last step's events are timer-expired events of the timer
the first invocation set -/
def demoSteps : List OpStep :=
  [ .batch { fired := [], events := [[0x6b]], resp := [{ key := [0x6b], timers := [7], muts := [([0x61], [.put [1] [2]])] }] },
    .ckpt 1,
    .batch { fired := [], events := [[0x6b]], resp := [{ key := [0x6b], timers := [], muts := [([0x61], [.del [1], .put [3] [4]])] }] },
    .ckpt 2,
    .batch { fired := [], events := [[0x6b]], resp := [{ key := [0x6b], timers := [], muts := [([0x61], [.put [5] [6]])] }] },
    .restore 1,
    .batch { fired := [([0x6b], 7)], events := [[0x6b]], resp := [] } ]

set_option synthInstance.maxSize 1024 in
example : runOps 2 {} demoSteps =
    [some [([0x6b], [])], none, some [([0x6b], [([0x61], [([1], [2])])])], none,
     some [([0x6b], [([0x61], [([3], [4])])])], none, some [([0x6b], [([0x61], [([1], [2])])])]] := by
  decide +kernel

example : (effective (demoSteps.take 6)).1.length = 1 ∧ (effective (demoSteps.take 6)).2.length = 1 := by decide +kernel

def demoLsmActs : List Act := [.apply [0x61] [([0x61], [.put [1] [2], .del [1], .put [3] [4]])]]

/-- `demoLsmActs` on the LSM: a put is flushed to a table, its delete sits in a sealed memtable, a later put in the
active one; the history is accepted by the LSM model, its foreground writes are the store's writes, and `GetState` over
the layered state is the per-key map -/
def demoLsm : List Lsm.Act :=
  [.put (Keys.dbKey 1 [0x61] [0x61] [1]) [2], .rotate, .flushBegin 1, .flushCommit,
   .del (Keys.dbKey 1 [0x61] [0x61] [1]), .rotate, .put (Keys.dbKey 1 [0x61] [0x61] [3]) [4]]

example : writesOf demoLsm = demoLsmActs.flatMap (Act.rawWrites 1) := by decide +kernel

example : ((Lsm.run {} demoLsm).map (fun s => (s.mems.length, s.levels.map List.length))) =
    some (2, [1, 0, 0, 0, 0, 0]) ∧ (Lsm.runBoth {} [] demoLsm).isSome = true := by decide +kernel

example (s : Lsm.State) (m : Lsm.Spec) (h : Lsm.runBoth {} [] demoLsm = some (s, m)) :
    getStateLsm 1 s [0x61] = [([0x61], [([3], [4])])] := by
  have hwf : ∀ a ∈ demoLsmActs, a.WF := by
    intro a ha
    rw [List.mem_singleton.mp ha]
    exact apply_wf (by decide) (by decide)
  obtain ⟨hkeys, hns⟩ := keysOK_nsOK_of_wf hwf [0x61]
  rw [(getState_over_lsm 1 demoLsmActs hkeys demoLsm s m h (by decide +kernel) [0x61] (by decide) hns).1]
  decide +kernel

/-- the precondition is local: a 300-byte namespace used for ANOTHER key leaves the hypotheses for key `k` intact -/
example (k other : Bytes) (hne : other ≠ k) (ws : List LWrite) (h : NsOKFor k ws) (ek : Bytes) :
    NsOKFor k (ws ++ [(other, List.replicate 300 0x6f, ek, some [1])]) := by
  intro w hw hk
  rcases List.mem_append.mp hw with hw | hw
  · exact h w hw hk
  · simp only [List.mem_singleton] at hw
    subst hw
    exact absurd hk hne

example : Keys.dbKey 1 [] (List.replicate 256 0x6e) [7] = Keys.dbKey 1 [] [] (List.replicate 256 0x6e ++ [7]) :=
  namespace_256_aliases 1 [] _ [7] (List.length_replicate ..)

end Rxn.C03
