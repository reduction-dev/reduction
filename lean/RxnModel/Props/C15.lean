import RxnModel.Proofs.JobFsm
/-!
# C15 — the job runs only on a full, live assembly and checkpointing resumes

Models: `Model/JobFsm.lean` (the job with its snapshot store and the operators' alignment records) and
`Model/RunnerProc.lean` (one source runner process); lemmas for both: `Proofs/JobFsm.lean`.

`ReachableAll`: registrations, deregistrations, heartbeat expiries, deployment results, ticks, savepoint requests,
acknowledgements, publications, barriers and events in any order, stale and duplicate messages included, ticker
callbacks and savepoint requests also run in their pieces (`.tickA/.tickB/.tickC`, `.spA`) with tasks in between
(neither is a task of the job's queue: finding D57). `ReachableSerial`: every callback/request runs as ONE step.

A theorem whose name ends in `_partial` carries an excluded condition, named with its finding in the docstring. The
statements D57 breaks (`tick_interleaving_counterexample`) are proved for `ReachableSerial` only; the other `_partial`
theorems (D45, D56, D48) have the excluded condition as a hypothesis. The other theorems are over `ReachableAll`
or hold in every state.

"New checkpoints complete again" is a liveness claim. It is proved as safety (`no_stale_inflight_partial`,
`pending_belongs_to_assembly_partial`, `record_within_sources`: nothing of a previous deployment is left that could
block a checkpoint) plus bounded progress (`checkpoint_progress_partial`: from such a state the tick and the
acknowledgements of the current assembly publish a new checkpoint; without its hypothesis about alignment records the
statement is false, D56). Fair delivery of those messages is an assumption, not a theorem.
-/
namespace Rxn.C15
open Rxn Rxn.JobFsm

/-! ## only full, live assemblies are deployed -/

/-- Every `Deploy` goes to exactly `WorkerCount` distinct operators and `WorkerCount` distinct source runners, which
are the job's assembly, and each of them is registered with an unexpired heartbeat at the end of the task that
decided the deployment. -/
theorem deploy_only_full_live {s : St} (hr : ReachableAll s) (a : Act) (dep : Dep)
    (hd : (step s a).2.dep? = some dep) :
    dep.ops = (step s a).1.asmOps ∧ dep.srs = (step s a).1.asmSrs ∧
    dep.ops.length = s.w ∧ dep.srs.length = s.w ∧ dep.ops.Nodup ∧ dep.srs.Nodup ∧
    (∀ i ∈ dep.ops, i ∈ (step s a).1.ops ∧ alive (step s a).1 i) ∧
    (∀ i ∈ dep.srs, i ∈ (step s a).1.srs ∧ alive (step s a).1 i) ∧
    (step s a).1.status = .starting :=
  have f := step_dep (reachableAll_inv hr) a dep hd
  ⟨f.ops, f.srs, f.opsLen, f.srsLen, f.opsNodup, f.srsNodup, f.opsLive, f.srsLive, f.starting⟩

/-- a heartbeat counts as expired exactly when it is more than the deadline old (the comparison is regenerated from
`LivenessTracker.Purge` on every run) -/
theorem heartbeat_expiry_exact (d now hb : Nat) : expired d now hb = true ↔ hb + d < now := by
  -- the generated facts say `Before` and "deadline subtracted": `expired` is `hb < now - d` over `Int`
  simp only [expired, Facts.livenessCond, Facts.livenessMinusDeadline]
  simp only [if_true, decide_eq_true_eq]
  omega

/-! ## an unhealthy assembly pauses the job -/

/-- A Running job always has every member of its assembly registered, and its checkpoint ticker is active exactly
while it is Running. -/
theorem running_is_healthy {s : St} (hr : ReachableAll s) :
    (s.status = .running → healthy s = true) ∧ (s.ticker = true ↔ s.status = .running) :=
  ⟨(reachableAll_inv hr).runHealthy, (reachableAll_inv hr).tickRun⟩

/-- After any task that changes the registry while the job is Running: either every member of the assembly is still
registered (after purging expired heartbeats) and the job keeps Running, or the job is Paused and the ticker stopped. -/
theorem unhealthy_pauses {s : St} (hr : ReachableAll s) (h : s.status = .running) (a : Act) (hm : a.membership = true) :
    ((step s a).1.status = .running ∧ healthy (step s a).1 = true ∧ (step s a).1.ticker = true) ∨
    ((step s a).1.status = .paused ∧ healthy (step s a).1 = false ∧ (step s a).1.ticker = false) :=
  membership_running_cases (reachableAll_inv hr) h a hm

/-! ## redeployment starts from the newest published checkpoint -/

/-- Every `Deploy` carries the store's current (newest published) checkpoint, and that is also what the start
goroutine hands to the source splitter when the deployment succeeds. -/
theorem redeploy_from_latest {s : St} (hr : ReachableAll s) (a : Act) (dep : Dep)
    (hd : (step s a).2.dep? = some dep) :
    dep.ck = s.store.current ∧ dep.ck = (step s a).1.store.current ∧ (step s a).1.startCk = dep.ck :=
  have f := step_dep (reachableAll_inv hr) a dep hd
  ⟨f.ckRead, f.ckNow, f.startCk⟩

/-- While a deployment is in flight the store has no pending snapshot (`RegisterSourceSplitter` abandoned it and the
ticker is stopped). Excluded (D57): schedules in which a ticker callback or savepoint request that read the previous
assembly creates its snapshot after the new deployment was decided. -/
theorem start_uses_latest_partial {s : St} (hr : ReachableSerial s) (h : s.status = .starting) : s.store.pending = none :=
  (reachable_inv hr).startClean (reachableSerial_ser hr) h

/-- Every member of one deployment restores the SAME checkpoint: the id the deciding task read (`dep.ck`: a `Dep` has
one `ck`, which every operator's Deploy request carries) is what the source splitter — and through it every source
runner — is started from when the deployment succeeds, whatever happens in between (acknowledgements, a snapshot file
being written and published, ticks, membership changes that do not decide a new deployment). -/
theorem members_restore_same_checkpoint {s : St} (_hr : ReachableAll s) (a : Act) (dep : Dep)
    (hd : (step s a).2.dep? = some dep) (acts : List Act)
    (hq : ∀ o ∈ (run (step s a).1 acts).2, o.dep? = none)
    (hst : (run (step s a).1 acts).1.status = .starting) :
    ∃ st asg sp sr sb, (step (run (step s a).1 acts).1 .deployOk).2 = .started st dep.ck asg sp sr sb :=
  restore_decided_checkpoint (reachableAll_inv _hr) a dep hd acts hq hst

/-- A completed snapshot whose file has been written is always published: the guard of the model's `publish` action
(`canPublish`: the id has been reached by the counter and lies below a pending snapshot's id) holds for every snapshot
being written in every reachable state, so it never changes what the action does. -/
theorem publish_always_enabled {s : St} (hr : ReachableAll s) (n : Nat) (hn : n ∈ s.store.writing) :
    (∃ l, (step s (.publish n)).2 = .published n (pubCurrent s.store.current n) l) ∧
    ∃ c, (step s (.publish n)).1.store.current = some c ∧ n ≤ c :=
  publish_enabled (reachableAll_writeOk hr) n hn

/-- the current checkpoint id never decreases (only the publication of a written snapshot changes it, and a newer one stays) -/
theorem current_monotone {s : St} (hr : ReachableAll s) (a : Act) (c : Nat) (hc : s.store.current = some c) :
    ∃ c', (step s a).1.store.current = some c' ∧ c ≤ c' :=
  step_current_mono s a c hc

/-- A failed start is retried in the same task, without any delay, whenever the registry still holds enough nodes
with unexpired heartbeats — including nodes that halted without deregistering. (This is why a job can issue a burst
of `Deploy` calls to the reachable members of an assembly that contains a dead node: the burst ends when the dead
node's heartbeat expires. Observed by the C01 cluster as "start attempts failing without an injected fault".) -/
theorem failed_start_retries_immediately {s : St} (_hr : ReachableAll s) (h : s.status = .starting) (k : Nat) :
    (step s (.deployFail k)).1.status =
      if (purge s).srs.length < s.w || (purge s).ops.length < s.w then Status.paused else Status.starting :=
  deployFail_status h k

/-! ## nothing of the previous deployment survives a (re)deploy -/

/-- In every schedule: when a deployment succeeds no operator of the assembly has an in-flight checkpoint record, every
one is deployed and expects barriers from exactly the assembly's source runners, and the store is not touched. -/
theorem no_stale_records_after_deploy {s : St} (_hr : ReachableAll s) (h : s.status = .starting) :
    (step s .deployOk).1.store = s.store ∧
    ∀ i ∈ (step s .deployOk).1.asmOps,
      ((step s .deployOk).1.procs i).inflight = none ∧ ((step s .deployOk).1.procs i).deployed = true ∧
      ((step s .deployOk).1.procs i).srcs = (step s .deployOk).1.asmSrs :=
  ⟨(deployOk_frame h).store, (deployOk_frame h).proc⟩

/-- When a deployment succeeds the store moreover has no pending snapshot, so the stale report printed by the harness
after each deployment (this statement evaluated on the real Job and Operators) is clean. Excluded (D57): schedules with
a ticker callback or savepoint request run in pieces across the decision of the deployment
(`tick_interleaving_counterexample`: there the pending snapshot of the previous assembly survives). -/
theorem no_stale_inflight_partial {s : St} (hr : ReachableSerial s) (h : s.status = .starting) :
    (step s .deployOk).1.store.pending = none ∧
    (∀ i ∈ (step s .deployOk).1.asmOps,
      ((step s .deployOk).1.procs i).inflight = none ∧ ((step s .deployOk).1.procs i).deployed = true ∧
      ((step s .deployOk).1.procs i).srcs = (step s .deployOk).1.asmSrs) ∧
    ∃ st, (step s .deployOk).2 = .started st s.startCk s.asmSrs false []
      (s.asmOps.filter fun i => !(s.procs i).batch.isEmpty) := by
  have hc := start_uses_latest_partial hr h
  obtain ⟨a, b⟩ := no_stale_records_after_deploy (reachableAll_of_serial hr) h
  exact ⟨by rw [a]; exact hc, b, _, by rw [(deployOk_frame h).out, hc]; rfl⟩

/-
"Redeploys every member from the latest completed checkpoint" needs more than `redeploy_from_latest` and
`no_stale_records_after_deploy`: no effect of the previous deployment may survive in a surviving worker. That every
operator of the assembly starts a deployment with an empty event batch is FALSE for the code as it is (finding D45,
`stale_batch_counterexample`): `HandleDeploy` does not touch the operator's event batcher, so keyed events that
arrived in the previous deployment and were still queued are handed to the handler on the state restored from the
checkpoint (and the source replays them as well). What is proved is the statement with the exact excluded condition:
an operator whose batcher is empty when it is redeployed.
-/

/-- `HandleDeploy` leaves the event batcher exactly as it was; in particular an operator that had nothing queued (every
new worker, and a surviving operator whose batch had been flushed) starts the deployment with nothing queued.
Excluded: a surviving operator with queued events at the moment of the redeploy (D45). (Events arriving AFTER the
redeploy from a runner that is no longer in the assembly are refused, repair D69: `foreign_sender_refused`; what remains
of D45 is the batch already queued inside the operator, and events of a surviving runner id's old loop, D39.) -/
theorem no_stale_effects_partial {s : St} (_hr : ReachableAll s) (h : s.status = .starting) :
    ∀ i ∈ (step s .deployOk).1.asmOps,
      ((step s .deployOk).1.procs i).batch = (s.procs i).batch ∧
      ((s.procs i).batch = [] → ((step s .deployOk).1.procs i).batch = []) := by
  intro i hi
  have := (deployOk_frame h).batch i hi
  exact ⟨this, fun he => this.trans he⟩

/-- the history of D45: an event of the first deployment is still queued at operator 0 when source runner 3 is
lost; after the redeploy it is processed together with an event of the new deployment -/
def staleBatchTrace : List Act :=
  [.regO 0, .regO 1, .regS 2, .regS 3, .deployOk, .ev 0 2 7, .deregS 3, .regS 4, .deployOk]

theorem stale_batch_counterexample :
    ReachableSerial (run (init 2 5 0 2) staleBatchTrace).1 ∧
    (run (init 2 5 0 2) staleBatchTrace).1.status = .running ∧
    ((run (init 2 5 0 2) staleBatchTrace).1.procs 0).batch = [(7, 1)] ∧
    ((run (init 2 5 0 2) staleBatchTrace).1.procs 0).epoch = 2 ∧
    (step (run (init 2 5 0 2) staleBatchTrace).1 (.ev 0 2 8)).2 = .processed [(7, 1), (8, 2)] 2 :=
  ⟨⟨2, 5, 0, 2, staleBatchTrace, by decide, rfl⟩, by decide +kernel⟩

/-- "Surviving workers keep processing", operator side: right after a successful (re)deploy every operator of the
assembly takes the events of every source runner of the assembly — it is ready, does not refuse the sender and does
not park it (whatever was being aligned before is gone). (Source runners: RunnerProc, D39, D48.) -/
theorem operators_accept_events_after_deploy {s : St} (hr : ReachableAll s) (h : s.status = .starting)
    (i sr tag : Nat) (hi : i ∈ (step s .deployOk).1.asmOps) (hsr : sr ∈ (step s .deployOk).1.asmSrs) :
    (step (step s .deployOk).1 (.ev i sr tag)).2 = .evQueued ∨
    ∃ b e, (step (step s .deployOk).1 (.ev i sr tag)).2 = .processed b e := by
  obtain ⟨hin, hdep, hsrc⟩ := (no_stale_records_after_deploy hr h).2 i hi
  exact event_accepted hdep hin (hsrc ▸ hsr) tag

/-- Events and barriers of a sender that is not a source runner of the operator's current deployment — a runner of a
previous assembly that is still running — are refused and change nothing (repair D69). This narrows D45: of the
previous deployment only what was ALREADY inside a surviving operator at its redeploy (its queued event batch, a call
past alignment) survives; nothing a replaced runner's old process sends afterwards gets in. -/
theorem foreign_sender_refused {s : St} (_hr : ReachableAll s) (i sr x : Nat) (hd : (s.procs i).deployed = true)
    (hsr : sr ∉ (s.procs i).srcs) :
    step s (.ev i sr x) = (s, .barRefused) ∧ step s (.bar i sr x) = (s, .barRefused) :=
  ⟨event_refused hd hsr x, barrier_refused hd hsr x⟩

/-- A pending snapshot waits for the members of the job's current assembly. Excluded (D57): schedules with a ticker
callback or savepoint request run in pieces (`tick_interleaving_counterexample`: pending for [0,1] on assembly [0,4]).
In every schedule its id is the counter's (`pending_id_is_counter`). -/
theorem pending_belongs_to_assembly_partial {s : St} (hr : ReachableSerial s) (p : Pending)
    (hp : s.store.pending = some p) : p.expOps = s.asmOps ∧ p.expSrs = s.asmSrs :=
  (reachable_inv hr).pendAsm (reachableSerial_ser hr) p hp

/-- in every schedule a pending snapshot's id is the store's counter and lies above the current checkpoint -/
theorem pending_id_is_counter {s : St} (hr : ReachableAll s) (p : Pending) (hp : s.store.pending = some p) :
    p.id = s.store.counter ∧ ∀ c, s.store.current = some c → c < p.id :=
  (reachableAll_inv hr).pendId p hp

/-- an operator's in-flight record only waits for source runners of its current deployment -/
theorem record_within_sources {s : St} (hr : ReachableAll s) (i rid : Nat) (waiting : List Nat)
    (h : (s.procs i).inflight = some (rid, waiting)) : ∀ x ∈ waiting, x ∈ (s.procs i).srcs :=
  (reachableAll_inv hr).recSrc i rid waiting h

/-! ## checkpointing resumes (bounded progress) -/

/-
"After such a recovery new checkpoints complete again" as bounded progress from every reachable Running state with no
pending snapshot is FALSE for the code as it is (finding D56, `checkpoint_progress_counterexample`):
`handleCheckpointBarrier` creates the alignment record from the first barrier it sees, whatever its id, and clears it
only after an accepted acknowledgement. One barrier that is not the job's pending checkpoint (a runner loop of the
previous deployment still running — D39/D48 —, a late delivery) leaves a record that every later barrier mismatches
(and behind which its sender parks); nothing but the next redeploy removes it. `no_stale_records_after_deploy` gives
the hypothesis `hrec` of `checkpoint_progress_partial` only at the instant of the deploy; it is NOT stable under the
stale messages the schedules allow, and a stale barrier arriving in the middle of the round is not in that theorem's
quantifier either (the round is the fixed sequence `progressActs`). What is proved is the statement with the exact
excluded condition: no operator of the assembly holds an alignment record when the round starts.
-/

/-- From any reachable Running state with no pending snapshot and — excluded condition, D56 — no in-flight
record at the assembly's operators, one round of the current assembly — the tick, the acknowledgement of every source
runner, every source runner's barrier at every operator — publishes checkpoint `counter + 1`, and the job is again in
such a state. -/
theorem checkpoint_progress_partial {s : St} (hr : ReachableAll s) (hrun : s.status = .running) (hp : s.store.pending = none)
    (hrec : ∀ i ∈ s.asmOps, (s.procs i).inflight = none) (hw : 0 < s.w) :
    (run s (progressActs s)).1.store.current = some (s.store.counter + 1) ∧
    (run s (progressActs s)).1.store.pending = none ∧
    (run s (progressActs s)).1.status = .running ∧ (run s (progressActs s)).1.ticker = true ∧
    (∀ i ∈ s.asmOps, ((run s (progressActs s)).1.procs i).inflight = none) :=
  progress (reachableAll_inv hr) hrun hp hrec hw

/-- "After such a recovery new checkpoints complete again", one named statement: from ANY state reached by a schedule
with serial ticker callbacks (whatever failures, stale messages, half-aligned checkpoints and pending snapshots came
before) in which a deployment is in flight, if the deployment succeeds and the job is Running afterwards, the next
round of the new assembly — tick, every runner's acknowledgement, every barrier, the file write — publishes checkpoint
`counter + 1`. Exclusions, exactly: D57 (the callback/savepoint pieces interleaved with the decision of the deployment,
which can leave a pending snapshot: `ReachableSerial`) and D56/D48 (a message that is not the pending checkpoint
arriving DURING the round: the round is the uninterrupted `progressActs`). -/
theorem recovery_then_progress_partial {s : St} (hr : ReachableSerial s) (h : s.status = .starting)
    (hrun : (step s .deployOk).1.status = .running) (hw : 0 < s.w) :
    (run (step s .deployOk).1 (progressActs (step s .deployOk).1)).1.store.current = some ((step s .deployOk).1.store.counter + 1) ∧
    (run (step s .deployOk).1 (progressActs (step s .deployOk).1)).1.store.pending = none ∧
    (run (step s .deployOk).1 (progressActs (step s .deployOk).1)).1.status = .running :=
  deploy_then_progress (reachable_inv hr) (reachableSerial_ser hr) h hrun hw

/-- the history of D56: right after a deployment one barrier of an older checkpoint (id 7) reaches operator 0 -/
def wedgeTrace : List Act := [.regO 0, .regS 1, .deployOk, .bar 0 1 7]

/-- D56: in a reachable Running state with no pending snapshot a stale barrier has left a completed, refused record
at the assembly's operator; the round of the current assembly publishes nothing, the next tick answers `retry`, and a
second delivery of the whole round changes nothing: checkpointing does not resume. -/
theorem checkpoint_progress_counterexample :
    ReachableSerial (run (init 1 5 0) wedgeTrace).1 ∧
    (run (init 1 5 0) wedgeTrace).1.status = .running ∧ (run (init 1 5 0) wedgeTrace).1.store.pending = none ∧
    ((run (init 1 5 0) wedgeTrace).1.procs 0).inflight = some (7, []) ∧
    (run (run (init 1 5 0) wedgeTrace).1 (progressActs (run (init 1 5 0) wedgeTrace).1)).1.store.current = none ∧
    (run (init 1 5 0) (wedgeTrace ++ [.tick, .ackS 1 1, .bar 0 1 1, .tick, .bar 0 1 1])).2.drop 4 =
      [.ckpt 1 [1], .ack (.ok none), .barMismatch, .retry, .barMismatch] ∧
    ((run (init 1 5 0) (wedgeTrace ++ [.tick, .ackS 1 1, .bar 0 1 1, .tick, .bar 0 1 1])).1.procs 0).inflight = some (7, []) :=
  ⟨⟨1, 5, 0, 3, wedgeTrace, by decide, rfl⟩, by decide +kernel⟩

/-! ## the ticker callback is not a task (finding D57) -/

/-- `.tick` is the ticker callback run without interruption: its three pieces back to back give the same state (up to
the ghost flag that records that pieces were used) -/
theorem tick_is_uninterrupted_callback (s : St) (h : s.tk = none) :
    { (run s [.tickA, .tickB, .tickC]).1 with ser := s.ser } = (step s .tick).1 := by
  -- both sides compute once the state is given by its components
  obtain ⟨w, bmax, d, now, ops, srs, live, status, asmOps, asmSrs, ticker, startCk, ⟨counter, pending, current, writing⟩,
    procs, tk, ser⟩ := s
  cases h
  cases ticker
  · rfl
  · cases pending <;> rfl

/-- the history of D57: operator 1 deregisters and operator 4 takes its place while a ticker callback is between
reading `j.assembly` and `CreateCheckpoint` -/
def tickRaceTrace : List Act :=
  [.regO 0, .regO 1, .regS 2, .regS 3, .deployOk, .tickA, .deregO 1, .regO 4, .tickB, .tickC, .deployOk]

/-- D57: the `_partial` theorems about the pending snapshot are about schedules in which a ticker callback runs as one
step (`ReachableSerial`). The code does not enforce that: the callback runs on the clock's goroutine and reads
`j.assembly` three times without synchronisation. If a pause and a new assembly fall inside it, the job ends up Running
on assembly {0,4} with a pending snapshot that waits for operator 1 of the PREVIOUS assembly — created after the new
deployment's `RegisterSourceSplitter` cleared the store — so `pending_belongs_to_assembly_partial`,
`start_uses_latest_partial` and the first clause of `no_stale_inflight_partial` fail without the exclusion, every later
tick answers `retry`, and no checkpoint completes until the next redeploy. -/
theorem tick_interleaving_counterexample :
    ReachableAll (run (init 2 5 0) tickRaceTrace).1 ∧
    (run (init 2 5 0) tickRaceTrace).1.status = .running ∧
    (run (init 2 5 0) tickRaceTrace).1.asmOps = [0, 4] ∧
    (run (init 2 5 0) tickRaceTrace).1.store.pending =
      some { id := 1, expOps := [0, 1], expSrs := [2, 3], waitOps := [0, 1], waitSrs := [2, 3] } ∧
    (step (run (init 2 5 0) tickRaceTrace).1 .tick).2 = .retry ∧
    (run (run (init 2 5 0) tickRaceTrace).1
      [.ackS 2 1, .ackS 3 1, .bar 0 2 1, .bar 0 3 1, .bar 4 2 1, .bar 4 3 1, .tick]).1.store.current = none :=
  ⟨⟨2, 5, 0, 3, tickRaceTrace, rfl⟩, by decide +kernel⟩

/-- D57 family: `HandleCreateSavepoint` has the same shape as the ticker callback and runs on an RPC goroutine. Its
status check passes, operator 1 is lost and replaced, then it creates a savepoint snapshot for the previous assembly:
the job runs on {0,4} with a pending snapshot waiting for operator 1 (ticks answer retry), exactly as in
`tick_interleaving_counterexample`. -/
theorem savepoint_interleaving_counterexample :
    ReachableAll (run (init 2 5 0) [.regO 0, .regO 1, .regS 2, .regS 3, .deployOk, .spA, .deregO 1, .regO 4, .tickB, .tickC, .deployOk]).1 ∧
    (run (init 2 5 0) [.regO 0, .regO 1, .regS 2, .regS 3, .deployOk, .spA, .deregO 1, .regO 4, .tickB, .tickC, .deployOk]).1.status = .running ∧
    (run (init 2 5 0) [.regO 0, .regO 1, .regS 2, .regS 3, .deployOk, .spA, .deregO 1, .regO 4, .tickB, .tickC, .deployOk]).1.asmOps = [0, 4] ∧
    (run (init 2 5 0) [.regO 0, .regO 1, .regS 2, .regS 3, .deployOk, .spA, .deregO 1, .regO 4, .tickB, .tickC, .deployOk]).1.store.pending =
      some { id := 1, expOps := [0, 1], expSrs := [2, 3], waitOps := [0, 1], waitSrs := [2, 3], sp := true } ∧
    (step (run (init 2 5 0) [.regO 0, .regO 1, .regS 2, .regS 3, .deployOk, .spA, .deregO 1, .regO 4, .tickB, .tickC, .deployOk]).1 .tick).2 = .retry :=
  ⟨⟨2, 5, 0, 3, _, rfl⟩, by decide +kernel⟩

/-! ## members that stop answering RPCs (finding D71) -/

/-- The theorems about `St` are about `step`: the job when every RPC to a member returns. `stepQ` adds the one place
where the code lets an unanswered RPC block the job's serial queue. While no member is unresponsive the two coincide. -/
theorem stepQ_is_step (q : QSt) (a : Act) (h1 : q.stuck = false) (h2 : q.hungS = []) (h3 : q.hungO = [])
    (h4 : q.retainStuck = false) :
    (stepQ q a).1.s = (step q.s a).1 ∧ (stepQ q a).2 = (step q.s a).2 ∧ (stepQ q a).1.stuck = false ∧
    (stepQ q a).1.retainStuck = false := by
  rw [stepQ_eq_step q a h1 h2 h3 h4]
  exact ⟨rfl, rfl, h1, h4⟩

/-- An operator that stops answering `UpdateRetainedCheckpoints` does not stop the job: the call is made by the
retained-ids goroutine, not by a task. Every membership task is processed exactly as by `step`, unless the queue is
already stuck behind a runner (`h1`). -/
theorem unresponsive_operator_does_not_block_membership (q : QSt) (a : Act) (hm : a.membership = true)
    (h1 : q.stuck = false) : (stepQ q a).1.s = (step q.s a).1 ∧ (stepQ q a).2 = (step q.s a).2 := by
  rw [stepQ_unstuck q a h1 (fun h => by rw [h] at hm; cases hm) (fun n h => by rw [h] at hm; cases hm)]
  exact ⟨rfl, rfl⟩

/-- D71: source runner 1 stops answering right after its `Deploy` returned. `start()` posts `AssignSplits` as a task of
the serial queue and that task waits for every runner, so the queue never comes back: the deregistration of runner 1
and the heartbeat expiry are not processed, the job neither pauses nor redeploys, its state stays what it was. -/
theorem unresponsive_runner_wedges_queue_counterexample :
    (runQ (hang { s := (run (init 1 5 0) [.regO 0, .regS 1]).1 } false 1) [.deployOk, .deregS 1, .adv 6, .regO 0, .regS 2]).2 =
      [.queueStuck, .queueStuck, .done, .queueStuck, .queueStuck] ∧
    (runQ (hang { s := (run (init 1 5 0) [.regO 0, .regS 1]).1 } false 1) [.deployOk, .deregS 1, .adv 6, .regO 0, .regS 2]).1.s.status = .starting ∧
    (runQ (hang { s := (run (init 1 5 0) [.regO 0, .regS 1]).1 } false 1) [.deployOk, .deregS 1, .adv 6, .regO 0, .regS 2]).1.s.asmSrs = [1] ∧
    (runQ (hang { s := (run (init 1 5 0) [.regO 0, .regS 1]).1 } false 1) [.deployOk, .deregS 1, .adv 6, .regO 0, .regS 2]).1.s.srs = [1] := by
  decide +kernel

/-! ## the source runner side (finding D48) -/

/-- D48: the runner's only free loop is inside a slow source read when checkpoint 1 is requested, so the request stays
queued; the job abandons checkpoint 1 and redeploys the runner (its next checkpoint is 2). The loop of the NEW
deployment takes the stale request, the job refuses the acknowledgement, that loop ends, and the runner — deployed,
registered, heartbeating — has no loop left: the request for checkpoint 2 stays queued for ever. -/
theorem runner_dies_on_stale_request_counterexample :
    (RunnerProc.run {} [.deploy, .hold, .pend 1, .start 1, .pend 2, .deploy, .start 2]).2 =
      [.deployed none, .held, .ok, .queued, .ok, .deployed (some (1, false)), .queued] ∧
    (RunnerProc.run {} [.deploy, .hold, .pend 1, .start 1, .pend 2, .deploy, .start 2]).1.free = 0 ∧
    (RunnerProc.run {} [.deploy, .hold, .pend 1, .start 1, .pend 2, .deploy, .start 2]).1.diedStale = true := by
  decide +kernel

/-- What holds for the code as it is (excluded: a request queued when `HandleDeploy` arrives): a runner redeployed with
an empty request queue has a free loop and acknowledges the request for the job's pending checkpoint. -/
theorem runner_acks_after_redeploy_partial (s : RunnerProc.St) (hq : s.queue = none) (id : Nat) :
    (RunnerProc.step (RunnerProc.step (RunnerProc.step s .deploy).1 (.pend id)).1 (.start id)).2 = .acked id :=
  (RunnerProc.start_pending_acks _ (RunnerProc.deploy_idle s hq).1 (RunnerProc.deploy_idle s hq).2 id).1

/-- What the job model assumes of a source runner, and what RunnerProc gives. In `progressActs` (and in every serial
history that publishes) the job model needs of each assembly runner exactly one thing per checkpoint: after the tick's
`StartCheckpoint id` it sends `ackS runner id` for the pending `id` (its barriers follow). RunnerProc guarantees it
whenever the runner has a loop able to take the request and nothing is queued (`free > 0`, `queue = none`): the request
for the job's pending id is acknowledged at once, with that id, and the runner is again in such a state — so the
guarantee holds round after round, across redeploys that find the queue empty. The ways out of that state are a loop
stuck in a source read (`hold`: the runner is slow, not wrong), a request for an id that is not the job's pending one
(refused: the loop that took it ends) and D48's situation (such a request queued at `HandleDeploy`), which
`runner_dies_on_stale_request_counterexample` shows does break the job model's assumption. The two models are not
composed into one transition system: this lemma is the interface between them. -/
theorem runner_interface (r : RunnerProc.St) (hf : 0 < r.free) (hq : r.queue = none) (id : Nat) :
    (RunnerProc.step (RunnerProc.step r (.pend id)).1 (.start id)).2 = .acked id ∧
    0 < (RunnerProc.step (RunnerProc.step r (.pend id)).1 (.start id)).1.free ∧
    (RunnerProc.step (RunnerProc.step r (.pend id)).1 (.start id)).1.queue = none ∧
    0 < (RunnerProc.step (RunnerProc.step (RunnerProc.step r (.pend id)).1 (.start id)).1 .deploy).1.free ∧
    (RunnerProc.step (RunnerProc.step (RunnerProc.step r (.pend id)).1 (.start id)).1 .deploy).1.queue = none := by
  obtain ⟨a, b, c⟩ := RunnerProc.start_pending_acks r hf hq id
  exact ⟨a, b, c, RunnerProc.deploy_idle _ c⟩

/-! ## non-vacuity -/

/-- the D15 history: source runner 3 is lost while checkpoint 1 is pending in the store and half aligned at
operator 0; source runner 4 replaces it -/
def witness : List Act :=
  [.regO 0, .regO 1, .regS 2, .regS 3, .deployOk, .tick, .ackS 2 1, .bar 0 2 1, .deregS 3, .regS 4]

/-- a deployment is decided by the last registration (`deploy_only_full_live`, `redeploy_from_latest` are not vacuous) -/
example : (step (run (init 2 5 0) [.regO 0, .regO 1, .regS 2]).1 (.regS 3)).2.dep? = some ⟨[0, 1], [2, 3], none⟩ := by
  decide +kernel

/-- losing a member of the Running assembly pauses the job and stops the ticker (`unhealthy_pauses`) -/
example : (run (init 2 5 0) [.regO 0, .regO 1, .regS 2, .regS 3, .deployOk]).1.status = .running ∧
    (run (init 2 5 0) [.regO 0, .regO 1, .regS 2, .regS 3, .deployOk, .deregS 3]).1.status = .paused ∧
    (run (init 2 5 0) [.regO 0, .regO 1, .regS 2, .regS 3, .deployOk, .deregS 3]).1.ticker = false := by decide +kernel

/-- heartbeat expiry does the same at the next registration -/
example : (run (init 1 5 0) [.regO 0, .regS 1, .deployOk, .adv 6, .regO 0]).1.status = .paused := by decide +kernel

/-- before the redeploy of the witness succeeds, the operator still holds the record of the abandoned checkpoint:
the hypothesis of `no_stale_inflight_partial` is met in a state where there is something to clear -/
example : (run (init 2 5 0) witness).1.status = .starting ∧
    ((run (init 2 5 0) witness).1.procs 0).inflight = some (1, [3]) := by decide +kernel

/-- a redeploy after a published checkpoint carries that checkpoint -/
example : (step (run (init 1 5 0) [.regO 0, .regS 1, .deployOk, .tick, .ackS 1 1, .bar 0 1 1, .publish 1, .deregS 1]).1 (.regS 2)).2.dep?
    = some ⟨[0], [2], some 1⟩ := by decide +kernel

/-- a snapshot completed just before the loss of runner 1 is published while the new deployment is in flight: the
deployment was decided with checkpoint `none` and the splitter is started from `none` too (`members_restore_same_checkpoint`
with a non-trivial middle part), although the store's current checkpoint is 1 by then -/
example : (step (run (init 1 5 0) [.regO 0, .regS 1, .deployOk, .tick, .ackS 1 1, .bar 0 1 1, .deregS 1]).1 (.regS 2)).2.dep?
      = some ⟨[0], [2], none⟩ ∧
    (run (init 1 5 0) [.regO 0, .regS 1, .deployOk, .tick, .ackS 1 1, .bar 0 1 1, .deregS 1, .regS 2, .publish 1]).1.store.current
      = some 1 ∧
    (run (init 1 5 0) [.regO 0, .regS 1, .deployOk, .tick, .ackS 1 1, .bar 0 1 1, .deregS 1, .regS 2, .publish 1, .deployOk]).2.getLast?
      = some (.started .running none [2] false [] []) := by decide +kernel

/-- the hypotheses of `checkpoint_progress_partial` hold after the recovery of the witness, and the round publishes
checkpoint 2 -/
example : (run (init 2 5 0) (witness ++ [.deployOk])).1.status = .running ∧
    (run (init 2 5 0) (witness ++ [.deployOk])).1.store.pending = none ∧
    (run (init 2 5 0) (witness ++ [.deployOk])).1.asmSrs = [2, 4] ∧
    (run (run (init 2 5 0) (witness ++ [.deployOk])).1
      (progressActs (run (init 2 5 0) (witness ++ [.deployOk])).1)).1.store.current = some 2 := by decide +kernel

end Rxn.C15
