import RxnModel.Proofs.PipelineCross
import RxnModel.Generated.Facts
/-!
# C01 — end-to-end exactly-once state semantics of the pipeline under failures, restarts and repartitioning

Model and vocabulary: `Model/Pipeline.lean`. The five property theorems (`…_partial`) quantify over every
configuration `cfg` (any input `key`, any in-range `route` / `assign`, any deterministic handler `h` over any state
type `σ`) and over every action list `as`: any number of reads, deliveries, checkpoints (complete, abandoned,
published late or never), worker failures and restarts to any worker count, in any interleaving.

**Partial (finding D39, open).** `redeployLive n'` models the code as it is when a deployment's assembly contains a
node process that is still alive: the channels are *not* discarded. Every property theorem below is proved for
the runs without such a step (hypothesis `hl`, suffix `_partial`); the full statement, which is the theorem without
`hl`, is kept in a comment in front of it, with what is known of it for the code as it is: two are proved **false**
(`exactly_once_inv`, `no_loss_no_dup`: `redeploy_live_counterexample`), one is refuted by an `example`
(`handler_invocation`), one by an argument in the docstring of `redeploy_live_counterexample` that is not a theorem
(`failure_free_realizable`); the bare equation of `handler_state_eq` is not refuted, and carries `hl` only because it is
obtained from the invariant here.

The `example`s on the concrete runs are closed computations: `decide +kernel`, or `rfl` where the result is a tuple
nested too deeply for the synthesis of its `DecidableEq` instance.

Explicit exclusions of the model: acknowledgements of workers of a *previous* deployment that the coordinator
would accept are not steps (the trace validation reports them); a failed worker is not forced to stop
(the theorems hold whether or not it takes further steps); records are identified with `(split, index)`.
-/
namespace Rxn.C01
open Rxn Rxn.Pipeline

/-- three keys, splits start at different keys, the handler state is the list of records it has seen -/
def demoCfg : Cfg (List (Nat × Nat)) :=
  { key := fun sp i => (sp + i) % 3, route := fun n k => k % n, assign := fun n sp => sp % n, init := [],
    h := fun s e => s ++ [(e.split, e.idx)] }

theorem demoCfg_wf : demoCfg.WF :=
  ⟨fun _ k hn => Nat.mod_lt k hn, fun _ sp hn => Nat.mod_lt sp hn⟩

/-- deploy on 2 workers; reads and deliveries; a checkpoint (both barriers, both
operator checkpoints — the second completes it) is published; more reads and a delivery after it (one record of
split 0 was even applied by operator 0 *between* the two operator checkpoints); worker 1 and the job fail;
redeploy on **3** workers; the lost records are read again and delivered to the keys' new owners. -/
def demo : List Act :=
  [.restart 2 false, .read 0, .read 1, .read 0, .deliver 0 0, .start, .read 1, .barrier 0, .read 0, .deliver 1 1,
   .barrier 1, .deliver 0 1, .deliver 1 0, .opCkpt 0, .deliver 0 0, .opCkpt 1, .publish 0,
   .read 1, .deliver 1 0, .read 0, .kill 1, .restart 3 true,
   .read 0, .read 1, .deliver 0 2, .deliver 1 0, .read 2, .deliver 2 2]

/-- the run is enabled to the end; one checkpoint (id 1, 2 workers, cursors 2 and 2) was published -/
example : (run demoCfg demo).map (fun x => (x.1.n, x.1.published.map fun c => (c.id, c.n, c.cursor 0, c.cursor 1))) =
    some (3, [(1, 2, 2, 2)]) := by decide +kernel

/-- just before the failure: operator 0 (owner of keys 0 and 2 on 2 workers) is ahead of the checkpoint -/
example : (run demoCfg (demo.take 20)).map (fun x => (x.1.n, x.1.cursor 0, x.1.cursor 1, x.1.log 0 0, x.1.log 0 2)) =
    some (2, 4, 3, [(0, 0), (1, 2)], [(1, 1), (0, 2)]) := rfl

/-- right after the restart: cursors and states are the checkpointed ones, key 2 moved from operator 0 to
operator 2, nothing is left at the old owner -/
example : (run demoCfg (demo.take 22)).map
      (fun x => (x.1.n, x.1.cursor 0, x.1.cursor 1, x.1.log 0 0, x.1.log 2 2, x.1.st 2 2, x.1.log 0 2)) =
    some (3, 2, 2, [(0, 0)], [(1, 1)], [(1, 1)], []) := rfl

/-- at the end: every record read so far has been applied exactly once to its key's state -/
example : (run demoCfg demo).map
      (fun x => (x.1.cursor 0, x.1.cursor 1, x.1.cursor 2, x.1.st 0 0, x.1.st 1 1, x.1.st 2 2)) =
    some (3, 3, 1, [(0, 0), (1, 2)], [(1, 0), (0, 1)], [(1, 1), (0, 2), (2, 0)]) := rfl

/-- the handler invocations of the run, `(operator, key, split, index, state handed in)`: record `(0, 2)` is handed
to the handler twice (before the failure by operator 0, after it by operator 2), both times with the same state -/
example : (run demoCfg demo).map (fun x => x.2.map fun g => (g.op, g.e.key, g.e.split, g.e.idx, g.state)) =
    some [(0, 0, 0, 0, []), (1, 1, 1, 0, []), (1, 1, 0, 1, [(1, 0)]), (0, 2, 1, 1, []), (0, 2, 0, 2, [(1, 1)]),
          (0, 0, 1, 2, [(0, 0)]), (2, 2, 0, 2, [(1, 1)]), (0, 0, 1, 2, [(0, 0)]), (2, 2, 2, 0, [(1, 1), (0, 2)])] := rfl

/-- **Exactly-once invariant.** In every reachable state — after any failures, restarts and repartitionings —
for every key and every split, what the key's current owner has applied followed by what is still on the channel
from the split's runner to it is exactly the read prefix of the split restricted to the key (in order, nothing
missing, nothing twice), and the key's log at every other operator is empty (records in flight on other channels are
not spoken of); and every checkpoint that is published or being written is a consistent cut whose states are the
folds of the handler over exactly the records below its cursors.

FULL statement (not proved; false for the code as it is, see `redeploy_live_counterexample`):

    (full) theorem exactly_once_inv {σ : Type} (cfg : Cfg σ) (wf : cfg.WF) (as : List Act) (s : State σ)
        (obs : List (Given σ)) (h : run cfg as = some (s, obs)) :
        Consistent cfg s ∧ (∀ c ∈ s.published, CkptOK cfg c) ∧ (∀ c ∈ s.writing, CkptOK cfg c) -/
theorem exactly_once_inv_partial {σ : Type} (cfg : Cfg σ) (wf : cfg.WF) (as : List Act) (s : State σ)
    (obs : List (Given σ)) (hl : ∀ a ∈ as, a.isLiveRedeploy = false) (h : run cfg as = some (s, obs)) :
    Consistent cfg s ∧ (∀ c ∈ s.published, CkptOK cfg c) ∧ (∀ c ∈ s.writing, CkptOK cfg c) := by
  have hi := inv_run cfg wf as s obs hl h
  exact ⟨⟨hi.main, hi.own⟩, fun c hc => hi.ck c (Or.inr hc), fun c hc => hi.ck c (Or.inl hc)⟩

/-- the hypotheses are satisfiable with a published checkpoint and a non-empty log -/
example : ∃ s obs, run demoCfg demo = some (s, obs) ∧ s.published.length = 1 ∧ s.log 2 2 = [(1, 1), (0, 2), (2, 0)] := by
  have h2 : (run demoCfg demo).map (fun x => (x.1.published.length, x.1.log 2 2)) =
      some (1, [(1, 1), (0, 2), (2, 0)]) := by decide +kernel
  obtain ⟨⟨s, obs⟩, h, hx⟩ := Option.map_eq_some_iff.1 h2
  exact ⟨s, obs, h, (Prod.mk.inj hx).1, (Prod.mk.inj hx).2⟩

/-- **No loss, no duplication.** In a reachable state with nothing in flight, record `i` of split `sp` occurs in the
log of its key at the key's current owner exactly once if it has been read (`i < cursor sp`) and not at all
otherwise; and whatever occurs in any log is a read record, of that key, at the key's owner (`hq` is not used for
this half).

FULL statement (not proved; false for the code as it is, see `redeploy_live_counterexample`):

    (full) theorem no_loss_no_dup {σ : Type} (cfg : Cfg σ) (wf : cfg.WF) (as : List Act) (s : State σ)
        (obs : List (Given σ)) (h : run cfg as = some (s, obs)) (hq : Quiescent s) (sp i : Nat) :
        (s.log (cfg.route s.n (cfg.key sp i)) (cfg.key sp i)).count (sp, i) = (if i < s.cursor sp then 1 else 0) ∧
        ∀ o k, (sp, i) ∈ s.log o k → o = cfg.route s.n k ∧ k = cfg.key sp i ∧ i < s.cursor sp -/
theorem no_loss_no_dup_partial {σ : Type} (cfg : Cfg σ) (wf : cfg.WF) (as : List Act) (s : State σ)
    (obs : List (Given σ)) (hl : ∀ a ∈ as, a.isLiveRedeploy = false) (h : run cfg as = some (s, obs))
    (hq : Quiescent s) (sp i : Nat) :
    (s.log (cfg.route s.n (cfg.key sp i)) (cfg.key sp i)).count (sp, i) = (if i < s.cursor sp then 1 else 0) ∧
    ∀ o k, (sp, i) ∈ s.log o k → o = cfg.route s.n k ∧ k = cfg.key sp i ∧ i < s.cursor sp := by
  have hi := inv_run cfg wf as s obs hl h
  exact ⟨quiescent_count cfg s hi hq sp i, fun o k hm => mem_log cfg s hi.toCore sp i o k hm⟩

/-- `Quiescent` is reached non-trivially: at the end of `demo` (after a failure and a repartitioning restart)
nothing is in flight, 7 records have been read and the logs are not empty -/
example : ∃ s obs, run demoCfg demo = some (s, obs) ∧ Quiescent s ∧
    (s.cursor 0, s.cursor 1, s.cursor 2) = (3, 3, 1) ∧ s.log 2 2 = [(1, 1), (0, 2), (2, 0)] := by
  have h2 : (run demoCfg demo).map (fun x => (x.1.n, (x.1.cursor 0, x.1.cursor 1, x.1.cursor 2), x.1.log 2 2,
      (List.range x.1.n).all fun r => (List.range x.1.n).all fun o => (x.1.queue r o).all fun y => y == Item.bar)) =
      some (3, (3, 3, 1), [(1, 1), (0, 2), (2, 0)], true) := by decide +kernel
  obtain ⟨⟨s, obs⟩, h, hx⟩ := Option.map_eq_some_iff.1 h2
  simp only [Prod.mk.injEq] at hx
  obtain ⟨hn, hc, hl, hchk⟩ := hx
  refine ⟨s, obs, h, ?_, ?_, hl⟩
  · exact quiescent_of_check demoCfg demoCfg_wf s (inv_run demoCfg demoCfg_wf demo s obs (by decide) h) (by omega) hchk
  · simpa using hc

/-- **State = fold of the log.** In every reachable state every operator's state of every key is the fold of the
handler over the key's log there (with the previous theorems: over exactly the key's records read so far, each
once, per split in split order).

FULL statement (not proved here: the equation is obtained from the invariant, which a live redeploy breaks, and so
carries `hl` and `wf`, although no action, `redeployLive` included, separates a state from the fold of its log. It
is not refuted by `redeploy_live_counterexample` — there the state *is* the fold of the log — but the log is
no longer the key's records read so far, each once):

    (full) theorem handler_state_eq {σ : Type} (cfg : Cfg σ) (wf : cfg.WF) (as : List Act) (s : State σ)
        (obs : List (Given σ)) (h : run cfg as = some (s, obs)) : ∀ o k, s.st o k = foldLog cfg k (s.log o k) -/
theorem handler_state_eq_partial {σ : Type} (cfg : Cfg σ) (wf : cfg.WF) (as : List Act) (s : State σ)
    (obs : List (Given σ)) (hl : ∀ a ∈ as, a.isLiveRedeploy = false) (h : run cfg as = some (s, obs)) :
    ∀ o k, s.st o k = foldLog cfg k (s.log o k) :=
  (inv_run cfg wf as s obs hl h).hst

example : (run demoCfg demo).map (fun x => (x.1.st 2 2, foldLog demoCfg 2 (x.1.log 2 2))) =
    some ([(1, 1), (0, 2), (2, 0)], [(1, 1), (0, 2), (2, 0)]) := by decide +kernel

/-- **Every handler invocation sees the exactly-once state.** Whenever, in a reachable state `s`, operator `o`
takes a record `e` from channel `r → o` (a `deliver` step from the end state of a run; that every handler
invocation listed in the `obs` of a run is such a step, every prefix of a run being a run, is not stated), the
handler is called with the fold over the records applied to the key so far, `o` is the key's owner, `e` is a
genuine record of its split, and afterwards the key's log and state are extended by exactly `e`.

FULL statement (not proved; false for the code as it is: after a live redeploy onto a different worker count a
stale in-flight record reaches an operator that is not the key's owner):

    (full) theorem handler_invocation {σ : Type} (cfg : Cfg σ) (wf : cfg.WF) (as : List Act) (s : State σ)
        (obs : List (Given σ)) (h : run cfg as = some (s, obs)) (r o : Nat) (s' : State σ) (gs : List (Given σ))
        (hs : step cfg s (.deliver r o) = some (s', gs)) :
        ∃ e, gs = [⟨o, e, foldLog cfg e.key (s.log o e.key)⟩] ∧ o = cfg.route s.n e.key ∧
          e.key = cfg.key e.split e.idx ∧ s'.log o e.key = s.log o e.key ++ [(e.split, e.idx)] ∧
          s'.st o e.key = cfg.h (foldLog cfg e.key (s.log o e.key)) e -/
theorem handler_invocation_partial {σ : Type} (cfg : Cfg σ) (wf : cfg.WF) (as : List Act) (s : State σ)
    (obs : List (Given σ)) (hl : ∀ a ∈ as, a.isLiveRedeploy = false) (h : run cfg as = some (s, obs))
    (r o : Nat) (s' : State σ) (gs : List (Given σ))
    (hs : step cfg s (.deliver r o) = some (s', gs)) :
    ∃ e, gs = [⟨o, e, foldLog cfg e.key (s.log o e.key)⟩] ∧ o = cfg.route s.n e.key ∧
      e.key = cfg.key e.split e.idx ∧ s'.log o e.key = s.log o e.key ++ [(e.split, e.idx)] ∧
      s'.st o e.key = cfg.h (foldLog cfg e.key (s.log o e.key)) e :=
  deliver_spec cfg s s' (inv_run cfg wf as s obs hl h) r o gs hs

/-- a delivery is enabled after a restart with restored, non-initial state: the last action of `demo` -/
example : ∃ s obs s' gs, run demoCfg (demo.take 27) = some (s, obs) ∧
    step demoCfg s (.deliver 2 2) = some (s', gs) ∧ gs.map (fun g => (g.op, g.e, g.state)) = [(2, ⟨2, 2, 0⟩, [(1, 1), (0, 2)])] := by
  have h3 : ((run demoCfg (demo.take 27)).bind fun x => step demoCfg x.1 (.deliver 2 2)).map
      (fun y => y.2.map fun g => (g.op, g.e, g.state)) = some [(2, ⟨2, 2, 0⟩, [(1, 1), (0, 2)])] := by decide +kernel
  obtain ⟨⟨s', gs⟩, hb, hx⟩ := Option.map_eq_some_iff.1 h3
  obtain ⟨⟨s, obs⟩, h, h'⟩ := Option.bind_eq_some_iff.1 hb
  exact ⟨s, obs, s', gs, h, h', hx⟩

/-- **Equivalence with a failure-free execution.** For every reachable state (of a deployed job) and every key
there is a run consisting of one initial deployment on the same number of workers followed by actions none of
which is a failure (`kill` / `restart` / `redeployLive`) at whose end the key's owner holds exactly the same log and
the same state for the key: whatever failures, restarts and repartitionings happened, every key's state is a state
of a failure-free execution over the same input.

**Per key.** The witness run depends on `k` and is deployed on the final worker count `s.n`. ONE failure-free run on
`s.n` workers that reproduces the logs of *all* keys simultaneously does not exist in general once the worker count
has changed: `failure_free_all_keys_counterexample`, where the reason is given. Not stated and not proved here: the
all-keys form for runs whose restarts never change the worker count (a published consistent cut is then a reachable
failure-free state), and equality of the cursors in the witness.
What is order-independent does hold for all keys at once: per key and split the log is the split's records of the
key in index order, each once (`exactly_once_inv_partial`, `no_loss_no_dup_partial`), and every state is the fold
of the handler over its key's log (`handler_state_eq_partial`); only the *interleaving of different splits* within
a key is per key.

FULL statement (not proved; false for the code as it is, see `redeploy_live_counterexample`: no failure-free run
applies a record twice; that the witness contains no live redeploy, which the theorem below says in addition,
follows from the conditions on its head and its tail):

    (full) theorem failure_free_realizable {σ : Type} (cfg : Cfg σ) (wf : cfg.WF) (as : List Act) (s : State σ)
        (obs : List (Given σ)) (h : run cfg as = some (s, obs)) (hn : 0 < s.n) (k : Nat) :
        ∃ as' s' obs', run cfg as' = some (s', obs') ∧ as'.head? = some (Act.restart s.n false) ∧
          (∀ a ∈ as'.tail, a.isFailure = false) ∧ s'.n = s.n ∧
          s'.log (cfg.route s.n k) k = s.log (cfg.route s.n k) k ∧
          s'.st (cfg.route s.n k) k = s.st (cfg.route s.n k) k -/
theorem failure_free_realizable_partial {σ : Type} (cfg : Cfg σ) (wf : cfg.WF) (as : List Act) (s : State σ)
    (obs : List (Given σ)) (hl : ∀ a ∈ as, a.isLiveRedeploy = false) (h : run cfg as = some (s, obs))
    (hn : 0 < s.n) (k : Nat) :
    ∃ as' s' obs', run cfg as' = some (s', obs') ∧ as'.head? = some (Act.restart s.n false) ∧
      (∀ a ∈ as'.tail, a.isFailure = false) ∧ (∀ a ∈ as', a.isLiveRedeploy = false) ∧ s'.n = s.n ∧
      s'.log (cfg.route s.n k) k = s.log (cfg.route s.n k) k ∧
      s'.st (cfg.route s.n k) k = s.st (cfg.route s.n k) k :=
  failure_free_of_inv cfg wf s (inv_run cfg wf as s obs hl h) hn k

/-- the failure-free run for key 2 at the end of `demo` (3 workers, owner 2): per log entry, read the entry's
split up to the entry, delivering each record at once -/
def demoFF : List Act :=
  [.restart 3 false, .read 1, .deliver 1 1, .read 1, .deliver 1 2, .read 0, .deliver 0 0, .read 0, .deliver 0 1,
   .read 0, .deliver 0 2, .read 2, .deliver 2 2]

example : demoFF.tail.all (fun a => !a.isFailure) = true := by decide +kernel
example : (run demoCfg demoFF).map (fun x => (x.1.n, x.1.log 2 2, x.1.st 2 2)) =
    (run demoCfg demo).map (fun x => (x.1.n, x.1.log 2 2, x.1.st 2 2)) := by decide +kernel
example : (run demoCfg demo).map (fun x => (x.1.n, x.1.log 2 2)) = some (3, [(1, 1), (0, 2), (2, 0)]) := by decide +kernel

/-- one worker; record 0 of split 0 is read and still in flight when the job is redeployed onto the same, live,
node process: the cursor goes back to 0 (no checkpoint yet), the channel is not discarded, the record is read
again, and both copies are delivered -/
def demoLive : List Act := [.restart 1 false, .read 0, .redeployLive 1, .read 0, .deliver 0 0, .deliver 0 0]

/-- **Counterexample to the full statements (the code as it is, D39)**: of `exactly_once_inv` (not `Consistent`), of
`no_loss_no_dup` (count 2 in a quiescent state) and hence, by an argument that is not stated as a theorem, of
`failure_free_realizable` (the witness run would be a run without live redeploy, so `inv_run` applies to it and its
logs have no duplicates).
A run with a single `redeployLive` step ends in a state with nothing in flight in which record `(0, 0)` — read once
according to the cursor — has been applied **twice** to its key at the key's owner: the state is the fold over a
duplicated record and the state is not `Consistent`. -/
theorem redeploy_live_counterexample :
    ∃ s obs, run demoCfg demoLive = some (s, obs) ∧ (demoLive.filter Act.isLiveRedeploy).length = 1 ∧
      Quiescent s ∧ s.cursor 0 = 1 ∧
      (s.log (demoCfg.route s.n (demoCfg.key 0 0)) (demoCfg.key 0 0)).count (0, 0) = 2 ∧
      s.st 0 0 = [(0, 0), (0, 0)] ∧ ¬ Consistent demoCfg s := by
  let s1 : State (List (Nat × Nat)) := restore demoCfg (init demoCfg) none 1 false
  let s2 := readS demoCfg s1 0
  let s3 : State (List (Nat × Nat)) := { restore demoCfg s2 none 1 false with queue := s2.queue }
  let s4 := readS demoCfg s3 0
  let s5 := delivS demoCfg s4 0 0 ⟨0, 0, 0⟩ [Item.ev ⟨0, 0, 0⟩]
  let s6 := delivS demoCfg s5 0 0 ⟨0, 0, 0⟩ []
  refine ⟨s6, [⟨0, ⟨0, 0, 0⟩, []⟩, ⟨0, ⟨0, 0, 0⟩, [(0, 0)]⟩],
    ?run, ?one_live_redeploy, ?quiescent, ?cursor, ?applied_twice, ?state, ?inconsistent⟩
  case run => rfl
  case one_live_redeploy => rfl
  case cursor => rfl
  case applied_twice => rfl
  case state => rfl
  case quiescent =>
    intro r o e he
    -- all four updates of the channels were at `0 → 0`, the last one left it empty
    have hq : s6.queue r o = [] := by
      by_cases hro : r = 0 ∧ o = 0
      · exact if_pos hro
      · exact (if_neg hro).trans ((if_neg hro).trans ((if_neg hro).trans (if_neg hro)))
    rw [hq] at he
    cases he
  case inconsistent =>
    intro hc
    exact absurd (hc.1 0 0 : [0, 0] = [0]) (by decide)

/-- the handler invocations of `demoLive`: record `(0, 0)` is handed to the handler twice, the second time with a
state that already contains it -/
example : (run demoCfg demoLive).map (fun x => x.2.map fun g => (g.op, g.e.key, g.e.split, g.e.idx, g.state)) =
    some [(0, 0, 0, 0, []), (0, 0, 0, 0, [(0, 0)])] := rfl

/-- the full `handler_invocation` fails as well: after a live redeploy from 2 workers onto 1 the stale record of
key 1 is handed to the handler of operator 1, which does not exist in the new deployment (the owner is
`route 1 1 = 0`) -/
example : (run demoCfg [.restart 2 false, .read 1, .redeployLive 1, .deliver 1 1]).map
      (fun x => (x.1.n, demoCfg.route x.1.n 1, x.2.map fun g => (g.op, g.e.key, g.e.split, g.e.idx))) =
    some (1, 0, [(1, 1, 1, 0)]) := rfl

/-- with a deployment onto fresh processes instead (`restart`), the same schedule is not even enabled: the stale
record is gone, the second delivery finds an empty channel -/
example : run demoCfg [.restart 1 false, .read 0, .restart 1 false, .read 0, .deliver 0 0, .deliver 0 0] = none := by decide +kernel

/-- two splits whose first two records carry the keys 1 and 2 crosswise: split 0 = `[k2, k1, …]`,
split 1 = `[k1, k2, …]` (everything else has key 7). On 2 workers split `sp` is read by runner `sp`, key 1 lives on
operator 1 and key 2 on operator 0; on 1 worker everything is on runner 0 / operator 0. The handler state is the
list of records it has seen. -/
def crossCfg : Cfg (List (Nat × Nat)) :=
  { key := fun sp i => match sp, i with
      | 0, 0 => 2 | 0, 1 => 1 | 1, 0 => 1 | 1, 1 => 2 | _, _ => 7
    route := fun n k => k % n, assign := fun n sp => sp % n, init := [],
    h := fun s e => s ++ [(e.split, e.idx)] }

theorem crossCfg_wf : crossCfg.WF :=
  ⟨fun _ k hn => Nat.mod_lt k hn, fun _ sp hn => Nat.mod_lt sp hn⟩

/-- deploy on **2** workers; both records of both splits are read (four channels, one record each); operator 1
(key 1) takes `(0,1)` from runner 0 and then `(1,0)` from runner 1, operator 0 (key 2) takes `(1,1)` from
runner 1 and then `(0,0)` from runner 0 — each is the head of its own channel; a checkpoint is taken and
published; redeploy on **1** worker. -/
def crossRun : List Act :=
  [.restart 2 false, .read 0, .read 0, .read 1, .read 1,
   .deliver 0 1, .deliver 1 1, .deliver 1 0, .deliver 0 0,
   .start, .barrier 0, .barrier 1, .opCkpt 0, .opCkpt 1, .publish 0, .restart 1 false]

example : (run crossCfg crossRun).isSome = true := by decide +kernel
/-- it contains no live redeploy (it is a run of the `_partial` theorems) -/
example : crossRun.all (fun a => !a.isLiveRedeploy) = true := by decide +kernel
/-- on 2 workers, before the checkpoint: the two keys are at different operators -/
example : (run crossCfg (crossRun.take 9)).map (fun x => (x.1.n, x.1.log 1 1, x.1.log 0 2)) =
    some (2, [(0, 1), (1, 0)], [(1, 1), (0, 0)]) := by decide +kernel
/-- at the end: 1 worker, both splits read up to 2, nothing in flight (only the channels inside the deployment
can hold records), and operator 0 holds both keys with exactly these two logs -/
example : (run crossCfg crossRun).map (fun x => (x.1.n, x.1.cursor 0, x.1.cursor 1, x.1.log 0 1, x.1.log 0 2,
      (List.range x.1.n).all fun r => (List.range x.1.n).all fun o => (x.1.queue r o).all fun y => y == Item.bar)) =
    some (1, 2, 2, [(0, 1), (1, 0)], [(1, 1), (0, 0)], true) := rfl

/-- **No single failure-free witness for all keys.** No run that deploys `crossCfg` on 1 worker and then takes only
non-failure actions ends with key 1 having seen `(0,1)` before `(1,0)` *and* key 2 having seen `(1,1)` before
`(0,0)` — the two logs at the end of `crossRun`. On one worker all four records go through the single FIFO
channel `0 → 0` in the order they were read, each split is read in index order, so the first of the four to be
delivered is `(0,0)` or `(1,0)`: but `(0,0)` is not the first record of key 2 and `(1,0)` not the first of key 1
(`Proofs/PipelineCross.lean`: `Cross`, `cross_cycle`). Each of the two logs *alone* is reproduced by a
failure-free run on 1 worker (`failure_free_realizable_partial`; explicitly below). -/
theorem single_witness_counterexample :
    ¬ ∃ (as' : List Act) (s' : State (List (Nat × Nat))) (obs' : List (Given (List (Nat × Nat)))),
      as'.head? = some (Act.restart 1 false) ∧ (∀ a ∈ as'.tail, a.isFailure = false) ∧
      run crossCfg as' = some (s', obs') ∧ s'.log 0 1 = [(0, 1), (1, 0)] ∧ s'.log 0 2 = [(1, 1), (0, 0)] := by
  rintro ⟨as', s', obs', hh, hf, hr, h1, h2⟩
  exact cross_no_single_witness crossCfg crossCfg_wf 0 1 1 2 rfl rfl as' s' obs' hh hf hr h1 h2

/-- the per-key witnesses on 1 worker: key 1 wants split 0 first, key 2 wants split 1 first -/
example : (run crossCfg [.restart 1 false, .read 0, .read 0, .read 1, .deliver 0 0, .deliver 0 0, .deliver 0 0]).map
    (fun x => x.1.log 0 1) = some [(0, 1), (1, 0)] := by decide +kernel
example : (run crossCfg [.restart 1 false, .read 1, .read 1, .read 0, .deliver 0 0, .deliver 0 0, .deliver 0 0]).map
    (fun x => x.1.log 0 2) = some [(1, 1), (0, 0)] := by decide +kernel

/-- **Counterexample to the all-keys form of `failure_free_realizable`**: the state at the end of `crossRun`
(reachable without live redeploy, deployed on 1 worker, nothing in flight) is not the state of any run consisting
of one deployment on the same worker count followed by non-failure actions that agrees with it on the log of
*every* key at the key's owner.
The reason: on fewer workers, several splits of one runner feeding several keys of one operator share a single FIFO
channel, which fixes one arrival order for all of these keys, whereas before the rescaling the keys sat behind
different channels and could each see the splits in a different relative order. What is refuted is only the form
whose witness runs on the final worker count: the same logs may still be those of a failure-free run on another
worker count (those of `crossRun` are the logs of the failure-free run on 2 workers). -/
theorem failure_free_all_keys_counterexample :
    ∃ s obs, run crossCfg crossRun = some (s, obs) ∧ (∀ a ∈ crossRun, a.isLiveRedeploy = false) ∧ 0 < s.n ∧
      Quiescent s ∧
      ¬ ∃ as' s' obs', run crossCfg as' = some (s', obs') ∧ as'.head? = some (Act.restart s.n false) ∧
        (∀ a ∈ as'.tail, a.isFailure = false) ∧ s'.n = s.n ∧
        ∀ k, s'.log (crossCfg.route s.n k) k = s.log (crossCfg.route s.n k) k := by
  have h2 : (run crossCfg crossRun).map (fun x => (x.1.n, x.1.log 0 1, x.1.log 0 2,
      (List.range x.1.n).all fun r => (List.range x.1.n).all fun o => (x.1.queue r o).all fun y => y == Item.bar)) =
      some (1, [(0, 1), (1, 0)], [(1, 1), (0, 0)], true) := by decide +kernel
  obtain ⟨⟨s, obs⟩, h, hx⟩ := Option.map_eq_some_iff.1 h2
  simp only [Prod.mk.injEq] at hx
  obtain ⟨hn, hl1, hl2, hchk⟩ := hx
  have hlive : ∀ a ∈ crossRun, a.isLiveRedeploy = false := by decide
  refine ⟨s, obs, h, hlive, by omega, ?_, ?_⟩
  · exact quiescent_of_check crossCfg crossCfg_wf s (inv_run crossCfg crossCfg_wf crossRun s obs hlive h)
      (by omega) hchk
  · rintro ⟨as', s', obs', hr, hh, hf, _, hk⟩
    rw [hn] at hh hk
    have k1 := hk 1
    have k2 := hk 2
    have e1 : crossCfg.route 1 1 = 0 := rfl
    have e2 : crossCfg.route 1 2 = 0 := rfl
    rw [e1, hl1] at k1
    rw [e2, hl2] at k2
    exact single_witness_counterexample ⟨as', s', obs', hh, hf, hr, k1, k2⟩

/-- **The code has the shape three atomic model steps assume** (regenerated from /repo on every run by
`tools/gofacts/facts_c01.go`; a lost shape makes this fail to build):
* `restart` restores operator state and source cursors from ONE published checkpoint: `Job.start` (with the `Job` methods it
  calls) calls `CurrentCheckpoint()` exactly once, before `Deploy`;
* `opCkpt` is snapshot-of-everything-delivered then acknowledgement: `handleCheckpointBarrier` holds the operator's write
  lock and flushes the pending handler batch, then takes the DKV checkpoint, then acknowledges;
* `barrier` is cut, acknowledgement, barrier behind everything read: the read loop's barrier case calls `createCheckpoint`
  (reader `Checkpoint()` then `OnSourceRunnerCheckpointComplete`) before it sends on the output stream, and
  `source_runner.go` has no other call of `OnSourceRunnerCheckpointComplete` (other files are not looked at). -/
theorem model_steps_match_code_shape :
    Facts.c01StartReadsCheckpointOnce = 1 ∧ Facts.c01OperatorCheckpointOrder = 1 ∧
    Facts.c01RunnerCutBeforeBarrier = 1 := by decide

end Rxn.C01
