import RxnModel.Proofs.Savepoint
import RxnModel.Props.C10
/-!
# C14 — savepoints are self-contained and restore the checkpointed job state

About `Model/Savepoint.lean` with `Lister.byId` (the code after the D26 repair: files are listed for the checkpoint
with the operator checkpoint's id). All storages, job snapshots (any number of operators, any documents, shared
files), savepoint ids and working-storage contents at restore time are universally quantified. There is no side
condition on the documents: a creation that *reports success* is complete. With `Lister.last` (the code before the
repair) it need not be: `d26_last_entry_artifact_incomplete`.
-/
namespace Rxn.C14
open Rxn.Savepoint

/-- the files `dkv.Open` needs for operator checkpoint `o` on storage `fs`: its checkpoint entry's files and the
document itself -/
abbrev neededBy (fs : FS) (o : OpCkpt) : Option (List URI) := opFiles .byId fs (.work o.uri) o

/-- creating a savepoint artifact (successfully or not) changes no file outside the
savepoint's own directory: no working file (the running job's DKV files, documents, job snapshots) and no other
savepoint. Holds for either lister. -/
theorem savepoint_nonintrusive (L : Lister) (fs : FS) (jobURI : URI) (snap : JobSnap) (p : Path)
    (hp : p.inSp snap.id = false) :
    read (createArtifact L fs jobURI snap).1 p = read fs p := by
  have hfr := createOps_frame L snap.id p hp snap.ops fs
  unfold createArtifact
  cases hc : createOps L snap.id fs snap.ops with
  | mk fs' ok =>
    rw [hc] at hfr
    cases ok with
    | false => exact hfr
    | true =>
      dsimp only
      cases hr : read fs' (.work jobURI) with
      | none => exact hfr
      | some c =>
        dsimp only
        rw [read_write_ne _ _ (by intro hh; rw [← hh, spJob_inSp] at hp; cases hp)]
        exact hfr

/-- if `CreateSavepointArtifact` reports success, then for every operator checkpoint of the
job snapshot the artifact holds, under the savepoint's directory and with the content they have in the working
storage, the operator's document and every WAL and table file of the document entry with the operator
checkpoint's id (exactly what `dkv.Open` will look up); and `job.savepoint` is the job snapshot file. -/
theorem artifact_complete (fs fs' : FS) (jobURI : URI) (snap : JobSnap)
    (h : createArtifact .byId fs jobURI snap = (fs', true)) :
    (∀ o ∈ snap.ops, ∃ files, neededBy fs o = some files ∧
        ∀ u ∈ files, ∃ c, read fs (.work u) = some c ∧ read fs' (artPath snap.id u) = some c) ∧
    (∃ c, read fs (.work jobURI) = some c ∧ read fs' (.spJob snap.id) = some c) :=
  createArtifact_complete h

/-- the restore half on its own: whatever produced it, a savepoint directory that holds
the job snapshot and, for every operator checkpoint, a document with the ORIGINAL entry for the checkpoint id (the
rest of the document may differ: later checkpoints appended, others dropped) and every file of that entry with its
original content, restores the snapshot and the original images. -/
theorem artifact_ok_restores (fs w : FS) (snap : JobSnap)
    (hjob : read w (.spJob snap.id) = some (.job snap))
    (hops : ∀ o ∈ snap.ops, OpArtifactOK fs w snap.id o) :
    ∃ w', loadFromSavepoint .byId w snap.id = (w', some snap) ∧
      ∀ o ∈ snap.ops, openDB w' o = openDB fs o ∧ (openDB fs o).isSome := by
  have hsucc := restoreOps_succeeds_of_ok hops
  cases hr : restoreOps .byId snap.id w snap.ops with
  | mk w' ok =>
    rw [hr] at hsucc; dsimp only at hsucc; subst hsucc
    exact ⟨w', by simp [loadFromSavepoint, hjob, hr], fun o ho => (hops o ho).openDB_restored ho hr⟩

/-- self-containedness: let the artifact of job snapshot `snap` be created successfully
from storage `fs` whose job snapshot file holds `snap`. Take ANY storage `w` that agrees with the result on the
directory of THIS savepoint only — the working storage may be wiped, stale or garbage, other savepoints may have
been created or changed. Then starting from the savepoint
URI succeeds, loads exactly `snap` (operator checkpoints and source state), and for every operator checkpoint
`dkv.Open` reads from the restored storage exactly the image (document entry, WAL contents, table contents) that
it reads from the original working storage, and that image exists. -/
theorem savepoint_roundtrip (fs fs1 w : FS) (jobURI : URI) (snap : JobSnap)
    (hc : createArtifact .byId fs jobURI snap = (fs1, true))
    (hj : read fs (.work jobURI) = some (.job snap))
    (hw : ∀ p, p.inSp snap.id = true → read w p = read fs1 p) :
    ∃ w', loadFromSavepoint .byId w snap.id = (w', some snap) ∧
      ∀ o ∈ snap.ops, openDB w' o = openDB fs o ∧ (openDB fs o).isSome := by
  obtain ⟨hjob, hops⟩ := createArtifact_opArtifactOK hc
  exact artifact_ok_restores fs w snap (by rw [hw _ (spJob_inSp snap.id), hjob, hj])
    (fun o ho => (hops o ho).of_agree hw)

/-- the special case named in the property: all working storage deleted, then restart from the savepoint -/
theorem savepoint_roundtrip_wipe (fs fs1 : FS) (jobURI : URI) (snap : JobSnap)
    (hc : createArtifact .byId fs jobURI snap = (fs1, true))
    (hj : read fs (.work jobURI) = some (.job snap)) :
    ∃ w', loadFromSavepoint .byId (wipe fs1) snap.id = (w', some snap) ∧
      ∀ o ∈ snap.ops, openDB w' o = openDB fs o ∧ (openDB fs o).isSome :=
  savepoint_roundtrip fs fs1 (wipe fs1) jobURI snap hc hj
    (fun p hp => read_wipe_sp fs1 p (Path.not_isWork_of_inSp hp))

/-- after the wipe no operator image can be opened from the working storage (so the round trip above is not vacuous
about `wipe`; that no working file is left at all is `read_wipe_work`) -/
theorem wipe_removes_working (fs : FS) (o : OpCkpt) : openDB (wipe fs) o = none := by
  simp [openDB, read_wipe_work]

/-- a savepoint requested while a checkpoint is pending returns that checkpoint's id with
`created = false`, starts nothing (the id counter and the pending snapshot's id, expected acknowledgements and
received acknowledgements are unchanged) and marks the pending snapshot as a savepoint. -/
theorem savepoint_folds (s : Store) (p : Pending) (n : Nat) (hp : s.pending = some p) (hs : p.isSp = false) :
    createSavepoint s n = ({ s with pending := some { p with isSp := true } }, .sp p.id false) := by
  rw [createSavepoint_of_pending n hp, hs]; rfl

/-- at most one snapshot is in progress: with a snapshot pending neither create call replaces it or moves the id
counter (with nothing pending a request gets the next id: the last `example` below) -/
theorem create_keeps_pending (s : Store) (p : Pending) (n : Nat) (hp : s.pending = some p) :
    (createCheckpoint s n).1 = s ∧ (createSavepoint s n).1.ckptId = s.ckptId ∧
      ∃ q, (createSavepoint s n).1.pending = some q ∧ q.id = p.id ∧ q.acks = p.acks ∧ q.nOps = p.nOps ∧ q.src = p.src := by
  rw [createCheckpoint, hp, createSavepoint_of_pending n hp]
  cases hs : p.isSp with
  | true => exact ⟨rfl, rfl, p, hp, rfl, rfl, rfl, rfl⟩
  | false => exact ⟨rfl, rfl, _, rfl, rfl, rfl, rfl, rfl⟩

/-- a pending snapshot that is flagged as a savepoint and complete is handed to the publisher flagged as a savepoint,
under its own id (the id a folded request returned: `savepoint_folds`). One unfolding of `finishIfComplete`: how the
acknowledgements (`ackOp`, `ackSrc`) lead there is in no theorem. -/
theorem folded_savepoint_published (s : Store) (p : Pending) (hsp : p.isSp = true) (hc : p.complete = true) :
    (finishIfComplete s p).2 = some (⟨p.id, p.acks, p.src.getD ""⟩, true) := by
  simp [finishIfComplete, hc, hsp]

/-- publication of a savepoint = write the job snapshot file, then create the artifact from that storage; so a
successful publication satisfies the hypotheses of `savepoint_roundtrip` -/
theorem publish_savepoint_roundtrip (fs fs1 : FS) (jobURI : URI) (snap : JobSnap)
    (hp : publish .byId fs jobURI (snap, true) = (fs1, true)) :
    ∃ w', loadFromSavepoint .byId (wipe fs1) snap.id = (w', some snap) ∧
      ∀ o ∈ snap.ops, openDB w' o = openDB (write (.work jobURI) (.job snap) fs) o ∧
        (openDB (write (.work jobURI) (.job snap) fs) o).isSome := by
  simp only [publish, if_true] at hp
  exact savepoint_roundtrip_wipe _ fs1 jobURI snap hp (read_write_eq _ _ _)

theorem jobStep_preserves_savepoints (L : Lister) (fs : FS) (a : JobAct) (p : Path) (hp : p.isWork = false)
    (hid : ∀ id, a.savepointId = some id → p.inSp id = false) :
    read (jobStep L fs a) p = read fs p := by
  cases a with
  | work ops => exact applyWork_frame p hp ops fs
  | startFrom sid => exact load_frame L p hp fs sid
  | wipe => exact read_wipe_sp fs p hp
  | publish pub obsolete =>
    simp only [jobStep]
    rw [cleanup_frame p hp]
    have hw : read (write (.work (jobURI pub.1.id)) (.job pub.1) fs) p = read fs p :=
      read_write_ne _ _ (by intro hh; subst hh; cases hp)
    unfold publish
    by_cases h2 : pub.2 = true
    · simp only [h2, if_true]
      rw [savepoint_nonintrusive L _ _ _ p (hid pub.1.id (by simp [JobAct.savepointId, h2]))]
      exact hw
    · simp only [h2]; exact hw

/-- whatever the job does afterwards — operators and store writing and deleting
working files, further publications with removal of the obsolete job snapshots, wiping the working storage,
starting again from any savepoint (restore), in any order and any number of times — no file under `savepoints/`
is removed or changed, except inside the directory of a savepoint id for which an artifact is created again. -/
theorem savepoint_survives_job_life (L : Lister) (acts : List JobAct) (fs : FS) (p : Path) (hp : p.isWork = false)
    (hid : ∀ a ∈ acts, ∀ id, a.savepointId = some id → p.inSp id = false) :
    read (jobRun L fs acts) p = read fs p := by
  induction acts generalizing fs with
  | nil => rfl
  | cons a r ih =>
    show read (jobRun L (jobStep L fs a) r) p = read fs p
    rw [ih _ (fun b hb => hid b (List.mem_cons_of_mem _ hb))]
    exact jobStep_preserves_savepoints L fs a p hp (hid a (List.mem_cons_self ..))

/-- a successfully created savepoint keeps restoring the snapshot and the operator
images it was created from after ANY later life of the job (as above; the job may in particular be rolled back
to an earlier savepoint and publish a checkpoint with the same id again, or be restarted from this savepoint and
clean up the snapshot it loaded), as long as no artifact with the same id is created again. -/
theorem savepoint_stays_restorable (fs fs1 : FS) (jobURI' : URI) (snap : JobSnap) (acts : List JobAct)
    (hc : createArtifact .byId fs jobURI' snap = (fs1, true))
    (hj : read fs (.work jobURI') = some (.job snap))
    (hid : ∀ a ∈ acts, a.savepointId ≠ some snap.id) :
    ∃ w', loadFromSavepoint .byId (jobRun .byId fs1 acts) snap.id = (w', some snap) ∧
      ∀ o ∈ snap.ops, openDB w' o = openDB fs o ∧ (openDB fs o).isSome := by
  apply savepoint_roundtrip fs fs1 _ jobURI' snap hc hj
  intro p hin
  apply savepoint_survives_job_life .byId acts fs1 p (Path.not_isWork_of_inSp hin)
  intro a ha id hid'
  -- `p` lies in the directory of `snap.id` and of no other savepoint
  cases hpi : p.inSp id with
  | false => rfl
  | true => exact absurd (Path.inSp_unique hpi hin ▸ hid') (hid a ha)

/-! ## timers across a savepoint restore

The pending timers of an operator live in its DKV (timer keys), so they are part of the operator image that
`savepoint_roundtrip` shows to be restored unchanged. `view` is what a reopened DKV holds of timer keys as a function of
the image it reads (C08: the reopened state is a function of the checkpoint's files — a parameter here, not proved in
C14); `hview` says that for the ORIGINAL image this is the timer DB the operator had at its `Checkpoint` call (C08's
restore statement). The conclusion is C10's `restore_pending_partial` for the registry rebuilt from the RESTORED image:
it has exactly the timers pending at the checkpoint (a pending timer is still pending, a fired one is not) and refines
the timer specification from there on, for every cache size. (`_partial` as in C10: timers not before 1970, D51.) -/
theorem savepoint_restores_pending_timers_partial (fs fs1 w : FS) (jobURI : URI) (snap : JobSnap)
    (hc : createArtifact .byId fs jobURI snap = (fs1, true))
    (hj : read fs (.work jobURI) = some (.job snap))
    (hw : ∀ p, p.inSp snap.id = true → read w p = read fs1 p)
    (o : OpCkpt) (ho : o ∈ snap.ops) (view : Image → Timers.DB)
    (kgc start stop maxCache maxCache' : Nat) (ids ids' : List String) (hss : start ≤ stop) (hstop : stop ≤ 65536)
    (before after : List Timers.ROp)
    (hv1 : ∀ op ∈ before, op.valid kgc start stop) (hv2 : ∀ op ∈ after, op.valid kgc start stop)
    (hview : ∀ img, openDB fs o = some img →
      view img = ((Timers.Registry.new (Timers.Store.new [] kgc start stop maxCache) ids).run before).1.store.db) :
    ∃ w' img', loadFromSavepoint .byId w snap.id = (w', some snap) ∧ openDB w' o = some img' ∧
      let specCkpt := ((Timers.Spec.new ids).run before).1
      let restored := Timers.Registry.new (Timers.Store.new (view img') kgc start stop maxCache') ids'
      let specRestored : Timers.Spec := ⟨specCkpt.pending, Wm.Ups.init ids', Wm.regInit⟩
      Timers.Rel restored specRestored ∧
      Timers.OutputsAgree (restored.run after).2 (specRestored.run after).2 ∧
      Timers.Rel (restored.run after).1 (specRestored.run after).1 := by
  obtain ⟨w', hload, himg⟩ := savepoint_roundtrip fs fs1 w jobURI snap hc hj hw
  obtain ⟨heq, hsome⟩ := himg o ho
  cases hi : openDB fs o with
  | none => rw [hi] at hsome; simp at hsome
  | some img =>
    refine ⟨w', img, hload, by rw [heq, hi], ?_⟩
    rw [hview img hi]
    exact C10.restore_pending_partial kgc start stop maxCache maxCache' ids ids' hss hstop before after hv1 hv2

/-! ## creation is not atomic (D53, repaired by beb71d2)

`artifact_complete` and `savepoint_roundtrip` above are about a creation that sees ONE storage value. The real
creation makes one storage call after the other while the job runs on (`createArtifactS`: a `Sched` of environment
moves between the calls; `DocMode` = how the operator's document reaches the artifact, regenerated from the source
as `docMode`). Success itself is not guaranteed by any of the theorems below: see `creation_succeeds_partial` (D65). -/

/-- non-atomic creation with the document as the code writes it since beb71d2 (`DocMode.writeRead`: the content read
at the start is written) and `job.savepoint` copied from the job snapshot FILE (`createArtifactS`, i.e. `JobMode.copyFile`,
the rule before fe6510b; for `createArtifactSJ … .fromBytes`, the code as it is, there is only `d65_repair_witness`).
The environment is the running job under its discipline (`Disc`): while the creation makes its storage
calls one by one, operators and store may delete anything, may rewrite an operator's `checkpoints` document into any
document that keeps the entry of the savepoint's checkpoint as it is or no longer has it (later checkpoints appended,
non-retained ones dropped), may rewrite a WAL/table file of the savepoint or its job snapshot only with the same
content, and may do anything to other files — at any moment, any number of times. If the creation nevertheless reports
success, then from ANY storage agreeing on the savepoint's directory the load succeeds with exactly the snapshot and
every operator's image equals the one of the original storage and exists. Structural side conditions: an operator's
document is not itself a WAL/table file of the savepoint, and two operator checkpoints with the same document URI have
the same checkpoint id. -/
theorem savepoint_roundtrip_interleaved (fs fs1 w : FS) (jobURI : URI) (snap : JobSnap) (sch : Sched)
    (hdisc : Disc fs jobURI snap sch)
    (hsep : ∀ o ∈ snap.ops, ¬ DataOf fs snap o.uri)
    (hdocs : ∀ o ∈ snap.ops, ∀ o' ∈ snap.ops, o.uri = o'.uri → o.ckptId = o'.ckptId)
    (hc : createArtifactS .byId .writeRead fs jobURI snap sch = (fs1, true))
    (hj : read fs (.work jobURI) = some (.job snap))
    (hw : ∀ p, p.inSp snap.id = true → read w p = read fs1 p) :
    ∃ w', loadFromSavepoint .byId w snap.id = (w', some snap) ∧
      ∀ o ∈ snap.ops, openDB w' o = openDB fs o ∧ (openDB fs o).isSome := by
  obtain ⟨hjob, hops⟩ := createArtifactS_disc fs fs1 jobURI snap sch hdisc hsep hdocs hc
  exact artifact_ok_restores fs w snap (by rw [hw _ (spJob_inSp snap.id), hjob, hj])
    (fun o ho => (hops o ho).of_agree hw)

/-- the files `CreateSavepointArtifact` handles when run on `fs` -/
def Handled (fs : FS) (jobURI : URI) (snap : JobSnap) (u : URI) : Prop :=
  u = jobURI ∨ ∃ o ∈ snap.ops, u = o.uri ∨ ∃ files, opFiles .byId fs (.work o.uri) o = some files ∧ u ∈ files

/-- non-atomic creation, either document mode, environment leaving the files the creation handles alone: the
non-atomic creation is simulated by the atomic one. -/
theorem savepoint_roundtrip_interleaved_quiet (m : DocMode) (fs fs1 w : FS) (jobURI : URI) (snap : JobSnap) (sch : Sched)
    (hquiet : ∀ e ∈ sch, ∀ x ∈ e, ¬ Handled fs jobURI snap x.uri)
    (hc : createArtifactS .byId m fs jobURI snap sch = (fs1, true))
    (hj : read fs (.work jobURI) = some (.job snap))
    (hw : ∀ p, p.inSp snap.id = true → read w p = read fs1 p) :
    ∃ w', loadFromSavepoint .byId w snap.id = (w', some snap) ∧
      ∀ o ∈ snap.ops, openDB w' o = openDB fs o ∧ (openDB fs o).isSome := by
  obtain ⟨hok, hsame⟩ := createArtifactS_sim .byId m (Handled fs jobURI snap) fs jobURI snap sch hquiet
    (Or.inl rfl) (fun o ho => Or.inr ⟨o, ho, Or.inl rfl⟩)
    (fun o ho files hf u hu => Or.inr ⟨o, ho, Or.inr ⟨files, hf, hu⟩⟩)
  rw [hc] at hok hsame
  cases hca : createArtifact .byId fs jobURI snap with
  | mk fsA ok =>
    rw [hca] at hok hsame
    dsimp only at hok hsame
    subst hok
    apply savepoint_roundtrip fs fsA w jobURI snap hca hj
    intro p hp
    rw [hw p hp]
    exact hsame p (Path.not_isWork_of_inSp hp)

/-- the theorem above at `docMode`, the mode the regenerated source fact `Facts.savepointDocFromRead` selects -/
theorem savepoint_roundtrip_interleaved_current (fs fs1 w : FS) (jobURI : URI) (snap : JobSnap) (sch : Sched)
    (hquiet : ∀ e ∈ sch, ∀ x ∈ e, ¬ Handled fs jobURI snap x.uri)
    (hc : createArtifactS .byId docMode fs jobURI snap sch = (fs1, true))
    (hj : read fs (.work jobURI) = some (.job snap))
    (hw : ∀ p, p.inSp snap.id = true → read w p = read fs1 p) :
    ∃ w', loadFromSavepoint .byId w snap.id = (w', some snap) ∧
      ∀ o ∈ snap.ops, openDB w' o = openDB fs o ∧ (openDB fs o).isSome :=
  savepoint_roundtrip_interleaved_quiet docMode fs fs1 w jobURI snap sch hquiet hc hj hw

/-- one operator whose document already holds checkpoint 2; while the artifact of savepoint 1 is copied the operator
applies the retention `[2]` (document rewritten, WAL of checkpoint 1 deleted) just before the document is copied -/
def d53FS : FS :=
  [ (.work ⟨"op0/", "checkpoints"⟩, .doc [⟨1, [⟨"op0/", "0.wal"⟩], [[]]⟩, ⟨2, [⟨"op0/", "1.wal"⟩], [[]]⟩]),
    (.work ⟨"op0/", "0.wal"⟩, .blob "w0"), (.work ⟨"op0/", "1.wal"⟩, .blob "w1"),
    (.work (jobURI 1), .job ⟨1, [⟨"op0", 1, ⟨"op0/", "checkpoints"⟩⟩], "src"⟩) ]
def d53Snap : JobSnap := ⟨1, [⟨"op0", 1, ⟨"op0/", "checkpoints"⟩⟩], "src"⟩
/-- storage calls: read document, copy 0.wal, copy document, copy job snapshot -/
def d53Sched : Sched :=
  [[], [], [.put ⟨"op0/", "checkpoints"⟩ (.doc [⟨2, [⟨"op0/", "1.wal"⟩], [[]]⟩]), .del ⟨"op0/", "0.wal"⟩], []]

/-- non-vacuity of `savepoint_roundtrip_interleaved`: the D53 schedule (a retention update — document rewritten without
the savepoint's entry, its WAL deleted — just before the document reaches the artifact) is within the discipline, the
structural side conditions hold (that the repaired creation succeeds on it: `d53_repair_witness`) -/
theorem d53_schedule_is_disciplined :
    Disc d53FS (jobURI 1) d53Snap d53Sched ∧
    (∀ o ∈ d53Snap.ops, ¬ DataOf d53FS d53Snap o.uri) ∧
    (∀ o ∈ d53Snap.ops, ∀ o' ∈ d53Snap.ops, o.uri = o'.uri → o.ckptId = o'.ckptId) := by
  have hops : ∀ o ∈ d53Snap.ops, o = ⟨"op0", 1, ⟨"op0/", "checkpoints"⟩⟩ := fun o ho => List.mem_singleton.mp ho
  have horig : origEntry d53FS ⟨"op0", 1, ⟨"op0/", "checkpoints"⟩⟩ = some ⟨1, [⟨"op0/", "0.wal"⟩], [[]]⟩ := by decide +kernel
  have hnotdata : ¬ DataOf d53FS d53Snap ⟨"op0/", "checkpoints"⟩ := by
    rintro ⟨o, ho, ck, hck, hu⟩
    rw [hops o ho, horig] at hck; injection hck with hck; subst hck
    have : (⟨"op0/", "checkpoints"⟩ : URI) ∉ CkDoc.files ⟨1, [⟨"op0/", "0.wal"⟩], [[]]⟩ := by decide +kernel
    exact this hu
  refine ⟨?_, fun o ho => by rw [hops o ho]; exact hnotdata, fun o ho o' ho' _ => by rw [hops o ho, hops o' ho']⟩
  intro e he w hw
  simp only [d53Sched, List.mem_cons, List.mem_nil_iff, or_false] at he
  -- only the third move of the environment is not empty: the retention update
  rcases he with rfl | rfl | rfl | rfl
  · cases hw
  · cases hw
  · simp only [List.mem_cons, List.mem_nil_iff, or_false] at hw
    rcases hw with rfl | rfl
    · refine ⟨?_, fun o ho _ => ?_⟩
      · rintro (h | h)
        · have : (⟨"op0/", "checkpoints"⟩ : URI) ≠ jobURI 1 := by decide +kernel
          exact absurd h this
        · exact absurd h hnotdata
      · rw [hops o ho]; exact ⟨_, rfl, Or.inr (by decide +kernel)⟩
    · trivial
  · cases hw

/-- D53, the code before beb71d2 (`DocMode.copyFile`) on the schedule above: the creation reports success, yet the
artifact cannot be restored: its document has no entry for the savepoint's checkpoint. -/
theorem artifact_complete_counterexample :
    (createArtifactS .byId .copyFile d53FS (jobURI 1) d53Snap d53Sched).2 = true ∧
    (loadFromSavepoint .byId (wipe (createArtifactS .byId .copyFile d53FS (jobURI 1) d53Snap d53Sched).1) 1).2 = none ∧
    (openDB d53FS ⟨"op0", 1, ⟨"op0/", "checkpoints"⟩⟩).isSome = true := by decide +kernel

/-- with the repair (beb71d2, `DocMode.writeRead`) the same schedule yields an artifact that restores the savepoint's
checkpoint -/
theorem d53_repair_witness :
    (createArtifactS .byId .writeRead d53FS (jobURI 1) d53Snap d53Sched).2 = true ∧
    (loadFromSavepoint .byId (wipe (createArtifactS .byId .writeRead d53FS (jobURI 1) d53Snap d53Sched).1) 1).2 = some d53Snap ∧
    openDB (loadFromSavepoint .byId (wipe (createArtifactS .byId .writeRead d53FS (jobURI 1) d53Snap d53Sched).1) 1).1
        ⟨"op0", 1, ⟨"op0/", "checkpoints"⟩⟩ = openDB d53FS ⟨"op0", 1, ⟨"op0/", "checkpoints"⟩⟩ := by decide +kernel

/-- D65 (repaired in /repo by fe6510b; this statement is about `JobMode.copyFile`, the rule before the repair): a
requested savepoint comes into existence — the non-atomic creation
reports success whenever the atomic one would — PROVIDED the environment leaves the handled files alone while it runs.
Excluded in particular: the next publication's cleanup removing the job snapshot `job-N.snapshot`, which the creation
copies LAST (`savepoint_lost_to_cleanup_counterexample`). -/
theorem creation_succeeds_partial (m : DocMode) (fs : FS) (jobURI : URI) (snap : JobSnap) (sch : Sched)
    (hquiet : ∀ e ∈ sch, ∀ x ∈ e, ¬ Handled fs jobURI snap x.uri)
    (hat : (createArtifact .byId fs jobURI snap).2 = true) :
    (createArtifactS .byId m fs jobURI snap sch).2 = true := by
  obtain ⟨hok, _⟩ := createArtifactS_sim .byId m (Handled fs jobURI snap) fs jobURI snap sch hquiet
    (Or.inl rfl) (fun o ho => Or.inr ⟨o, ho, Or.inl rfl⟩)
    (fun o ho files hf u hu => Or.inr ⟨o, ho, Or.inr ⟨files, hf, hu⟩⟩)
  rw [hok]; exact hat

/-- storage calls: read document, copy 0.wal, write document, copy job snapshot — the next checkpoint is published
meanwhile and its cleanup removes `job-1.snapshot` just before the last copy -/
def d65Sched : Sched := [[], [], [], [.del (jobURI 1)]]

/-- D65, the rule before fe6510b: everything of savepoint 1 is copied, then the copy of the job
snapshot fails: no savepoint exists although the atomic creation on the same storage succeeds. -/
theorem savepoint_lost_to_cleanup_counterexample :
    (createArtifact .byId d53FS (jobURI 1) d53Snap).2 = true ∧
    (createArtifactS .byId .writeRead d53FS (jobURI 1) d53Snap d65Sched).2 = false ∧
    read (createArtifactS .byId .writeRead d53FS (jobURI 1) d53Snap d65Sched).1 (.spJob 1) = none := by decide +kernel

/-- with `job.savepoint` written from memory (`JobMode.fromBytes`; fixes/D65.diff, in /repo as fe6510b) the schedule of the counterexample yields the savepoint -/
theorem d65_repair_witness :
    (createArtifactSJ .byId .writeRead .fromBytes d53FS (jobURI 1) d53Snap d65Sched).2 = true ∧
    read (createArtifactSJ .byId .writeRead .fromBytes d53FS (jobURI 1) d53Snap d65Sched).1 (.spJob 1)
      = some (.job d53Snap) ∧
    read (createArtifactSJ .byId .writeRead .fromBytes d53FS (jobURI 1) d53Snap d65Sched).1 (.work (jobURI 1)) = none ∧
    (createArtifactSJ .byId .writeRead .copyFile d53FS (jobURI 1) d53Snap d65Sched).2 = false := by decide +kernel

/-- D49 repaired: the FIRST id a job started from a savepoint hands out — for a checkpoint or a savepoint — is above
the savepoint's and above that of every job snapshot file still in its file store (checkpoints written after the
savepoint by the run that is being rolled back), so its publication does not rewrite any existing job snapshot file
(in particular not the one a later savepoint's `job.savepoint` was copied from). Whether or not existing savepoints are counted. -/
theorem restart_ids_fresh (cs : Bool) (L : Lister) (fs fs' : FS) (sid : Nat) (s : JobSnap) (st : Store)
    (h : startStoreWith cs L fs sid = (fs', some (s, st))) (n : Nat) :
    ∃ k, (createCheckpoint st n).2 = .ckpt k ∧ (createSavepoint st n).2 = .sp k true ∧ s.id < k ∧
      (∀ id c, read fs' (.work (jobURI id)) = some c → id < k) ∧ read fs' (.work (jobURI k)) = none := by
  obtain rfl := startStoreWith_some h
  have hb := le_startCounter cs fs' s
  exact ⟨startCounter cs fs' s + 1, rfl, rfl, Nat.lt_succ_of_le hb.1,
    read_fresh_of_le (f := fun id => .work (jobURI id)) fun id c hc =>
      Nat.le_trans (le_newestLocalId id fs' c hc) hb.2.1⟩

/-- D66, repaired in /repo by bd284e1 (existing savepoints counted, `Facts.savepointIdsCounted` = 1): the first id a job
started from a savepoint hands out is above the id of every savepoint that exists in its file store (= has a `job.savepoint`); no
`job.savepoint` of that id exists yet (files a failed creation left under `savepoints/<id>/` are not counted). (With existing savepoints not counted, the rule before the repair, it is false:
`savepoint_id_reuse_counterexample`.) -/
theorem restart_never_recreates_a_savepoint (L : Lister) (fs fs' : FS) (sid : Nat) (s : JobSnap) (st : Store)
    (h : startStoreWith true L fs sid = (fs', some (s, st))) (n : Nat) :
    ∃ k, (createSavepoint st n).2 = .sp k true ∧
      (∀ id c, read fs' (.spJob id) = some c → id < k) ∧ read fs' (.spJob k) = none := by
  obtain rfl := startStoreWith_some h
  exact ⟨startCounter true fs' s + 1, rfl, read_fresh_of_le (f := .spJob) fun id c hc =>
    Nat.le_trans (le_newestSavepointId id fs' c hc) ((le_startCounter true fs' s).2.2 rfl)⟩

/-- savepoints 1 and 2 of an earlier run exist; all working storage is gone -/
def reuseFS : FS :=
  [ (.spJob 1, .job ⟨1, [], "run-A@1"⟩), (.spJob 2, .job ⟨2, [], "run-A@2"⟩) ]

/-- D66, the rule before bd284e1 (existing savepoints are not counted): the job rolled
back to savepoint 1 gives its next savepoint the id 2, and publishing it replaces the `job.savepoint` the URI of the
earlier savepoint 2 names: that URI now restores another run's state. With the savepoints counted the id is 3. -/
theorem savepoint_id_reuse_counterexample :
    (∃ st, (startStoreWith false .byId reuseFS 1).2 = some (⟨1, [], "run-A@1"⟩, st) ∧ (createSavepoint st 0).2 = .sp 2 true) ∧
    read (publish .byId reuseFS (jobURI 2) (⟨2, [], "run-B@2"⟩, true)).1 (.spJob 2) = some (.job ⟨2, [], "run-B@2"⟩) ∧
    read reuseFS (.spJob 2) = some (.job ⟨2, [], "run-A@2"⟩) ∧
    (∃ st, (startStoreWith true .byId reuseFS 1).2 = some (⟨1, [], "run-A@1"⟩, st) ∧ (createSavepoint st 0).2 = .sp 3 true) := by
  refine ⟨⟨_, rfl, by decide +kernel⟩, by decide +kernel, by decide +kernel, ⟨_, rfl, by decide +kernel⟩⟩

/-- the place of a file inside a savepoint directory is computed from the file's own
directory AND base name, so two different files of the same savepoint never share a place — in particular not two
tables with the same number in two instance directories (an operator redeployed in a new directory keeps
referencing the previous instance's tables while its own numbering restarts). This is the fact `artifact_complete`
and `savepoint_roundtrip` rest on (as `spFile_inj`); it is a property of the modelled path computation, not an
assumption. -/
theorem artPath_injective (id : Nat) (u v : URI) (h : artPath id u = artPath id v) : u = v :=
  spFile_inj id u v h

/-- artifact places never collide with working files or with another savepoint's places -/
theorem artPath_separate (id id' : Nat) (u v : URI) :
    artPath id u ≠ .work v ∧ artPath id u ≠ .spJob id' ∧ (artPath id u = artPath id' v → id = id') := by
  refine ⟨sp_ne_work id u v, ?_, ?_⟩
  · intro h; cases h
  · intro h; simp only [artPath, Path.sp.injEq] at h; exact h.1

/-! ## non-vacuity: two operators, one shared table, a document that already holds a later checkpoint; operator
`op0` was redeployed in directory `op0b/` and still references table `0.sst` of its previous directory `op0/`
next to its own `0.sst` -/

def demoFS : FS :=
  [ (.work ⟨"op0b/", "checkpoints"⟩, .doc [⟨1, [⟨"op0b/", "1.wal"⟩], [[⟨"op0b/", "0.sst"⟩, ⟨"op0/", "0.sst"⟩], []]⟩,
      ⟨2, [⟨"op0b/", "2.wal"⟩], [[⟨"op0b/", "1.sst"⟩], [⟨"op0/", "0.sst"⟩]]⟩]),
    (.work ⟨"op0b/", "1.wal"⟩, .blob "w1"), (.work ⟨"op0b/", "2.wal"⟩, .blob "w2"),
    (.work ⟨"op0/", "0.sst"⟩, .blob "old-t0"), (.work ⟨"op0b/", "0.sst"⟩, .blob "new-t0"), (.work ⟨"op0b/", "1.sst"⟩, .blob "t1"),
    (.work ⟨"op1/", "checkpoints"⟩, .doc [⟨1, [⟨"op1/", "0.wal"⟩], [[⟨"op0/", "0.sst"⟩]]⟩]),
    (.work ⟨"op1/", "0.wal"⟩, .blob "v0"),
    (.work ⟨"", "job-1"⟩, .job ⟨1, [⟨"op0", 1, ⟨"op0b/", "checkpoints"⟩⟩, ⟨"op1", 1, ⟨"op1/", "checkpoints"⟩⟩], "src@7"⟩) ]

def demoOp0 : OpCkpt := ⟨"op0", 1, ⟨"op0b/", "checkpoints"⟩⟩
def demoSnap : JobSnap := ⟨1, [demoOp0, ⟨"op1", 1, ⟨"op1/", "checkpoints"⟩⟩], "src@7"⟩
def demoJob : URI := ⟨"", "job-1"⟩

example : (createArtifact .byId demoFS demoJob demoSnap).2 = true := by decide +kernel
example : (loadFromSavepoint .byId (wipe (createArtifact .byId demoFS demoJob demoSnap).1) 1).2 = some demoSnap := by
  decide +kernel
example :
    openDB (loadFromSavepoint .byId (wipe (createArtifact .byId demoFS demoJob demoSnap).1) 1).1 demoOp0
      = some ⟨⟨1, [⟨"op0b/", "1.wal"⟩], [[⟨"op0b/", "0.sst"⟩, ⟨"op0/", "0.sst"⟩], []]⟩, [.blob "w1"],
          [[.blob "new-t0", .blob "old-t0"], []]⟩ := by decide +kernel
example : (createSavepoint { pending := some ⟨4, false, 2, [], none⟩, ckptId := 4 } 2).2 = .sp 4 false := by decide +kernel
example : (createSavepoint { pending := none, ckptId := 4 } 2).2 = .sp 5 true := by decide +kernel

/-! ## D26 (repaired): the former lister takes the document's last entry

With `Lister.last` (the code before the repair) the creation above also reports success, but it copied the files
of checkpoint 2; restoring restores those, and opening the savepoint's checkpoint 1 finds its WAL missing. -/
theorem d26_last_entry_artifact_incomplete :
    (createArtifact .last demoFS demoJob demoSnap).2 = true ∧
    (loadFromSavepoint .last (wipe (createArtifact .last demoFS demoJob demoSnap).1) 1).2 = some demoSnap ∧
    openDB (loadFromSavepoint .last (wipe (createArtifact .last demoFS demoJob demoSnap).1) 1).1 demoOp0 = none ∧
    (openDB demoFS demoOp0).isSome = true := by decide +kernel

/-! ## why the place must keep the file's own directory

A layout that puts every file of an operator checkpoint under the directory of the operator's document, by base
name only (`artPathFlat`), is not injective, and the copy loops of creation and restore run over it report success
while the restored storage holds the wrong table: both `0.sst` get the content of the one copied last. -/
theorem flat_layout_not_injective :
    artPathFlat 1 "op0b/" ⟨"op0b/", "0.sst"⟩ = artPathFlat 1 "op0b/" ⟨"op0/", "0.sst"⟩ ∧
    (⟨"op0b/", "0.sst"⟩ : URI) ≠ ⟨"op0/", "0.sst"⟩ := by decide +kernel

def demoOp0Files : List URI :=
  [⟨"op0b/", "1.wal"⟩, ⟨"op0b/", "0.sst"⟩, ⟨"op0/", "0.sst"⟩, ⟨"op0b/", "checkpoints"⟩]

theorem flat_layout_restores_wrong_table :
    let created := copyAll .work (artPathFlat 1 "op0b/") demoFS demoOp0Files
    let restored := copyAll (artPathFlat 1 "op0b/") .work (wipe created.1) demoOp0Files
    created.2 = true ∧ restored.2 = true ∧
    (openDB restored.1 demoOp0).map (·.levels) = some [[.blob "old-t0", .blob "old-t0"], []] ∧
    (openDB demoFS demoOp0).map (·.levels) = some [[.blob "new-t0", .blob "old-t0"], []] := by decide +kernel

end Rxn.C14
