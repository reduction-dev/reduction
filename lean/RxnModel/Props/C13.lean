import RxnModel.Generated.Facts
import RxnModel.Proofs.Publish
/-!
# C13 — restart resumes from the newest completed checkpoint; retention keeps it

Property theorems only. Model: `Model/Publish.lean` (file names, `LoadCheckpoint`, the asynchronous steps of
`finishSnapshotAsync`, crash/restart), on top of `Model/Store.lean`. The model describes the code after the
repairs D13 (out-of-order publications), D14 (load the highest id instead of the first listed file), D54 (a single
announcer goroutine) and D60 (atomic `LocalDirectory.Write`);
the witnesses of the old behaviour are kept below as regression facts about the old rules.
`run (init files0) as` ranges over every starting storage content and every interleaving of store calls,
writes, lock sections, removals, notification deliveries and crashes.
-/
namespace Rxn.C13
open Rxn Rxn.Publish

/-- the regenerated shape of `pathSegment` is the one the model encodes -/
theorem segment_shape :
    Facts.segComplementOf = 2 ^ 64 - 1 ∧ Facts.segWidth = 8 ∧ Facts.segBigEndian = 1 ∧
    Facts.segURLAlphabet = 1 ∧ Facts.segPadded = 0 := by decide

/-- file names identify their checkpoint: decoding the name of checkpoint `id` gives `id` (all 64-bit ids) -/
theorem name_roundtrip (id : Nat) (h : id < 2 ^ 64) : decodeName (snapName id) = some id := by
  have hc : complBase = 2 ^ 64 - 1 := segment_shape.1
  exact decode_snapName (by rw [hc]; omega)

/-- a listing of snapshot files (any order) decodes to the ids it was written for -/
theorem listing_decodes (ids : List Nat) (h : ∀ id ∈ ids, id < 2 ^ 64) :
    (ids.map snapName).filterMap decodeName = ids := by
  induction ids with
  | nil => rfl
  | cons a t ih =>
    have ha := name_roundtrip a (h a List.mem_cons_self)
    have ht := ih (fun x hx => h x (List.mem_cons_of_mem _ hx))
    simp only [List.map_cons, List.filterMap_cons, ha, ht]

/-- `LoadCheckpoint` picks the highest id among the snapshot files, whatever the listing order -/
theorem load_picks_max (ids : List Nat) :
    (load ids = none ↔ ids = []) ∧ ∀ id, load ids = some id → id ∈ ids ∧ ∀ f ∈ ids, f ≤ id := by
  rw [load_eq]
  by_cases h : ids = []
  · simp [h]
  · simp only [h, if_false, Option.some.injEq]
    refine ⟨by simp, ?_⟩
    intro id hid; subst hid
    exact ⟨maxL_mem h, fun f hf => le_maxL hf⟩

/-- the same on the level of file names, for a listing of snapshot files in any order -/
theorem load_from_listing (ids : List Nat) (h : ∀ id ∈ ids, id < 2 ^ 64) (id : Nat)
    (hl : loadNames (ids.map snapName) = some id) : id ∈ ids ∧ ∀ f ∈ ids, f ≤ id := by
  unfold loadNames at hl
  rw [listing_decodes ids h] at hl
  exact (load_picks_max ids).2 id hl

/-- D14 (repaired): base64url names are not ordered by id, so the old rule "first listed `.snapshot` file"
resumed from checkpoint 2 although checkpoint 3 was complete; the loop of the repaired code picks 3. -/
theorem firstListed_counterexample : loadFirstListed [2, 3] = some 2 ∧ loadNames ([2, 3].map snapName) = some 3 := by
  decide

/-- Retention never removes the newest persisted checkpoint: in every reachable state its file is in
storage and no started `Remove` names it; the current checkpoint is persisted and is the highest completed one
(`completedSnapshots`). -/
theorem retention_safe (files0 : List Nat) (as : List Act) (s : Sys) (obs : List Obs)
    (h : run (init files0) as = some (s, obs)) :
    (s.pub.written ≠ [] → maxL s.pub.written ∈ s.pub.files) ∧
    (∀ R ∈ s.pub.removes, maxL s.pub.written ∉ R) ∧
    (∀ cur, s.pub.current = some cur → cur ∈ s.pub.written ∧ ∀ c ∈ s.pub.completed, c ≤ cur) := by
  have hi := reachable_inv h
  exact ⟨hi.core.newest, hi.core.not_removed,
    fun cur hc => ⟨hi.compWr cur (List.mem_of_getLast? hc), hi.curMax cur hc⟩⟩

/-- The storage part of `retention_safe` for BOTH job configurations (started without a savepoint URI, or configured
with the savepoint of checkpoint `k`, which re-enters the savepoint path at every crash): the newest persisted snapshot
file is present and no started `Remove` names it; every persisted id is at most the id counter. Only which checkpoint is
*current* after a restart differs for savepoint-configured jobs (D64). -/
theorem newest_file_kept_any_config (s0 : Sys)
    (h0 : (∃ files0, s0 = init files0) ∨ (∃ k files0, s0 = initSavepoint k files0))
    (as : List Act) (s : Sys) (obs : List Obs) (h : run s0 as = some (s, obs)) :
    (s.pub.written ≠ [] → maxL s.pub.written ∈ s.pub.files) ∧
    (∀ R ∈ s.pub.removes, maxL s.pub.written ∉ R) ∧
    (∀ w ∈ s.pub.written, w ≤ s.store.cid) := by
  have hi := reachable_core h0 h
  exact ⟨hi.newest, hi.not_removed, hi.wrCid⟩

/-- A retained-ids notification names exactly the checkpoint that becomes current, and that checkpoint is
newer than every completed checkpoint the store held (`completedSnapshots` before the lock section): an older
checkpoint is never named as the only one to keep. -/
theorem notify_names_newest (s s' : Sys) (n : Nat) (obsolete : List Nat)
    (h : step s (.lock n) = some (s', [.locked n obsolete true])) :
    s'.pub.current = some n ∧ (∀ c ∈ s.pub.completed, c < n) ∧
    s'.pub.notifs = s.pub.notifs ++ [[n]] ∧ (∀ k ∈ obsolete, k < n) := by
  obtain ⟨_, rfl, hobs⟩ := step_lock h
  obtain ⟨rfl, hd⟩ : obsolete = (lockUpdate s.pub n).2.1 ∧ true = (lockUpdate s.pub n).2.2 := by simpa using hobs
  have hall := lockUpdate_notify_lt hd.symm
  -- nothing completed is as new as `n`, so `n` is alone in `completed`
  have hnewer : s.pub.completed.filter (fun c => ¬ c < n) = [] :=
    List.filter_eq_nil_iff.mpr (fun c hc => by simpa using hall c hc)
  refine ⟨?_, hall, ?_, fun k hk => by simpa using (List.mem_filter.mp hk).2⟩
  · rw [Pub.current, lockUpdate_completed, hnewer]; rfl
  · rw [lockUpdate_notifs, ← hd]; rfl

/-- D13 (repaired): with the old lock section, checkpoint 2 finishing after checkpoint 3 made 2 the current
checkpoint, scheduled the file of 3 for removal and announced `[2]`; the repaired section keeps 3. -/
theorem oldLock_counterexample :
    let p0 : Pub := { files := [2, 3], completed := [3], inflight := [(2, true)], removes := [], notifs := [],
                      written := [2, 3, 1], delivered := [3] }
    ((lockUpdateOld p0 2).1.current = some 2 ∧ (lockUpdateOld p0 2).1.removes = [[3]] ∧
      (lockUpdateOld p0 2).1.notifs = [[2]]) ∧
    ((lockUpdate p0 2).1.current = some 3 ∧ (lockUpdate p0 2).1.removes = [] ∧ (lockUpdate p0 2).1.notifs = []) := by
  decide

/-- The retained-ids notifications the job receives name strictly increasing ids (across restarts as well):
"telling operators what to retain never names an older one as the only one to keep". Holds because the
notifications are queued under the lock and sent by the single `announceRetained` goroutine (D54 repair;
`announcer_shape`). -/
theorem notifications_increase (files0 : List Nat) (as : List Act) (s : Sys) (obs : List Obs)
    (h : run (init files0) as = some (s, obs)) : s.pub.delivered.Pairwise (· < ·) := by
  have hi := reachable_inv h
  exact (List.pairwise_append.mp (hi.notifSorted hi.fifoTrue)).1

/-- the notifications are decided in strictly increasing order, and every id ever announced or queued is a
persisted checkpoint not newer than the current one -/
theorem notifications_sound (files0 : List Nat) (as : List Act) (s : Sys) (obs : List Obs)
    (h : run (init files0) as = some (s, obs)) :
    s.pub.notifs.flatten.Pairwise (· < ·) ∧
    ∀ k ∈ s.pub.delivered ++ s.pub.notifs.flatten, k ∈ s.pub.written ∧ ∃ c ∈ s.pub.completed, k ≤ c := by
  have hi := reachable_inv h
  exact ⟨hi.queueSorted, fun k hk => ⟨hi.notifWr k hk, hi.notifLe k hk⟩⟩

/-- the regenerated shape of the announcer in `store.go`: the channel send happens only in `announceRetained`, the queue is
appended to only inside the `stateMu` section of `finishSnapshotAsync`, the goroutine is started only there and
only when none is running, and `announceRetained` dequeues under the lock -/
theorem announcer_shape : Facts.c13SingleAnnouncer = 1 := by decide

/-- D54 (repaired): with the old rule — a goroutine per notification, any started one may get its send through
(`deliverAt s k`) — checkpoints 2 and 3 published in order could be announced as `[3]` then `[2]`: after 3 was
announced the operators were told to keep only checkpoint 2. The single announcer delivers `[2]` then `[3]`. -/
theorem notifications_reordered_counterexample :
    let pre : List Act :=
      [.call (.create [1] [1]), .call (.opAck 1 1 0), .call (.srAck 1 1 []), .write 1, .lock 1,
       .call (.create [1] [1]), .call (.opAck 1 2 0), .call (.srAck 1 2 []), .write 2, .lock 2,
       .call (.create [1] [1]), .call (.opAck 1 3 0), .call (.srAck 1 3 []), .write 3, .lock 3]
    (((run (init []) pre).bind (fun r => deliverAt r.1 1)).bind (fun r => deliverAt r.1 0)).map
        (fun r => r.1.pub.delivered) = some [3, 2] ∧
    (run (init []) (pre ++ [.deliver, .deliver])).map (fun r => r.1.pub.delivered) = some [2, 3] := by decide

/-- the leftover of a crash inside `LocalDirectory.Write` (D60 repair: temporary file + rename) is not a
snapshot file: its name starts with `.`, so `checkpointIDFromFilePath` rejects it whatever follows -/
theorem tmp_name_ignored (id : Nat) (suffix : Bytes) : decodeName (tmpName id suffix) = none := by
  have h : stripPrefix (tmpName id suffix) namePrefix = none :=
    (stripPrefix_cons 46 _ 106 _).trans (if_neg (by decide))
  unfold decodeName
  rw [h]

/-- D60 (repaired): with the old `Write` (final name created first, content copied afterwards) a crash in the
middle of the write of checkpoint 2 left its cut-off file as the newest snapshot file and `LoadCheckpoint` failed on
it, although checkpoint 1 was complete; with the atomic write the storage holds only checkpoint 1 and it is loaded. -/
theorem truncatedNewest_counterexample :
    loadOldWrite [(1, true), (2, false)] = none ∧ load [1] = some 1 := by decide

/- FULL STATEMENT (false on the code, D64): "whenever the job (re)starts it recovers from the completed checkpoint
with the highest id present in its storage" — for every job. `crash_recovers_newest_partial` and
`current_never_regresses_partial` prove it for jobs configured WITHOUT a savepoint URI (`init`; `Sys.savepoint = none`
is an invariant of such runs). A job configured with a savepoint URI keeps the URI, and every restart takes the
savepoint path of `LoadCheckpoint` again: -/
/-- D64 (open): the job is started from the savepoint of checkpoint 1, publishes checkpoints 2 and 3, and crashes:
the restart loads savepoint 1 again although the complete checkpoint 3 is in its storage (all progress since the
savepoint is discarded; the id counter continues after 3). The code's own comment calls the override provisional. -/
theorem savepoint_restart_goes_back_counterexample :
    (run (initSavepoint 1 [1])
      [.call (.create [1] [1]), .call (.opAck 1 2 0), .call (.srAck 1 2 []), .write 2, .lock 2,
       .call (.create [1] [1]), .call (.opAck 1 3 0), .call (.srAck 1 3 []), .write 3, .lock 3, .remove [1], .remove [2],
       .crash]).map (fun r => (r.1.pub.files, r.1.pub.current, r.1.store.cid, r.2.getLast?.map (fun o => match o with | .loaded x => x | _ => none)))
    = some ([3], some 1, 3, some (some 1)) ∧ load [3] = some 3 := by decide

/-- the current checkpoint never goes back, whatever step comes next (late publications, crash) -/
theorem current_never_regresses_partial (files0 : List Nat) (as : List Act) (s : Sys) (obs : List Obs)
    (h : run (init files0) as = some (s, obs)) (a : Act) (s' : Sys) (obs' : List Obs)
    (hs : step s a = some (s', obs')) (cur : Nat) (hc : s.pub.current = some cur) :
    ∃ cur', s'.pub.current = some cur' ∧ cur ≤ cur' :=
  (reachable_inv h).current_le hs hc

/-- A crash after any step recovers the newest checkpoint whose write completed: `LoadCheckpoint` on what is
in storage returns the highest id ever persisted, it becomes the current checkpoint and the id counter. -/
theorem crash_recovers_newest_partial (files0 : List Nat) (as : List Act) (s : Sys) (obs : List Obs)
    (h : run (init files0) as = some (s, obs)) :
    ∃ s', step s .crash = some (s', [.loaded (if s.pub.written = [] then none else some (maxL s.pub.written))]) ∧
      s'.pub.current = (if s.pub.written = [] then none else some (maxL s.pub.written)) ∧
      s'.store.cid = maxL s.pub.written ∧ s'.store.pending = none ∧ s'.pub.files = s.pub.files :=
  (reachable_inv h).core.crash_loads_newest (reachable_inv h).noSp

/-! ## non-vacuity: overlapping publications 2 and 3 (3 finishes first), late 2, cleanup, crash -/

def demo : List Act :=
  [.call (.create [1] [1]), .call (.opAck 1 1 0), .call (.srAck 1 1 [5]), .write 1, .lock 1,
   .call (.create [1] [1]), .call (.opAck 1 2 0), .call (.srAck 1 2 [5]),
   .call (.create [1] [1]), .call (.opAck 1 3 0), .call (.srAck 1 3 [5]),
   .write 3, .lock 3, .write 2, .lock 2, .remove [1], .deliver, .crash]

example : (run (init []) demo).map (fun r => (r.1.pub.files, r.1.pub.completed, r.1.pub.delivered, r.1.store.cid))
    = some ([2, 3], [3], [3], 3) := by decide

example : (run (init [7, 2 ^ 64 - 1]) [.crash]).map (fun r => r.1.pub.completed) = some [2 ^ 64 - 1] := by decide

end Rxn.C13
