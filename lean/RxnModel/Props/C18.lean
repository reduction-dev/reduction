import RxnModel.Proofs.CompactionLsm
import RxnModel.Proofs.CompactionWriteRun
import RxnModel.Generated.Facts
/-!
# C18 — compaction never changes what the database contains

Model: `Model/Compaction.lean` on top of `Model/Lsm.lean` (C07); `Lsm.safeCS` is the executable test `Lsm.step (.compact ..)`
uses as the enabling condition of a compaction commit. The views compared are `levelsGet` = `LevelList.Get` and `scanView` =
`LevelList.ScanPrefixWithTombstones`: delete markers are kept, so equal scans also say that no deleted or overwritten value
comes back.
-/
namespace Rxn.C18
open Rxn Rxn.Lsm Rxn.Compaction

/-- **A safe change set changes nothing a reader can see and keeps the layout valid**: every point lookup returns the
same entry (value or delete marker, same sequence number), every prefix scan returns the same run, and the new
level list is again sorted, non-overlapping below level 0 and newer-above for every key. `n` is the id handed to
the first new table. -/
theorem safe_preserves_view (L : Levels) (rm : List Nat) (lvl : Nat) (add : List Run) (n : Nat)
    (hv : LayoutValid L) (hs : SafeCS L rm lvl add) :
    (∀ k, levelsGet (applyCS L n ⟨rm, lvl, add⟩) k = levelsGet L k) ∧
    (∀ p, scanView (applyCS L n ⟨rm, lvl, add⟩) p = scanView L p) ∧
    LayoutValid (applyCS L n ⟨rm, lvl, add⟩) :=
  safe_preserves n hv hs

/-- **The executable test used by the DKV transition system lies in the safe family**: a change set that passes
`Lsm.safeCS` either removes and adds nothing or is a member of `SafeCS`. -/
theorem safeCS_in_family (L : Levels) (rm : List Nat) (lvl : Nat) (add : List Run)
    (hv : LayoutValid L) (h : safeCS L rm lvl add = true) :
    ((∀ t ∈ L.flatten, rmP rm t = false) ∧ add = []) ∨ SafeCS L rm lvl add :=
  safeCS_sound (weakValid_of_layoutValid hv) h

/-- **The compaction step of the DKV refinement (C07)**: every compaction commit enabled in `Lsm.step` keeps the
refinement invariant `Lsm.Inv` (reads from memtables and tables return the last write, for `Get` and through
`LsmScan.scan_spec` for `ScanPrefix`). This discharges the hypothesis `CompactionSound` of the C07 theorems. -/
theorem compaction_sound : CompactionSound := compactionSound

/-- **Every change set the compactor produces is safe.** For every compactor cursor, every answer to every size
comparison (`Oracle`: level-0 trigger, size amplification above the limit, goal met after each candidate, level
over its size limit) and every way `WriteRun` cuts the merged run: a change set returned by `compact` on a valid
layout with pairwise distinct table ids and at least two levels, whose level-0 tables **that share a key** are
age-ordered in insertion order, is a member of the safe family. The age hypothesis holds for level lists built by
flushes (`flush_built_level0`) and for level lists loaded from several checkpoints (`composite_level0`). -/
theorem compact_is_safe (c : Compactor) (L : Levels) (o : Oracle) (cs : ChangeSet) (c' : Compactor)
    (hv : LayoutValid L) (hid : (L.flatten.map (·.id)).Nodup) (hage : L0KeyAgeOrdered L) (hlen : 2 ≤ L.length)
    (h : compact c L o = (some cs, c')) : SafeCS L cs.rm cs.lvl cs.add :=
  compactWith_safe sortByAge orderOK_sortByAge (weakValid_of_layoutValid hv) hid hage hlen h

/-- **Whatever order the unstable sort gives to tables of equal age**: `slices.SortedFunc(level.AllTables(),
OrderOldToNew)` is stable only up to 12 tables; ages can tie across checkpoint sources. For every arrangement `order`
of the levels that is a permutation with non-decreasing ages (`OrderOK`), the change set `Compact` produces with that
arrangement is in the safe family. (`compact` is `compactWith sortByAge`, the stable arrangement.) -/
theorem compact_is_safe_any_tie_order (order : List Tbl → List Tbl) (ho : OrderOK order)
    (c : Compactor) (L : Levels) (o : Oracle) (cs : ChangeSet) (c' : Compactor)
    (hv : LayoutValid L) (hid : (L.flatten.map (·.id)).Nodup) (hage : L0KeyAgeOrdered L) (hlen : 2 ≤ L.length)
    (h : compactWith order c L o = (some cs, c')) : SafeCS L cs.rm cs.lvl cs.add :=
  compactWith_safe order ho (weakValid_of_layoutValid hv) hid hage hlen h

/-- level 0 built by flushes: ages increase in insertion order, so level-0 tables sharing a key are age-ordered (the
form every flush keeps, `compaction_with_flushes_invariant`) -/
theorem flush_built_level0 (L : Levels) (h : L0AgeOrdered L) : L0KeyAgeOrdered L := keyAge_of_lt h

/-- **level 0 of a composite checkpoint** (`recovery.LoadCheckpointList` appends the handles' level-0 lists in handle
order, C06 `merged_level0_keeps_age_order`): when every source's own list is age-ordered and tables of different
sources share no key (sources own disjoint key groups), the appended level 0 meets the hypothesis of
`compact_is_safe` — whatever the handle order and however the sequence numbers of different sources compare.
So a table the age-ordered partial pick of `majorCompaction` takes is never newer, in its source's own order, than a
table it leaves behind that shares a key with it. -/
theorem composite_level0 (srcs : List (List Tbl)) (deeper : List (List Tbl))
    (hsrc : ∀ s ∈ srcs, s.Pairwise (fun a b => age a < age b))
    (hdis : srcs.Pairwise (fun s1 s2 => ∀ a ∈ s1, ∀ b ∈ s2, DisjointKeys a.run b.run)) :
    L0KeyAgeOrdered (srcs.flatten :: deeper) := by
  show (srcs.flatten).Pairwise (fun a b => ¬ DisjointKeys a.run b.run → age a < age b)
  rw [List.pairwise_flatten]
  refine ⟨fun s hs => keyAge_of_lt (hsrc s hs), hdis.imp ?_⟩
  intro s1 s2 h12 a ha b hb hnd
  exact absurd (h12 a ha b hb) hnd

/-- **With the real `WriteRun`** (C17's `Sst.writeRun`, byte-exact against `TableWriter.WriteRun`) cutting the merged
run at any positive target size instead of an assumed chunking: the change set is in the safe family, so every
`Get` and scan are unchanged and the layout stays valid; and the new level, seen through C17's hand-off lemmas, is
made of sorted runs with pairwise exclusive key ranges. -/
theorem compact_with_real_writeRun (c : Compactor) (L : Levels) (o : Oracle) (cs : ChangeSet) (c' : Compactor)
    (target n : Nat) (ht : 0 < target)
    (hv : LayoutValid L) (hid : (L.flatten.map (·.id)).Nodup) (hage : L0KeyAgeOrdered L) (hlen : 2 ≤ L.length)
    (h : compact c L o = (some cs, c')) :
    SafeCS L cs.rm cs.lvl (writeRunL target cs.add.flatten) ∧
    (∀ k, levelsGet (applyCS L n ⟨cs.rm, cs.lvl, writeRunL target cs.add.flatten⟩) k = levelsGet L k) ∧
    (∀ p, scanView (applyCS L n ⟨cs.rm, cs.lvl, writeRunL target cs.add.flatten⟩) p = scanView L p) ∧
    LayoutValid (applyCS L n ⟨cs.rm, cs.lvl, writeRunL target cs.add.flatten⟩) ∧
    (∀ t ∈ mkTables n (writeRunL target cs.add.flatten), Run.Sorted t.run) ∧
    RangeUnique (mkTables n (writeRunL target cs.add.flatten)) :=
  safe_with_real_writeRun target n ht hv (compact_is_safe c L o cs c' hv hid hage hlen h)

/-- **A safe change set composes with flushes that arrive between its computation and its application**: with new
level-0 tables `ts` (their ids are not among the removed ids) the change set is still safe, and applying it after
the flush gives the same level list as applying the flush after it. -/
theorem safe_commutes_with_flush (L : Levels) (cs : ChangeSet) (n : Nat) (ts : List Tbl)
    (hs : SafeCS L cs.rm cs.lvl cs.add) (hfresh : ∀ t ∈ ts, rmP cs.rm t = false) :
    SafeCS (applyFlush L ts) cs.rm cs.lvl cs.add ∧
    applyCS (applyFlush L ts) n cs = applyFlush (applyCS L n cs) ts :=
  ⟨safe_after_flush hs hfresh, flush_commute L cs n ts hs.lvl_pos hfresh⟩

/-- **Compaction next to flushes, for every history**: starting from a state that satisfies the invariant (valid
layout, distinct ids below the id counter, level-0 tables sharing a key age-ordered, at least two levels, a pending
change set is safe), after any sequence of `compactBegin` (with arbitrary oracle answers), `compactCommit` and well-formed
`flush` actions the invariant holds again; in particular the layout is valid and whatever change set is pending is
safe for the level list as it is now. -/
theorem compaction_with_flushes_invariant (s s' : Sys) (as : List Compaction.Act) (hi : SysInv s) (hr : Reach s as s') :
    SysInv s' := reach_inv hr hi

/-- **Repeated compaction to any point never changes the view**: along any history of `compactBegin`/`compactCommit`
steps with arbitrary oracle answers every `Get` and every scan stay what they were and the layout stays valid. -/
theorem compact_fixpoint (s s' : Sys) (as : List Compaction.Act) (hi : SysInv s) (hr : Reach s as s')
    (hnf : ∀ a ∈ as, a.isFlush = false) :
    (∀ k, levelsGet s'.L k = levelsGet s.L k) ∧ (∀ p, scanView s'.L p = scanView s.L p) ∧ LayoutValid s'.L :=
  ⟨(reach_view hr hi hnf).1, (reach_view hr hi hnf).2, (reach_inv hr hi).valid⟩

/-! ## The compactor inside the DKV transition system of C07 (`DB` over `Lsm.step`, `Lsm.runBoth`)

Nothing about flushes or level-0 ages is assumed: it is derived from `Lsm.step`. The only side condition is `OracleSane` for
`compactBegin` (level-0 trigger ≥ 1, thresholds ≥ 0: a pick is never empty). -/

/-- **Every pick passes the guard**: a change set the modelled `Compact` produces on a valid layout is accepted by
`Lsm.safeCS`, the enabling condition of the DKV system's compaction commit. Together with `compaction_sound` this
makes "every compaction the code can choose preserves the contents" a theorem about the C07 system. -/
theorem pick_is_safe (c : Compactor) (L : Levels) (o : Oracle) (cs : ChangeSet) (c' : Compactor)
    (hv : LayoutValid L) (hid : (L.flatten.map (·.id)).Nodup) (hage : L0KeyAgeOrdered L) (hlen : 2 ≤ L.length)
    (hs : OracleSane c L o) (h : compact c L o = (some cs, c')) : safeCS L cs.rm cs.lvl cs.add = true :=
  compactWith_passes sortByAge orderOK_sortByAge (weakValid_of_layoutValid hv) hid hage hlen hs h

/-- … and for every arrangement of equal ages by the unstable sort (`OrderOK order`) -/
theorem pick_is_safe_any_tie_order (order : List Tbl → List Tbl) (ho : OrderOK order)
    (c : Compactor) (L : Levels) (o : Oracle) (cs : ChangeSet) (c' : Compactor)
    (hv : LayoutValid L) (hid : (L.flatten.map (·.id)).Nodup) (hage : L0KeyAgeOrdered L) (hlen : 2 ≤ L.length)
    (hs : OracleSane c L o) (h : compactWith order c L o = (some cs, c')) : safeCS L cs.rm cs.lvl cs.add = true :=
  compactWith_passes order ho (weakValid_of_layoutValid hv) hid hage hlen hs h

/-- **The invariant of the DKV system with its compaction task, from any state that has it**: `DInv` (C07's `Lsm.Inv`
and `ReadInv`, distinct table ids below the counter, at least two levels, `ChronSep`, deeper levels in key order, a
pending change set of the picker's shape) is kept along every history, and in every state it reaches the level list
is `LayoutValid` and level-0 tables sharing a key are age-ordered. -/
theorem db_invariant_from_any_state (d0 : DB) (m0 : Spec) (hi0 : DInv d0 m0) (as : List DAct) (d : DB) (m : Spec)
    (hok : d0.runOK as) (h : d0.run m0 as = some (d, m)) :
    DInv d m ∧ L0KeyAgeOrdered d.s.levels ∧ LayoutValid d.s.levels :=
  have hi := db_run_inv as d0 m0 d m hi0 hok h
  ⟨hi, hi.chron.1, layoutValid_of_dinv hi⟩

/-- **… in particular in the reachable states**: after any history from the empty database
(puts, deletes, rotations, flush begins and commits, two-phase reads, `Compact` calls with sane answers, compaction
commits) the refinement invariant of C07 holds, table ids are distinct and below the counter, there are at least two
levels, sequence numbers separate level-0 tables and memtables in time (hence level-0 tables sharing a key are
age-ordered: the hypothesis of `compact_is_safe` is *derived*), and a pending change set has the structural shape
of a pick for the level list **as it is now**. -/
theorem db_reachable_invariant (as : List DAct) (d : DB) (m : Spec)
    (hok : ({} : DB).runOK as) (h : ({} : DB).run [] as = some (d, m)) :
    DInv d m ∧ L0KeyAgeOrdered d.s.levels ∧ LayoutValid d.s.levels :=
  db_invariant_from_any_state {} [] dinv_init as d m hok h

/-- **What a restored instance must provide** (composition with C06): C06's `restored_instance_inv_partial` gives
`Lsm.Inv s m` and `ReadInv s m` for the state `openDB` builds from several checkpoints. With, in addition, table ids
pairwise distinct and below the counter (`LoadCheckpointList` creates one table object per document entry), at least
two levels, level-0 tables sharing a key age-ordered (`composite_level0`: per-source age order, disjoint keys), the
memtables separated in time and numbered above every level-0 entry (C06 `seq_above_loaded`: the instance continues
above the largest loaded sequence number and the WAL is replayed through `Put`/`Delete`), and the deeper levels in
key order (C06 `merged_levels_valid`), a state satisfies `DInv` with any compactor cursor and nothing pending — so
`db_invariant_from_any_state`, `real_compaction_commit_from` and `pick_is_safe` apply to it and the real picker's change
sets pass the guard there too (C06's `restored_history_refines_partial` need not assume it). The statement speaks of any
state `s` (it is the constructor of `DInv`; no `openDB` occurs in it): the instantiation at the restored state is C06's
`restored_start_has_c18_invariant_partial`. -/
theorem restored_start_has_invariant (s : Lsm.State) (m : Spec) (c : Compactor)
    (hinv : Inv s m) (hr : ReadInv s m) (hids : IdsFresh s.levels s.nextId) (hlen : 2 ≤ s.levels.length)
    (hage : L0KeyAgeOrdered s.levels)
    (hmems : s.mems.Pairwise (fun older newer => ∀ e ∈ older, ∀ e' ∈ newer, e.seq < e'.seq))
    (habove : ∀ t ∈ s.levels.headD [], ∀ r ∈ s.mems, ∀ e ∈ t.run, ∀ e' ∈ r, e.seq < e'.seq)
    (hord : DeepOrdered s) : DInv { s := s, c := c, pending := none } m :=
  ⟨hinv, hr, hids, hlen, ⟨hage, hmems, habove⟩, hord, fun cs h => by cases h⟩

/-- **Live tables never share a number**: in every reachable state of the DKV system with its compaction task —
flush commits and compaction commits interleaved in any way, a flush committing between the computation and the
commit of a change set included — the ids of the tables in the level list are pairwise distinct and below the
counter the next table will get. (The code hands out the file number of a table atomically in
`TableWriter.Write`, shared by the flush and the compaction task; the correspondence drives a flush's write into
the compaction's write window and compares the live tables' files, op `chk`.) -/
theorem live_table_ids_distinct (as : List DAct) (d : DB) (m : Spec)
    (hok : ({} : DB).runOK as) (h : ({} : DB).run [] as = some (d, m)) :
    (d.s.levels.flatten.map (·.id)).Nodup ∧ ∀ t ∈ d.s.levels.flatten, t.id < d.s.nextId :=
  (db_reachable_invariant as d m hok h).1.ids

/-- **Every compaction the code can choose is admitted and changes no answer**: in every reachable state a pending
change set — computed by `Compact` at some earlier moment, with any flush commits and writes in between — passes
the guard, so the commit step exists, and after it every `Get` and every `ScanPrefix` answer what they answered
before (and what the map of all writes says). -/
theorem real_compaction_commit_from (d0 : DB) (m0 : Spec) (hi0 : DInv d0 m0) (as : List DAct) (d : DB) (m : Spec)
    (cs : ChangeSet) (hok : d0.runOK as) (h : d0.run m0 as = some (d, m)) (hp : d.pending = some cs) :
    safeCS d.s.levels cs.rm cs.lvl cs.add = true ∧
    ∃ d', d.step .compactCommit = some d' ∧
      (∀ k, get d'.s k = get d.s k) ∧ (∀ p, scan d'.s p = scan d.s p) ∧ (∀ k, get d'.s k = Spec.get m k) :=
  pending_commit (db_run_inv as d0 m0 d m hi0 hok h) hp

/-- the same from the empty database -/
theorem real_compaction_commit (as : List DAct) (d : DB) (m : Spec) (cs : ChangeSet)
    (hok : ({} : DB).runOK as) (h : ({} : DB).run [] as = some (d, m)) (hp : d.pending = some cs) :
    safeCS d.s.levels cs.rm cs.lvl cs.add = true ∧
    ∃ d', d.step .compactCommit = some d' ∧
      (∀ k, get d'.s k = get d.s k) ∧ (∀ p, scan d'.s p = scan d.s p) ∧ (∀ k, get d'.s k = Spec.get m k) :=
  real_compaction_commit_from {} [] dinv_init as d m cs hok h hp

/-- **A failed compaction changes nothing, in the model**: the step `compactFail` (a `Compact` call that would have
produced a change set and fails: a table write or a table scan returns an error) is defined to leave the DKV state — level
list, memtables, id counter — exactly what it was, and it is enabled only with no change set pending and leaves none, so
no table written before the failure is referenced by any level (that the code's failing `Compact` behaves like this step
is observed by the correspondence only: ops `compactfail`, `compactreadfail`, `bg crf`); only the
compactor's cursor may have moved, and every later `Compact` from that cursor is covered by `compact_is_safe`
(which holds for every cursor). Such steps are part of the histories of `db_reachable_invariant`. -/
theorem failed_compaction_changes_nothing (d d' : DB) (o : Oracle) (h : d.step (.compactFail o) = some d') :
    d'.s = d.s ∧ d'.pending = none ∧ d.pending = none := by
  obtain ⟨hp, rfl⟩ := db_step_compactFail h
  exact ⟨rfl, hp, hp⟩

/-- **The view of a history is the view of the same history without its compactions** (DKV system of C07, any
compaction commits that pass the guard): erasing every compaction commit from a history from the empty database
gives again a history, with the same map of writes, the same `Get` for every key and the same `ScanPrefix` for
every prefix. -/
theorem view_is_view_without_compactions (as : List Lsm.Act) (s : Lsm.State) (m : Spec)
    (h : runBoth {} [] as = some (s, m)) :
    ∃ s0, runBoth {} [] (dropCompactions as) = some (s0, m) ∧
      (∀ k, get s k = get s0 k) ∧ (∀ p, scan s p = scan s0 p) :=
  view_without_compactions_from inv_init readInv_init as s m h

/-- **… also for the reads as the code performs them**: with the table selection of `LevelList.tablesForKey`
(`SearchUnique` over `RangeKeyCompare`) and `AllTablesForPrefix` (level-0 filter by `RangeContainsPrefix`,
`BinarySearchFunc` over `RangePrefixCompare`, forward walk) — `Rescale.getR`, `Rescale.scanR`, the definitions the C07
driver executes — erasing the compaction commits changes no `Get` and no `ScanPrefix`. So "compaction preserves
scans" holds for the code's choice of tables, not only for the merge of all tables. -/
theorem view_is_view_without_compactions_code (as : List Lsm.Act) (s : Lsm.State) (m : Spec)
    (h : runBoth {} [] as = some (s, m)) :
    ∃ s0, runBoth {} [] (dropCompactions as) = some (s0, m) ∧
      (∀ k, Rescale.getR s k = Rescale.getR s0 k) ∧ (∀ p, Rescale.scanR s p = Rescale.scanR s0 p) :=
  view_without_compactions_code as s m h

/-- the same for the system with the real compaction task: whatever the task did (any `Compact` calls, any commit
points between the foreground actions), the database answers like the one that only ran the foreground actions -/
theorem db_view_is_foreground_view (as : List DAct) (d : DB) (m : Spec) (h : ({} : DB).run [] as = some (d, m)) :
    ∃ s0, runBoth {} [] (foreground as) = some (s0, m) ∧
      (∀ k, get d.s k = get s0 k) ∧ (∀ p, scan d.s p = scan s0 p) :=
  db_foreground_view_from inv_init readInv_init as d m h

/-- a single step that is not a flush (computing or committing a change set), from any state with the invariant,
leaves every `Get` and every scan unchanged -/
theorem compaction_step_keeps_view (s s' : Sys) (a : Compaction.Act) (hi : SysInv s) (h : s.step a = some s')
    (hnf : a.isFlush = false) :
    (∀ k, levelsGet s'.L k = levelsGet s.L k) ∧ (∀ p, scanView s'.L p = scanView s.L p) :=
  sys_step_view hi h hnf

/-- **Facts of the source the model's choices mirror (regenerated on every run)**: `dkv.New` builds a level list
with at least two levels (hypothesis `2 ≤ L.length` of `compact_is_safe`; no definition reads `dkvLevelCount`: the empty
database of Model/Lsm.lean has its six levels literally), the level-0 trigger defaults to at least one table,
`Table.Age()` is the sequence number of the first entry written and `OrderOldToNew` sorts ascending by it (the model's
`age`/`sortByAge`). -/
theorem source_constants :
    2 ≤ Facts.dkvLevelCount ∧ 1 ≤ Facts.dkvDefaultL0Trigger ∧ Facts.c18AgeIsStartSeqNum = 1 ∧
    Facts.c18StartSeqNumIsFirstEntry = 1 ∧ Facts.c18OrderOldToNewAscending = 1 := by decide

/-- **Structure of the code behind the model's atomic steps** (hard structural facts, re-derived from the source on
every run; a change of shape is a broken obligation, there is no correspondence that could observe them):
`bg.AsyncGroup.Enqueue` runs the functions of one queue one at a time (mutex taken before the function is taken from
the queue and called, released when it returns); every `compactor.Compact` call of `dkv/db.go` runs in a function
enqueued on one and the same queue (so at most one `Compact` runs and at most one change set is pending);
`LevelList.NewWithChangeSet` works on a clone of the receiver's levels and `Level`/`Set` operations never write to
their receiver (a level list read by `currentSSTables()` never changes: `compactBegin` computes on a stable value);
`db.sstables` is only ever replaced; both commits (`db.sstables = db.sstables.NewWithChangeSet(cs)` of the flush task and
of the compaction task) are read-modify-writes entirely inside one `db.mu.Lock()`…`Unlock()` section and
`currentSSTables` reads under `RLock` (the model's `flushCommit` and `compactCommit` are atomic steps: no lost update).
The facts about `Compact` calls, `db.sstables` and `db.mu` are read off `dkv/db.go` alone, `Compact` calls recognised by
the receiver text `…compactor`: a call through another name or in another file of package `dkv` is not seen. -/
theorem source_structure :
    Facts.c18QueueSerial = 1 ∧ Facts.c18CompactOneQueue = 1 ∧ Facts.c18LevelListPersistent = 1 ∧
    Facts.c18DbLevelsReplacedOnly = 1 ∧ Facts.c18CommitsUnderDbMu = 1 := by decide

/-! ## The defect D22 (repaired): the picker as it was is outside the family and loses the newest version -/

def kA : Entry := ⟨[0x61], 1, false, [2]⟩
def kOld : Entry := ⟨[0x6b], 5, false, [0x6f]⟩
def kNew : Entry := ⟨[0x6b], 9, false, [0x6e]⟩
def kZ : Entry := ⟨[0x7a], 2, false, [1]⟩

/-- L0 {k@9}, L1 {}, L2 {A: a@1 | B: k@5}, base {z@2} -/
def d22L : Levels := [[⟨3, [kNew]⟩], [], [⟨1, [kA]⟩, ⟨2, [kOld]⟩], [⟨0, [kZ]⟩]]

/-- size amplification above the limit; the goal is met after the first candidate (table A) -/
def d22O : Oracle :=
  { l0Few := false, overAmp := true, goalMet := fun n => decide (1 ≤ n), levelOver := fun _ => false, cuts := [] }

theorem d22_witness_valid : LayoutValid d22L := by decide

theorem d22_old_picker : majorCompactionD22 d22L d22O = ⟨[1, 3, 0], 3, [[kA, kNew, kZ]]⟩ := by
  -- `merge2` and `chunkNE` are defined by well-founded recursion and do not reduce under `decide`
  simp [majorCompactionD22, majorPickD22, takeUntil, sortByAge, insertByAge, age, mergeWrite, chunk, chunkNE, d22L,
    d22O, mergeAll, merge2, kA, kNew, kZ, kOld, Bytes.cmp]

/-- before the repair: one `Compact` step on a valid layout made `Get k` return the overwritten value and left the
layout invalid (newer data beneath older data) -/
theorem d22_counterexample :
    levelsGet d22L [0x6b] = some kNew ∧
    levelsGet (applyCS d22L 4 (majorCompactionD22 d22L d22O)) [0x6b] = some kOld ∧
    ¬ LayoutValid (applyCS d22L 4 (majorCompactionD22 d22L d22O)) ∧
    ∀ add, ¬ SafeCS d22L (majorCompactionD22 d22L d22O).rm (majorCompactionD22 d22L d22O).lvl add := by
  rw [d22_old_picker]
  refine ⟨by decide, by decide, by decide, ?_⟩
  intro add h
  have := h.no_kept_below_removed
  revert this
  decide

/-- after the repair the picker stops at table A: the level-0 table stays where it is -/
theorem d22_repaired_picker : (majorCompaction d22L d22O).rm = [1, 0] ∧ (majorCompaction d22L d22O).lvl = 3 := by
  decide

/-- a safe change set exists on the witness layout (the one the repaired picker produces), and
`safe_preserves_view` applies to it -/
example : SafeCS d22L [1, 0] 3 [[kA, kZ]] := by
  have h : mergeAll [[kA], [kZ]] = [kA, kZ] := by simp [mergeAll, merge2, kA, kZ, Bytes.cmp]
  refine ⟨by decide, by decide, by decide, by decide, by decide, ?_, by decide⟩
  show [[kA, kZ]].flatten = mergeAll [[kA], [kZ]]
  rw [h]; rfl

example : levelsGet (applyCS d22L 4 ⟨[1, 0], 3, [[kA, kZ]]⟩) [0x6b] = some kNew := by decide

def sys0 : Sys := { L := d22L, nextId := 4 }

/-- the witness layout is a state of the system that satisfies the invariant -/
example : SysInv sys0 :=
  ⟨d22_witness_valid, by unfold IdsFresh; decide, by unfold L0KeyAgeOrdered; decide, by decide,
   fun cs h => by cases h⟩

def sys1 : Sys := { sys0 with c := (compact sys0.c sys0.L d22O).2, pending := (compact sys0.c sys0.L d22O).1 }
def sys2 : Sys := { sys1 with L := applyFlush sys1.L (mkTables 4 [[⟨[0x6b], 12, true, []⟩]]), nextId := 5 }

/-- a compaction (major, partial pick in level 2) followed by a flush arriving before the commit is a history of the
system -/
example : Reach sys0 [.compactBegin d22O, .flush [[⟨[0x6b], 12, true, []⟩]]] sys2 := by
  refine Reach.cons (s1 := sys1) trivial rfl (Reach.cons (s1 := sys2) ?_ rfl (Reach.nil _))
  refine ⟨by decide, by decide, by decide, by decide⟩

example : (compact sys0.c sys0.L d22O).1.map (·.rm) = some [1, 0] := by decide

/-- a composite level 0: source A = [k@10 | k@20, m@21], source B = [z@1] appended after it. Ages 10, 20, 1 do not
increase in insertion order, yet the per-key form holds (`composite_level0` applies), and the age-ordered partial
pick (B's table first, then A's oldest) leaves A's newer version of `k` on top -/
def compL : Levels :=
  [[⟨0, [⟨[0x6b], 10, false, [1]⟩]⟩, ⟨1, [⟨[0x6b], 20, false, [2]⟩, ⟨[0x6d], 21, false, [3]⟩]⟩, ⟨2, [⟨[0x7a], 1, false, [4]⟩]⟩],
   [], [⟨3, [⟨[0x61], 1, false, [5]⟩]⟩]]

example : ¬ L0AgeOrdered compL ∧ L0KeyAgeOrdered compL ∧ LayoutValid compL := by
  refine ⟨by unfold L0AgeOrdered; decide, by unfold L0KeyAgeOrdered; decide, by decide⟩

example : (majorCompaction compL { d22O with goalMet := fun n => decide (2 ≤ n) }).rm = [2, 0, 3] := by decide

def demoOracle : Oracle :=
  { l0Few := false, overAmp := false, goalMet := fun _ => false, levelOver := fun _ => false, cuts := [] }

def dbDemo : List DAct :=
  [.fg (.put [1] [10]), .fg .rotate, .fg (.flushBegin 1), .fg .flushCommit, .fg (.put [1] [11]),
   .compactBegin demoOracle, .fg (.put [2] [20])]

/-- a history of the DKV system with its compaction task: writes, rotation, flush, then a `Compact` call that picks
(minor, level 0 → 1) while a further write follows: the run succeeds and leaves a pending change set, so
`real_compaction_commit` applies (its commit exists and changes no answer) -/
example : (({} : DB).run [] dbDemo).map (fun x => (x.1.pending.map (·.rm), x.1.s.levels.map (·.length), x.2.length))
    = some (some [0], [1, 0, 0, 0, 0, 0], 3) := by decide

/-- the oracle answers of that `Compact` call are sane for the level list it saw -/
example : OracleSane {} [[⟨0, [⟨[1], 1, false, [10]⟩]⟩], [], [], [], [], []] demoOracle :=
  ⟨fun _ _ => by simp, fun i h => by simp [demoOracle] at h, fun h => by simp [demoOracle] at h⟩

example : foreground dbDemo =
    [.put [1] [10], .rotate, .flushBegin 1, .flushCommit, .put [1] [11], .put [2] [20]] := rfl

end Rxn.C18
