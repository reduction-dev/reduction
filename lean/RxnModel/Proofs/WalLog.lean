import RxnModel.Model.Wal
/-!
The WAL writer's bookkeeping (C17), apart from the byte codec of `Proofs/Wal.lean` so that C08 and C06 import it alone.
With consecutive sequence numbers the reader's skip count is a filter on `seq`; the invariant `WInv` (a writer holds
what was appended minus a truncated prefix) holds along every history; sealed writers of a log are only ever appended.
-/
namespace Rxn.Wal
open Rxn

theorem consecutive_le (f : Nat) (es : List Rec) (hc : Consecutive f es) : ∀ e ∈ es, f ≤ e.seq := by
  induction es generalizing f with
  | nil => simp
  | cons x es ih =>
    intro e he
    rcases List.mem_cons.mp he with rfl | he
    · exact Nat.le_of_eq hc.1.symm
    · exact Nat.le_trans (Nat.le_succ f) (ih (f + 1) hc.2 e he)

theorem drop_eq_filter (f : Nat) (es : List Rec) (hc : Consecutive f es) (after : Nat) :
    es.drop (after + 1 - f) = es.filter (fun e => decide (after < e.seq)) := by
  induction es generalizing f with
  | nil => simp
  | cons e es ih =>
    by_cases hlt : after < f
    · rw [show after + 1 - f = 0 by omega, List.drop_zero, List.filter_eq_self.mpr]
      intro x hx
      have := consecutive_le f _ hc x hx
      simp only [decide_eq_true_eq]; omega
    · have hno : ¬ after < e.seq := by rw [hc.1]; exact hlt
      rw [show after + 1 - f = (after + 1 - (f + 1)) + 1 by omega, List.drop_succ_cons, ih (f + 1) hc.2,
        List.filter_cons_of_neg (by simpa using hno)]

theorem filter_drop_of_le (all : List Rec) (n after : Nat) (h : ∀ e ∈ all.take n, e.seq ≤ after) :
    (all.drop n).filter (fun e => decide (after < e.seq)) = all.filter (fun e => decide (after < e.seq)) := by
  have hnil : (all.take n).filter (fun e => decide (after < e.seq)) = [] := by
    rw [List.filter_eq_nil_iff]
    intro e he
    have := h e he
    simp; omega
  conv => rhs; rw [← List.take_append_drop n all]
  rw [List.filter_append, hnil, List.nil_append]

theorem consecutive_drop (f : Nat) (es : List Rec) (hc : Consecutive f es) (n : Nat) :
    Consecutive (f + n) (es.drop n) := by
  induction es generalizing f n with
  | nil => simp [Consecutive]
  | cons e es ih =>
    cases n with
    | zero => exact hc
    | succ n =>
      have := ih (f + 1) hc.2 n
      simpa [Nat.add_assoc, Nat.add_comm 1 n] using this

theorem consecutive_getElem (f : Nat) (es : List Rec) (hc : Consecutive f es) (k : Nat) (hk : k < es.length) :
    es[k].seq = f + k := by
  induction es generalizing f k with
  | nil => cases hk
  | cons e es ih =>
    cases k with
    | zero => exact hc.1
    | succ k => rw [List.getElem_cons_succ, ih (f + 1) hc.2 k (Nat.lt_of_succ_lt_succ hk)]; omega

theorem consecutive_take_le (f : Nat) (es : List Rec) (hc : Consecutive f es) (n L : Nat) (hn : n ≤ es.length)
    (h : ∀ e ∈ es.take n, e.seq ≤ L) (hf : f ≤ L + 1) : f + n ≤ L + 1 := by
  cases n with
  | zero => exact hf
  | succ k =>
    -- the last of the `n` is `≤ L`
    have := h _ (List.mem_take_iff_getElem.mpr ⟨k, by omega, rfl⟩)
    rw [consecutive_getElem f es hc k hn] at this
    omega

theorem consecutive_lt (f : Nat) (es : List Rec) (hc : Consecutive f es) : ∀ e ∈ es, e.seq < f + es.length := by
  intro e he
  obtain ⟨k, hk, rfl⟩ := List.getElem_of_mem he
  rw [consecutive_getElem f es hc k hk]
  exact Nat.add_lt_add_left hk f

theorem consecutive_pairwise (f : Nat) (es : List Rec) (hc : Consecutive f es) :
    es.Pairwise (fun a b => a.seq < b.seq) := by
  refine List.pairwise_iff_getElem.mpr fun i j hi hj hij => ?_
  rw [consecutive_getElem f es hc i hi, consecutive_getElem f es hc j hj]
  exact Nat.add_lt_add_left hij f

theorem consecutive_mem (f : Nat) (es : List Rec) (hc : Consecutive f es) (n : Nat) (h1 : f ≤ n)
    (h2 : n < f + es.length) : ∃ r ∈ es, r.seq = n :=
  have hk : n - f < es.length := Nat.sub_lt_left_of_lt_add h1 h2
  ⟨es[n - f], List.getElem_mem hk, (consecutive_getElem f es hc _ hk).trans (Nat.add_sub_cancel' h1)⟩

theorem consecutive_append (f : Nat) (es : List Rec) (r : Rec) (hc : Consecutive f es) (hr : r.seq = f + es.length) :
    Consecutive f (es ++ [r]) := by
  induction es generalizing f with
  | nil => exact ⟨hr, trivial⟩
  | cons e es ih => exact ⟨hc.1, ih (f + 1) hc.2 (by rw [hr, List.length_cons]; omega)⟩

/-- bookkeeping invariant of a writer with respect to everything appended so far (`all`) and the largest
truncation argument so far (`T`) -/
def WInv (w : Writer) (all : List Rec) (T : Nat) : Prop :=
  (∃ n, n ≤ all.length ∧ w.entries = all.drop n ∧ ∀ e ∈ all.take n, e.seq ≤ T) ∧
  (∀ s ∈ w.sealed, ∀ e ∈ s.recs, e.seq ≤ s.latest) ∧
  (∀ e ∈ w.active, e.seq ≤ w.latest)

theorem winv_mono {w : Writer} {all : List Rec} {T T' : Nat} (h : WInv w all T) (hT : T ≤ T') : WInv w all T' := by
  obtain ⟨⟨n, h1, h2, h3⟩, h4, h5⟩ := h
  exact ⟨⟨n, h1, h2, fun e he => Nat.le_trans (h3 e he) hT⟩, h4, h5⟩

theorem winv_append (w : Writer) (all : List Rec) (T : Nat) (r : Rec) (h : WInv w all T) (hr : w.latest ≤ r.seq) :
    WInv { w with active := w.active ++ [r], latest := r.seq } (all ++ [r]) T := by
  obtain ⟨⟨n, h1, h2, h3⟩, h4, h5⟩ := h
  refine ⟨⟨n, by simp; omega, ?_, ?_⟩, h4, ?_⟩
  · simp only [Writer.entries] at h2 ⊢
    rw [← List.append_assoc, h2, List.drop_append_of_le_length h1]
  · rw [List.take_append_of_le_length h1]; exact h3
  · intro e he
    simp only [List.mem_append, List.mem_singleton] at he
    rcases he with he | rfl
    · exact Nat.le_trans (h5 e he) hr
    · exact Nat.le_refl _

theorem winv_seal (w : Writer) (all : List Rec) (T : Nat) (h : WInv w all T) (id : Nat) :
    WInv { w with id := id, sealed := w.sealed ++ [⟨w.active, w.latest⟩], active := [] } all T := by
  obtain ⟨⟨n, h1, h2, h3⟩, h4, h5⟩ := h
  refine ⟨⟨n, h1, ?_, h3⟩, ?_, by simp⟩
  · simp only [Writer.entries] at h2 ⊢
    simpa using h2
  · intro s hs e he
    simp only [List.mem_append, List.mem_singleton] at hs
    rcases hs with hs | rfl
    · exact h4 s hs e he
    · exact h5 e he

theorem dropFlushed_split (seq : Nat) (ss : List Seg) :
    ∃ d, ss = d ++ Writer.dropFlushed seq ss ∧ ∀ s ∈ d, s.latest ≤ seq := by
  induction ss with
  | nil => exact ⟨[], rfl, by simp⟩
  | cons s ss ih =>
    show ∃ d, s :: ss = d ++ (if s.latest > seq then s :: ss else Writer.dropFlushed seq ss) ∧
      ∀ x ∈ d, x.latest ≤ seq
    by_cases h : s.latest > seq
    · exact ⟨[], by simp [h], by simp⟩
    · obtain ⟨d, h1, h2⟩ := ih
      refine ⟨s :: d, by simp only [h, if_false]; rw [List.cons_append, ← h1], ?_⟩
      intro x hx
      simp only [List.mem_cons] at hx
      rcases hx with rfl | hx
      · omega
      · exact h2 x hx

theorem winv_truncate (w : Writer) (all : List Rec) (T : Nat) (h : WInv w all T) (seq : Nat) :
    WInv (w.truncate seq) all (max T seq) := by
  obtain ⟨⟨n, h1, h2, h3⟩, h4, h5⟩ := h
  obtain ⟨d, hd1, hd2⟩ := dropFlushed_split seq w.sealed
  have hsub : ∀ s ∈ Writer.dropFlushed seq w.sealed, s ∈ w.sealed := by
    intro s hs; rw [hd1]; exact List.mem_append_right _ hs
  have he : w.entries = (d.map (·.recs)).flatten ++ (w.truncate seq).entries := by
    simp only [Writer.entries, Writer.truncate]
    conv => lhs; rw [hd1]
    simp
  refine ⟨⟨n + ((d.map (·.recs)).flatten).length, ?_, ?_, ?_⟩, fun s hs => h4 s (hsub s hs), h5⟩
  · have := congrArg List.length (h2.symm.trans he)
    rw [List.length_drop, List.length_append] at this
    omega
  · rw [← List.drop_drop, ← h2, he, List.drop_left]
  · intro e hm
    rw [List.take_add] at hm
    simp only [List.mem_append] at hm
    rcases hm with hm | hm
    · exact Nat.le_trans (h3 e hm) (Nat.le_max_left _ _)
    · rw [← h2, he, List.take_left] at hm
      simp only [List.mem_flatten, List.mem_map] at hm
      obtain ⟨l, ⟨s, hs, rfl⟩, hel⟩ := hm
      have hs' : s ∈ w.sealed := by rw [hd1]; exact List.mem_append_left _ hs
      exact Nat.le_trans (Nat.le_trans (h4 s hs' e hel) (hd2 s hs)) (Nat.le_max_right _ _)

theorem winv_run (ops : List Op) (w : Writer) (all : List Rec) (T : Nat) (h : WInv w all T)
    (hm : MonoSeqs w.latest ops) :
    WInv (w.run ops) (all ++ appended ops) (max T (maxTrunc ops)) := by
  induction ops generalizing w all T with
  | nil =>
    show WInv w (all ++ []) (max T 0)
    rwa [List.append_nil, Nat.max_zero]
  | cons op ops ih =>
    cases op with
    | put k v s =>
      have := ih (w.put k v s) _ T (winv_append w all T ⟨s, k, false, v⟩ h hm.1) hm.2
      rwa [List.append_assoc] at this
    | del k s =>
      have := ih (w.delete k s) _ T (winv_append w all T ⟨s, k, true, []⟩ h hm.1) hm.2
      rwa [List.append_assoc] at this
    | cut => exact ih w.cut all T (winv_seal w all T h w.id) hm
    | truncate s =>
      have := ih (w.truncate s) all _ (winv_truncate w all T h s) hm
      rwa [Nat.max_assoc] at this
    | rotate => exact ih w.rotate all T (winv_seal w all T h (w.id + 1)) hm

theorem winv_new (id m : Nat) : WInv (Writer.new id m) [] 0 :=
  ⟨⟨0, Nat.le_refl _, rfl, by simp⟩, by simp [Writer.new], by simp [Writer.new]⟩

theorem winv_run_new (ops : List Op) (id m : Nat) (hm : MonoSeqs 0 ops) :
    WInv ((Writer.new id m).run ops) (appended ops) (maxTrunc ops) := by
  have := winv_run ops (Writer.new id m) [] 0 (winv_new id m) hm
  rwa [List.nil_append, Nat.zero_max] at this

theorem winv_retains {w : Writer} {all : List Rec} {T : Nat} (h : WInv w all T) :
    (∃ n, w.entries = all.drop n) ∧ ∀ e ∈ all, T < e.seq → e ∈ w.entries := by
  obtain ⟨⟨n, hn, hent, hdropped⟩, _, _⟩ := h
  refine ⟨⟨n, hent⟩, ?_⟩
  intro e he hlt
  rw [hent]
  rw [← List.take_append_drop n all, List.mem_append] at he
  rcases he with he | he
  · have := hdropped e he; omega
  · exact he

theorem log_apply_cur (l : Log) (op : Op) : (l.apply op).cur = l.cur.apply op := by
  cases op <;> rfl

theorem log_run_cur (l : Log) (ops : List Op) : (l.run ops).cur = l.cur.run ops := by
  induction ops generalizing l with
  | nil => rfl
  | cons op ops ih => simp only [Log.run, Writer.run, ih, log_apply_cur]

theorem log_apply_sealed (l : Log) (op : Op) : l.sealed <+: (l.apply op).sealed := by
  cases op
  case rotate => exact List.prefix_append _ _
  all_goals exact List.prefix_rfl

theorem log_run_sealed (l : Log) (ops : List Op) : l.sealed <+: (l.run ops).sealed := by
  induction ops generalizing l with
  | nil => exact List.prefix_rfl
  | cons op ops ih => exact (log_apply_sealed l op).trans (ih _)

theorem log_run_append (l : Log) (a b : List Op) : l.run (a ++ b) = (l.run a).run b := by
  induction a generalizing l with
  | nil => rfl
  | cons op a ih => simp only [List.cons_append, Log.run, ih]

/-- the writer sealed by the `Rotate` after `ops₁` is the current writer of that moment, and it is still exactly
that — same position, same content — after any later history `ops₂` of its successors -/
theorem log_sealed_stays (l : Log) (ops₁ ops₂ : List Op) :
    (l.run (ops₁ ++ Op.rotate :: ops₂)).sealed[(l.run ops₁).sealed.length]? = some (l.run ops₁).cur := by
  have h : (l.run ops₁).sealed ++ [(l.run ops₁).cur] <+: (l.run (ops₁ ++ Op.rotate :: ops₂)).sealed := by
    rw [log_run_append]; exact log_run_sealed ((l.run ops₁).apply Op.rotate) ops₂
  rw [List.prefix_iff_getElem?.mp h _ (by simp), List.getElem_concat_length rfl]

theorem sealed_writer_immutable (id m : Nat) (ops₁ ops₂ : List Op) :
    ((Log.new id m).run (ops₁ ++ Op.rotate :: ops₂)).sealed[((Log.new id m).run ops₁).sealed.length]?
      = some ((Writer.new id m).run ops₁) := by
  rw [log_sealed_stays, log_run_cur]
  rfl

end Rxn.Wal
