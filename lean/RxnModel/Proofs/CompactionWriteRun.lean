import RxnModel.Proofs.CompactionView
import RxnModel.Proofs.SstLsm
/-!
Hand-off C17 → C18: the new tables of a compaction are what the real `TableWriter.WriteRun` (model `Sst.writeRun`,
verified byte-exact against the real writer in C17) produces from the merged run, instead of an assumed chunking.
-/
namespace Rxn.Compaction
open Rxn Rxn.Lsm

def fromLsm (e : Lsm.Entry) : Sst.Entry := ⟨e.key, e.seq, e.del, e.val⟩

theorem toLsm_fromLsm (e : Lsm.Entry) : Sst.toLsm (fromLsm e) = e := rfl

theorem toRun_fromLsm (r : Run) : Sst.toRun (r.map fromLsm) = r := by
  unfold Sst.toRun
  rw [List.map_map]
  have : Sst.toLsm ∘ fromLsm = id := funext toLsm_fromLsm
  rw [this, List.map_id]

/-- `TableWriter.WriteRun(entries, targetSize)` on a run of the LSM model: the entry lists of the tables written -/
def writeRunL (target : Nat) (r : Run) : List Run := (Sst.writeRun target (r.map fromLsm)).map Sst.toRun

theorem writeRunL_flatten (target : Nat) (r : Run) : (writeRunL target r).flatten = r := by
  unfold writeRunL
  have h : ((Sst.writeRun target (r.map fromLsm)).map Sst.toRun).flatten
      = Sst.toRun (Sst.writeRun target (r.map fromLsm)).flatten := by
    unfold Sst.toRun; rw [List.map_flatten]
  rw [h, Sst.writeRun_flatten, toRun_fromLsm]

theorem writeRunL_ok (target : Nat) (ht : 0 < target) (r : Run) :
    (∀ x ∈ writeRunL target r, x ≠ []) ∨ writeRunL target r = [[]] := by
  by_cases hr : r = []
  · right
    subst hr
    show (Sst.writeRun target []).map Sst.toRun = [[]]
    rw [Sst.writeRun_nil target ht]
    rfl
  · left
    intro x hx
    unfold writeRunL at hx
    obtain ⟨c, hc, rfl⟩ := List.mem_map.mp hx
    have hne : r.map fromLsm ≠ [] := by simpa using hr
    exact fun h0 => Sst.writeRun_nonempty target ht _ hne c hc (List.map_eq_nil_iff.mp h0)

theorem safeCS_rechunk {L : Levels} {rm : List Nat} {lvl : Nat} {add add' : List Run}
    (hs : SafeCS L rm lvl add) (hf : add'.flatten = add.flatten) (hc : (∀ r ∈ add', r ≠ []) ∨ add' = [[]]) :
    SafeCS L rm lvl add' :=
  ⟨hs.lvl_pos, hs.lvl_lt, hs.target_all, hs.below_none, hs.no_kept_below_removed, by rw [hf]; exact hs.added, hc⟩

theorem sortedKeys_fromLsm {r : Run} (h : SortedRun r) : Sst.SortedKeys (r.map fromLsm) := by
  unfold Sst.SortedKeys
  rw [List.pairwise_map]
  exact h

/-- the tables `WriteRun` writes from the merge, as a level of the LSM model: sorted runs with pairwise exclusive
ranges, by C17's hand-off lemmas -/
theorem writeRunL_level (target : Nat) (ht : 0 < target) {r : Run} (hr : SortedRun r) (n : Nat) :
    (∀ t ∈ mkTables n (writeRunL target r), Run.Sorted t.run) ∧ RangeUnique (mkTables n (writeRunL target r)) :=
  Sst.writeRun_level target ht _ (sortedKeys_fromLsm hr) _ (by rw [mkTables_map_run]; rfl)

theorem safe_with_real_writeRun {L : Levels} {rm : List Nat} {lvl : Nat} {add : List Run} (target n : Nat)
    (ht : 0 < target) (hv : LayoutValid L) (hs : SafeCS L rm lvl add) :
    SafeCS L rm lvl (writeRunL target add.flatten) ∧
    (∀ k, levelsGet (applyCS L n ⟨rm, lvl, writeRunL target add.flatten⟩) k = levelsGet L k) ∧
    (∀ p, scanView (applyCS L n ⟨rm, lvl, writeRunL target add.flatten⟩) p = scanView L p) ∧
    LayoutValid (applyCS L n ⟨rm, lvl, writeRunL target add.flatten⟩) ∧
    (∀ t ∈ mkTables n (writeRunL target add.flatten), Run.Sorted t.run) ∧
    RangeUnique (mkTables n (writeRunL target add.flatten)) := by
  have hs' : SafeCS L rm lvl (writeRunL target add.flatten) :=
    safeCS_rechunk hs (writeRunL_flatten _ _) (writeRunL_ok target ht _)
  have hp := safe_preserves n hv hs'
  have hl := writeRunL_level target ht (added_sorted (weakValid_of_layoutValid hv) hs) n
  exact ⟨hs', hp.1, hp.2.1, hp.2.2, hl.1, hl.2⟩

end Rxn.Compaction
