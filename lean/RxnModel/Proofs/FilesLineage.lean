import RxnModel.Proofs.Files
/-!
States whose instance list is `dead ++ [x]` (C09, one running instance at a time: `dead` are the earlier instances of
an operator, `x` the newest), and what the lineage scope `runL` keeps true of them beyond `InvC` (`LastL`, `runL_lastL`).
-/
namespace Rxn.Files
open Rxn

theorem set_last (dead : List Inst) (x y : Inst) : (dead ++ [x]).set dead.length y = dead ++ [y] := by
  simp

theorem setInst_last {s : State} {dead : List Inst} {x : Inst} (hs : s.insts = dead ++ [x]) (y : Inst) :
    (setInst s dead.length y).insts = dead ++ [y] := by
  simp [setInst, hs]

theorem writerAlive_of_noneAlive {s : State} (h : noneAlive s = true) (w : Nat) : writerAlive s w = false := by
  unfold writerAlive
  cases hg : s.insts[w]? with
  | none => rfl
  | some y => simpa using List.all_eq_true.mp h y (List.mem_of_getElem? hg)

theorem writerAlive_false {s : State} {dead : List Inst} {x : Inst} (hs : s.insts = dead ++ [x])
    (hd : ∀ d ∈ dead, d.life ≠ .alive) (hx : x.life ≠ .alive) (w : Nat) : writerAlive s w = false := by
  refine writerAlive_of_noneAlive (List.all_eq_true.mpr fun y hy => ?_) w
  rcases List.mem_append.mp (hs ▸ hy) with h1 | h1
  · simpa using hd y h1
  · simpa [List.mem_singleton.mp h1] using hx

/-- what the lineage scope says beyond `InvC`: only the last instance may be running, and a retained handle of an
earlier instance is not newer than the checkpoint the last instance restored from (whether or not it still runs) -/
structure LastL (s : State) (dead : List Inst) (x : Inst) : Prop where
  shape : s.insts = dead ++ [x]
  deadNA : ∀ d ∈ dead, d.life ≠ .alive
  old : ∀ h ∈ s.retained, h.writer ≠ dead.length → ∃ n, x.src = some n ∧ h.id ≤ n

theorem lastL_init (range : KGRange) (nbrs : List KGRange) :
    LastL (init1 range nbrs) [] { range := range, nbrs := nbrs } :=
  ⟨rfl, fun _ h => (nomatch h), fun _ h => (nomatch h)⟩

theorem LastL.alive_last {s : State} {dead : List Inst} {x : Inst} (inv : LastL s dead x) {i : Nat} {xi : Inst}
    (hi : s.insts[i]? = some xi) (hl : xi.life = .alive) : i = dead.length ∧ xi = x := by
  rcases get_append_new (inv.shape ▸ hi) with h | h
  · exact absurd hl (inv.deadNA xi (List.mem_of_getElem? h))
  · exact h

/-- `hret`: the job may start to retain a handle written by the instance that steps -/
theorem LastL.set {s s' : State} {dead : List Inst} {x : Inst} (inv : LastL s dead x) {i : Nat} {xi y : Inst}
    (hi : s.insts[i]? = some xi) (hl : xi.life = .alive) (hins : s'.insts = s.insts.set i y) (hsrc : y.src = xi.src)
    (hret : ∀ h ∈ s'.retained, h ∈ s.retained ∨ h.writer = i) : ∃ dead' x', LastL s' dead' x' := by
  obtain ⟨rfl, rfl⟩ := inv.alive_last hi hl
  refine ⟨dead, y, by rw [hins, inv.shape, set_last], inv.deadNA, fun h hh hw => ?_⟩
  rw [hsrc]
  exact inv.old h ((hret h hh).resolve_right hw) hw

theorem LastL.dropHandles {s : State} {dead : List Inst} {x : Inst} (inv : LastL s dead x) {p : Handle → Bool}
    {fl : Nat} : ∃ dead' x', LastL { s with retained := s.retained.filter p, floor := fl } dead' x' :=
  ⟨dead, x, inv.shape, inv.deadNA, fun h hh => inv.old h (List.mem_filter.mp hh).1⟩

theorem step_lastL {s s' : State} {dead : List Inst} {x : Inst} {a : Act} (inv : LastL s dead x)
    (hsc : inScopeL s a = true) (hstep : step s a = some s') : ∃ dead' x', LastL s' dead' x' := by
  have hna : noneAlive s = true → ∀ d ∈ s.insts, d.life ≠ .alive := fun h d hd => by
    simpa using List.all_eq_true.mp h d hd
  cases a with
  | openFresh r g n d =>
    -- opened empty only while nothing runs and the job retains nothing
    simp only [inScopeL_openFresh, Bool.and_eq_true, List.isEmpty_iff] at hsc
    rw [step_openFresh hstep]
    exact ⟨_, _, rfl, hna hsc.1.1, fun h hh => by rw [hsc.1.2] at hh; cases hh⟩
  | openFrom r g n ws id d =>
    -- restored only while nothing runs, from the newest handle the job retains
    obtain ⟨w, rfl⟩ := inScopeL_openFrom_single hsc
    simp only [inScopeL_openFrom_one, Bool.and_eq_true, List.all_eq_true, decide_eq_true_eq] at hsc
    obtain ⟨ts, wl, _, _, rfl⟩ := step_openFrom hstep
    exact ⟨_, _, rfl, hna hsc.1.1, fun h hh _ => ⟨id, rfl, hsc.2.2 h hh⟩⟩
  | flush i t => obtain ⟨xi, hi, hl, _, rfl⟩ := step_flush hstep; exact inv.set hi hl rfl rfl fun _ => Or.inl
  | compact i rm add => obtain ⟨xi, hi, hl, _, rfl⟩ := step_compact hstep; exact inv.set hi hl rfl rfl fun _ => Or.inl
  | ckpt i id wal =>
    obtain ⟨xi, hi, hl, _, _, _, _, rfl⟩ := step_ckpt hstep
    exact inv.set hi hl rfl rfl fun h hh => (List.mem_cons.mp hh).elim (fun e => Or.inr (e ▸ rfl)) Or.inl
  | jobDrop k => rw [step_jobDrop hstep]; exact inv.dropHandles
  | jobAbandon id => rw [step_jobAbandon hstep]; exact inv.dropHandles
  | retain i ids => obtain ⟨xi, hi, hl, rfl⟩ := step_retain hstep; exact inv.set hi hl rfl rfl fun _ => Or.inl
  | snap i => obtain ⟨xi, hi, hl, rfl⟩ := step_snap hstep; exact inv.set hi hl rfl rfl fun _ => Or.inl
  | unsnap i k => obtain ⟨xi, hi, hl, rfl⟩ := step_unsnap hstep; exact inv.set hi hl rfl rfl fun _ => Or.inl
  | crash i => obtain ⟨xi, hi, hl, rfl⟩ := step_crash hstep; exact inv.set hi hl rfl rfl fun _ => Or.inl
  | release i => cases hsc
  | collect i u answers =>
    obtain ⟨xi, hi, _, cr, ld, del, rfl, _⟩ := step_collect hstep
    have hal : aliveAt s i = true := hsc
    exact inv.set hi (by simpa [aliveAt, hi] using hal) rfl rfl fun _ => Or.inl
  | redeployFailed i => obtain ⟨_, _, _, rfl⟩ := step_redeployFailed hstep; exact ⟨_, _, inv⟩
  | lateWrite i t => cases hsc

theorem runL_lastL {as : List Act} : ∀ {s s' : State} {dead : List Inst} {x : Inst}, LastL s dead x →
    runL s as = some s' → ∃ dead' x', LastL s' dead' x' := by
  induction as with
  | nil => intro s s' dead x inv h; cases h; exact ⟨_, _, inv⟩
  | cons a as ih =>
    intro s s' dead x inv h
    obtain ⟨hsc, s1, hs, h⟩ := runL_cons.mp h
    obtain ⟨_, _, inv1⟩ := step_lastL inv hsc hs
    exact ih inv1 h

end Rxn.Files
