import RxnModel.Model.KeyedState
import RxnModel.Base.BytesOrder
import RxnModel.Proofs.Lists
/-! The sorted-map specification of the DKV used by C03: `put`/`del`/`get` laws, extensionality of strictly ascending
lists, and the map's replay as the fold "the last one that matches decides" (`lastBy` of Proofs/Lists.lean, of which
the per-key specification is an instance too). -/
namespace Rxn.KeyedState
open Rxn Bytes

def Sorted (kv : KV) : Prop := kv.Pairwise (fun a b => cmp a.1 b.1 = .lt)

theorem sorted_ext (l₁ l₂ : KV) (h1 : Sorted l₁) (h2 : Sorted l₂) (h : ∀ x, x ∈ l₁ ↔ x ∈ l₂) : l₁ = l₂ :=
  eq_of_pairwise_of_mem_iff (fun _ _ hab hba => ne_of_cmp_lt (cmp_lt_trans hab hba) rfl) h1 h2 h

namespace KV

theorem put_cons (k' v' : Bytes) (rest : KV) (k v : Bytes) :
    put ((k', v') :: rest) k v = match cmp k k' with
      | .lt => (k, v) :: (k', v') :: rest
      | .eq => (k, v) :: rest
      | .gt => (k', v') :: put rest k v := rfl

theorem del_cons (k' v' : Bytes) (rest : KV) (k : Bytes) :
    del ((k', v') :: rest) k = match cmp k k' with
      | .lt => (k', v') :: rest
      | .eq => rest
      | .gt => (k', v') :: del rest k := rfl

theorem get_cons (k' v' : Bytes) (rest : KV) (k : Bytes) :
    get ((k', v') :: rest) k = if k' = k then some v' else get rest k := rfl

theorem mem_put {kv : KV} {k v : Bytes} {x : Bytes × Bytes} (h : x ∈ put kv k v) : x = (k, v) ∨ x ∈ kv := by
  induction kv with
  | nil => exact Or.inl (List.mem_singleton.mp h)
  | cons e rest ih =>
    obtain ⟨k0, v0⟩ := e
    simp only [put_cons] at h
    split at h
    · exact List.mem_cons.mp h
    · exact (List.mem_cons.mp h).imp_right (List.mem_cons_of_mem _)
    · rcases List.mem_cons.mp h with h | h
      · exact Or.inr (h ▸ List.mem_cons_self)
      · exact (ih h).imp_right (List.mem_cons_of_mem _)

theorem del_sublist (kv : KV) (k : Bytes) : (del kv k).Sublist kv := by
  induction kv with
  | nil => exact List.Sublist.refl _
  | cons e rest ih =>
    obtain ⟨k0, v0⟩ := e
    simp only [del_cons]
    split
    · exact List.Sublist.refl _
    · exact List.sublist_cons_self _ _
    · exact ih.cons_cons _

theorem put_sorted {kv : KV} (k v : Bytes) (hs : Sorted kv) : Sorted (put kv k v) := by
  induction kv with
  | nil => exact List.pairwise_singleton _ _
  | cons e rest ih =>
    obtain ⟨k0, v0⟩ := e
    obtain ⟨h0, hr⟩ := List.pairwise_cons.mp hs
    simp only [put_cons]
    split
    · rename_i hc
      exact List.pairwise_cons.mpr ⟨List.forall_mem_cons.mpr ⟨hc, fun x hx => cmp_lt_trans hc (h0 x hx)⟩, hs⟩
    · rename_i hc
      cases cmp_eq_iff.mp hc
      exact List.pairwise_cons.mpr ⟨h0, hr⟩
    · rename_i hc
      refine List.pairwise_cons.mpr ⟨fun x hx => ?_, ih hr⟩
      rcases mem_put hx with rfl | hx
      · exact cmp_gt_iff_lt.mp hc
      · exact h0 x hx

theorem del_sorted {kv : KV} (k : Bytes) (hs : Sorted kv) : Sorted (del kv k) :=
  List.Pairwise.sublist (del_sublist kv k) hs

theorem write_sorted {kv : KV} (w : Bytes × Option Bytes) (hs : Sorted kv) : Sorted (write kv w) := by
  unfold write
  split
  · exact put_sorted _ _ hs
  · exact del_sorted _ hs

theorem get_none_of_lt {kv : KV} {k : Bytes} (h : ∀ e ∈ kv, cmp k e.1 = .lt) : get kv k = none := by
  induction kv with
  | nil => rfl
  | cons e rest ih =>
    obtain ⟨k0, v0⟩ := e
    rw [get_cons, if_neg (ne_of_cmp_lt (h (k0, v0) List.mem_cons_self)).symm]
    exact ih (fun e he => h e (List.mem_cons_of_mem _ he))

theorem ite_eq_comm_of_ne {β : Type} {k k0 : Bytes} (hne : k ≠ k0) (k' : Bytes) (a b c : β) :
    (if k0 = k' then a else if k = k' then b else c) = if k = k' then b else if k0 = k' then a else c := by
  by_cases h0 : k0 = k'
  · rw [if_pos h0, if_neg (fun e => hne (e.trans h0.symm)), if_pos h0]
  · rw [if_neg h0, if_neg h0]

theorem get_put (kv : KV) (k v k' : Bytes) : get (put kv k v) k' = if k = k' then some v else get kv k' := by
  induction kv with
  | nil => rfl
  | cons e rest ih =>
    obtain ⟨k0, v0⟩ := e
    simp only [put_cons]
    split
    · rfl
    · rename_i hc
      cases cmp_eq_iff.mp hc
      by_cases hk : k = k'
      · rw [if_pos hk, get_cons, if_pos hk]
      · rw [if_neg hk, get_cons, get_cons, if_neg hk, if_neg hk]
    · rename_i hc
      rw [get_cons, ih, get_cons]
      exact ite_eq_comm_of_ne (ne_of_cmp_gt hc) k' _ _ _

theorem get_del {kv : KV} (k k' : Bytes) (hs : Sorted kv) : get (del kv k) k' = if k = k' then none else get kv k' := by
  induction kv with
  | nil => exact (ite_self _).symm
  | cons e rest ih =>
    obtain ⟨k0, v0⟩ := e
    obtain ⟨h0, hr⟩ := List.pairwise_cons.mp hs
    simp only [del_cons]
    split
    · rename_i hc
      by_cases hk : k = k'
      · rw [if_pos hk, ← hk]
        exact get_none_of_lt (List.forall_mem_cons.mpr ⟨hc, fun x hx => cmp_lt_trans hc (h0 x hx)⟩)
      · rw [if_neg hk]
    · rename_i hc
      cases cmp_eq_iff.mp hc
      by_cases hk : k = k'
      · rw [if_pos hk, ← hk]
        exact get_none_of_lt h0
      · rw [if_neg hk, get_cons, if_neg hk]
    · rename_i hc
      rw [get_cons, ih hr, get_cons]
      exact ite_eq_comm_of_ne (ne_of_cmp_gt hc) k' _ _ _

theorem get_write {kv : KV} (w : Bytes × Option Bytes) (k' : Bytes) (hs : Sorted kv) :
    get (write kv w) k' = if w.1 = k' then w.2 else get kv k' := by
  unfold write
  split
  · rename_i v hv; rw [get_put, hv]
  · rename_i hv; rw [get_del _ _ hs, hv]

theorem mem_iff_get {kv : KV} (hs : Sorted kv) (k v : Bytes) : (k, v) ∈ kv ↔ get kv k = some v := by
  induction kv with
  | nil => exact ⟨nofun, nofun⟩
  | cons e rest ih =>
    obtain ⟨k0, v0⟩ := e
    obtain ⟨h0, hr⟩ := List.pairwise_cons.mp hs
    rw [List.mem_cons, get_cons]
    by_cases hk : k0 = k
    · subst hk
      rw [if_pos rfl]
      constructor
      · rintro (h | h)
        · cases h; rfl
        · exact absurd rfl (ne_of_cmp_lt (h0 (k0, v) h))
      · intro h; cases h; exact Or.inl rfl
    · rw [if_neg hk, ← ih hr]
      exact ⟨fun h => h.resolve_left (fun e => hk (Prod.mk.inj e).1.symm), Or.inr⟩

end KV

def lastW (ws : List (Bytes × Option Bytes)) (k : Bytes) (init : Option Bytes) : Option Bytes :=
  lastBy (fun w => w.1 = k) (fun w => w.2) ws init

theorem foldl_write_sorted (ws : List (Bytes × Option Bytes)) {kv : KV} (h : Sorted kv) : Sorted (ws.foldl KV.write kv) :=
  List.foldlRecOn ws _ h (fun _ hs w _ => KV.write_sorted w hs)

/-- the map stays sorted along the replay, which is what `get_write` asks for at every step -/
theorem get_foldl_write (ws : List (Bytes × Option Bytes)) (k : Bytes) {kv : KV} (h : Sorted kv) :
    KV.get (ws.foldl KV.write kv) k = lastW ws k (KV.get kv k) :=
  (List.foldl_rel (r := fun kv cur => Sorted kv ∧ KV.get kv k = cur) ⟨h, rfl⟩
    (fun w _ _ _ ⟨hs, e⟩ => ⟨KV.write_sorted w hs, e ▸ KV.get_write w k hs⟩)).2

end Rxn.KeyedState
