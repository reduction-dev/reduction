/-! Shared list facts. Lists of lists (partitions of a queue, unread rests of merged iterators,
levels of tables) read through `getD · []`, which gain or lose exactly what a replaced member gains or loses; `lastBy`: the last
element of a list that matches decides (the last write to a key wins: keyed state, WAL replay, checkpoint documents); a fold that
selects one of its two arguments (`min`, `max`, the earlier of two timers) ends in a least member. -/
namespace Rxn

theorem nil_elim {α : Type} {a : α} {p : Prop} (h : a ∈ ([] : List α)) : p := (List.not_mem_nil h).elim

theorem not_contains {l : List Nat} {a : Nat} : (!l.contains a) = true ↔ a ∉ l := by simp

theorem dropWhile_append_stop {α : Type} (f : α → Bool) (L : List α) (m : α) (M : List α) (h : f m = false) :
    (L ++ m :: M).dropWhile f = L.dropWhile f ++ m :: M := by
  induction L with
  | nil => simp [List.dropWhile, h]
  | cons x xs ih =>
    simp only [List.cons_append, List.dropWhile]
    cases f x <;> simp [ih]

theorem takeWhile_dropWhile_eq_filter {α : Type} {b q : α → Bool} {l : List α}
    (hb : ∀ x ∈ l, b x = true → q x = false)
    (h : l.Pairwise fun x y => b x = false → b y = false ∧ (q y = true → q x = true)) :
    (l.dropWhile b).takeWhile q = l.filter q := by
  induction l with
  | nil => rfl
  | cons x xs ih =>
    obtain ⟨hx, hxs⟩ := List.pairwise_cons.mp h
    have ih := ih (fun y hy => hb y (List.mem_cons_of_mem _ hy)) hxs
    cases hbx : b x with
    | true =>
      rw [List.dropWhile_cons_of_pos hbx, List.filter_cons_of_neg (Bool.not_eq_true _ ▸ hb x List.mem_cons_self hbx)]
      exact ih
    | false =>
      -- the walk stops skipping at `x`, and would skip nothing behind `x` either
      have hd : xs.dropWhile b = xs := by
        cases xs with
        | nil => rfl
        | cons y ys => exact List.dropWhile_cons_of_neg (Bool.not_eq_true _ ▸ (hx y List.mem_cons_self hbx).1)
      rw [hd] at ih
      rw [List.dropWhile_cons_of_neg (Bool.not_eq_true _ ▸ hbx)]
      cases hqx : q x with
      | true => rw [List.takeWhile_cons_of_pos hqx, List.filter_cons_of_pos hqx, ih]
      | false =>
        have hqx' : ¬ q x = true := Bool.not_eq_true _ ▸ hqx
        rw [List.takeWhile_cons_of_neg hqx', List.filter_cons_of_neg hqx']
        exact (List.filter_eq_nil_iff.mpr fun y hy hqy => hqx' ((hx y hy hbx).2 hqy)).symm

theorem filter_eq_takeWhile {α : Type} (q : α → Bool) {xs : List α}
    (h : xs.Pairwise (fun a b => q a = false → q b = false)) : xs.filter q = xs.takeWhile q := by
  induction xs with
  | nil => rfl
  | cons x xs ih =>
    obtain ⟨hx, hxs⟩ := List.pairwise_cons.mp h
    cases hq : q x with
    | true => rw [List.filter_cons_of_pos hq, List.takeWhile_cons_of_pos hq, ih hxs]
    | false =>
      rw [List.takeWhile_cons_of_neg (Bool.eq_false_iff.mp hq), List.filter_cons_of_neg (Bool.eq_false_iff.mp hq)]
      exact List.filter_eq_nil_iff.mpr fun a ha => Bool.eq_false_iff.mp (hx a ha hq)

theorem getElem?_lt_of_some {α : Type} {l : List α} {i : Nat} {a : α} (h : l[i]? = some a) : i < l.length :=
  (List.getElem?_eq_some_iff.mp h).1

theorem getElem?_append_of_some {α : Type} {l : List α} {i : Nat} {a : α} (m : List α) (h : l[i]? = some a) :
    (l ++ m)[i]? = some a := by
  rw [List.getElem?_append_left (getElem?_lt_of_some h)]; exact h

theorem nodup_append_singleton {α : Type} {l : List α} {v : α} (h : l.Nodup) (hv : v ∉ l) : (l ++ [v]).Nodup :=
  (List.perm_append_singleton _ _).nodup_iff.mpr (List.nodup_cons.mpr ⟨hv, h⟩)

theorem getD_mem_of_ne_nil {α : Type} {l : List (List α)} {i : Nat} (h : l.getD i [] ≠ []) :
    i < l.length ∧ l.getD i [] ∈ l := by
  by_cases hi : i < l.length
  · refine ⟨hi, ?_⟩
    rw [List.getD_eq_getElem?_getD, List.getElem?_eq_getElem hi]
    exact List.getElem_mem hi
  · rw [List.getD_eq_getElem?_getD, List.getElem?_eq_none (by omega)] at h
    exact absurd rfl h

theorem mem_getD {α : Type} {L : List (List α)} {i : Nat} {x : α} :
    x ∈ L.getD i [] ↔ ∃ hi : i < L.length, x ∈ L[i] := by
  rw [List.getD_eq_getElem?_getD]
  by_cases hi : i < L.length
  · rw [List.getElem?_eq_getElem hi]; exact ⟨fun h => ⟨hi, h⟩, fun h => h.2⟩
  · rw [List.getElem?_eq_none (Nat.le_of_not_lt hi)]; exact ⟨fun h => (nomatch h), fun h => absurd h.1 hi⟩

theorem mem_flatten_getD {α : Type} {L : List (List α)} {x : α} (h : x ∈ L.flatten) :
    ∃ i, i < L.length ∧ x ∈ L.getD i [] := by
  obtain ⟨l, hl, hxl⟩ := List.mem_flatten.mp h
  obtain ⟨i, hi, rfl⟩ := List.mem_iff_getElem.mp hl
  exact ⟨i, hi, mem_getD.mpr ⟨hi, hxl⟩⟩

theorem getD_mem_flatten {α : Type} {L : List (List α)} {i : Nat} {x : α} (h : x ∈ L.getD i []) : x ∈ L.flatten :=
  have ⟨hi, hx⟩ := mem_getD.mp h
  List.mem_flatten.mpr ⟨L[i], List.getElem_mem hi, hx⟩

theorem mem_flatten_iff_getD {α : Type} (l : List (List α)) (y : α) : y ∈ l.flatten ↔ ∃ i, y ∈ l.getD i [] :=
  ⟨fun h => (mem_flatten_getD h).imp fun _ hi => hi.2, fun ⟨_, h⟩ => getD_mem_flatten h⟩

theorem getD_of_size_le {α : Type} (a : Array α) (d : α) {i : Nat} (h : a.size ≤ i) : a.getD i d = d := by
  rw [Array.getD_eq_getD_getElem?, Array.getElem?_eq_none h]
  rfl

theorem getD_append_one {α : Type} (l : List (List α)) (r : List α) (j : Nat) :
    (l ++ [r]).getD j [] = if j = l.length then r else l.getD j [] := by
  simp only [List.getD_eq_getElem?_getD]
  by_cases h1 : j < l.length
  · rw [List.getElem?_append_left h1, if_neg (by omega)]
  · rw [List.getElem?_append_right (by omega)]
    by_cases h2 : j = l.length
    · rw [if_pos h2, h2, Nat.sub_self]
      rfl
    · rw [if_neg h2, List.getElem?_eq_none (by omega : l.length ≤ j), List.getElem?_eq_none]
      rw [List.length_singleton]
      omega

theorem getD_set {α : Type} (l : List α) (i j : Nat) (x d : α) :
    (l.set i x).getD j d = if i = j ∧ i < l.length then x else l.getD j d := by
  simp only [List.getD_eq_getElem?_getD, List.getElem?_set]
  by_cases hij : i = j
  · subst hij
    by_cases hi : i < l.length
    · simp [hi]
    · simp [hi]
  · simp [hij]

theorem flatten_set_perm {α : Type} (l : List (List α)) (i : Nat) (a b l' : List α) (hi : i < l.length)
    (h : (a ++ l.getD i []).Perm (b ++ l')) : (a ++ l.flatten).Perm (b ++ (l.set i l').flatten) := by
  induction l generalizing i with
  | nil => cases hi
  | cons r rs ih =>
    cases i with
    | zero =>
      rw [List.getD_cons_zero] at h
      rw [List.set_cons_zero, List.flatten_cons, List.flatten_cons, ← List.append_assoc, ← List.append_assoc]
      exact h.append_right _
    | succ i =>
      rw [List.getD_cons_succ] at h
      rw [List.set_cons_succ, List.flatten_cons, List.flatten_cons]
      exact (List.perm_append_comm_assoc a r _).trans
        (((ih i (Nat.lt_of_succ_lt_succ hi) h).append_left r).trans (List.perm_append_comm_assoc r b _))

theorem flatten_set_add {α : Type} (l : List (List α)) (i : Nat) (x : α) (l' : List α) (hi : i < l.length)
    (h : l'.Perm (x :: l.getD i [])) : (l.set i l').flatten.Perm (x :: l.flatten) :=
  (flatten_set_perm l i [x] [] l' hi h.symm).symm

theorem flatten_set_remove {α : Type} (l : List (List α)) (i : Nat) (x : α) (l' : List α)
    (h : (l.getD i []).Perm (x :: l')) : l.flatten.Perm (x :: (l.set i l').flatten) := by
  have hne : l.getD i [] ≠ [] := fun e => by
    rw [e] at h
    exact List.cons_ne_nil x l' h.symm.eq_nil
  exact flatten_set_perm l i [] [x] l' (getD_mem_of_ne_nil hne).1 h

/-- neither has a duplicate, so they are permutations of each other, and an asymmetric order admits one arrangement -/
theorem eq_of_pairwise_of_mem_iff {α : Type} {r : α → α → Prop} (hr : ∀ a b, r a b → r b a → False) {l₁ l₂ : List α}
    (h1 : l₁.Pairwise r) (h2 : l₂.Pairwise r) (h : ∀ x, x ∈ l₁ ↔ x ∈ l₂) : l₁ = l₂ := by
  have nd : ∀ {l : List α}, l.Pairwise r → l.Nodup := fun hl => hl.imp (fun {a b} hab (e : a = b) => hr a b hab (e ▸ hab))
  exact List.Perm.eq_of_pairwise (fun a b _ _ hab hba => (hr a b hab hba).elim) h1 h2
    ((List.perm_ext_iff_of_nodup (nd h1) (nd h2)).mpr h)

theorem foldl_select {α : Type} (op : α → α → α) (R : α → α → Prop) (hrefl : ∀ a, R a a)
    (htrans : ∀ {a b c}, R a b → R b c → R a c)
    (hop : ∀ a b, (op a b = a ∨ op a b = b) ∧ R (op a b) a ∧ R (op a b) b) (l : List α) (init : α) :
    (l.foldl op init = init ∨ l.foldl op init ∈ l) ∧ R (l.foldl op init) init ∧ ∀ x ∈ l, R (l.foldl op init) x := by
  induction l generalizing init with
  | nil => exact ⟨Or.inl rfl, hrefl init, nofun⟩
  | cons h l ih =>
    obtain ⟨b1, b2, b3⟩ := hop init h
    obtain ⟨i1, i2, i3⟩ := ih (op init h)
    rw [List.foldl_cons]
    refine ⟨?_, htrans i2 b2, fun x hx => ?_⟩
    · rcases i1 with e | e
      · rw [e]
        rcases b1 with e' | e'
        · exact Or.inl e'
        · exact Or.inr (by rw [e']; exact List.mem_cons_self)
      · exact Or.inr (List.mem_cons_of_mem _ e)
    · rcases List.mem_cons.mp hx with e | e
      · subst e; exact htrans i2 b3
      · exact i3 x e

theorem foldl_max_ge {α : Type} (f : α → Nat) (l : List α) (init : Nat) :
    ∀ x ∈ l, f x ≤ l.foldl (fun m x => max m (f x)) init := by
  obtain ⟨_, _, h⟩ := foldl_select max (fun a b => b ≤ a) Nat.le_refl (fun h1 h2 => Nat.le_trans h2 h1)
    (fun a b => ⟨by rw [Nat.max_def]; split <;> simp, Nat.le_max_left a b, Nat.le_max_right a b⟩) (l.map f) init
  rw [List.foldl_map] at h
  exact fun x hx => h _ (List.mem_map_of_mem hx)

theorem nodup_map_of_inj_on {α β : Type} (f : α → β) (l : List α) (hn : l.Nodup)
    (hinj : ∀ a ∈ l, ∀ b ∈ l, f a = f b → a = b) : (l.map f).Nodup :=
  List.pairwise_map.mpr (hn.imp_of_mem fun ha hb hne e => hne (hinj _ ha _ hb e))

/-- the value given by the last element of `ws` satisfying `p`, or `init` when there is none -/
def lastBy {α β : Type} (p : α → Prop) [DecidablePred p] (val : α → β) (ws : List α) (init : β) : β :=
  ws.foldl (fun cur w => if p w then val w else cur) init

section lastBy
variable {α β γ : Type} {p : α → Prop} [DecidablePred p] {val : α → β}

theorem lastBy_append (a b : List α) (init : β) :
    lastBy p val (a ++ b) init = lastBy p val b (lastBy p val a init) := List.foldl_append

theorem lastBy_map (f : γ → α) (ws : List γ) (init : β) :
    lastBy p val (ws.map f) init = lastBy (fun w => p (f w)) (fun w => val (f w)) ws init := List.foldl_map

theorem lastBy_congr {q : α → Prop} [DecidablePred q] (ws : List α) (h : ∀ w ∈ ws, (p w ↔ q w)) (init : β) :
    lastBy p val ws init = lastBy q val ws init := by
  refine List.foldl_rel (r := Eq) rfl (fun w hw cur _ e => ?_)
  by_cases hp : p w
  · rw [if_pos hp, if_pos ((h w hw).mp hp)]
  · rw [if_neg hp, if_neg (fun hq => hp ((h w hw).mpr hq)), e]

theorem lastBy_flatMap_congr (f g : γ → List α) (l : List γ)
    (h : ∀ x ∈ l, ∀ init, lastBy p val (f x) init = lastBy p val (g x) init) (init : β) :
    lastBy p val (l.flatMap f) init = lastBy p val (l.flatMap g) init := by
  rw [lastBy, lastBy, List.foldl_flatMap, List.foldl_flatMap]
  exact List.foldl_rel (r := Eq) rfl (fun x hx cur _ e => e ▸ h x hx cur)

theorem lastBy_filter (r : α → Bool) (ws : List α) (h : ∀ w ∈ ws, p w → r w = true) (init : β) :
    lastBy p val (ws.filter r) init = lastBy p val ws init := by
  rw [lastBy, List.foldl_filter]
  refine List.foldl_rel (r := Eq) rfl (fun w hw cur _ e => ?_)
  by_cases hp : p w
  · rw [if_pos (h w hw hp), if_pos hp, if_pos hp]
  · rw [if_neg hp, ite_self, if_neg hp, e]

theorem lastBy_mem (ws : List α) {init b : β} (h : lastBy p val ws init = b) (hne : init ≠ b) :
    ∃ w ∈ ws, p w ∧ val w = b := by
  subst h
  refine (List.foldlRecOn (motive := fun cur => init = cur ∨ ∃ w ∈ ws, p w ∧ val w = cur) ws _ (Or.inl rfl)
    (fun cur hcur w hw => ?_)).resolve_left hne
  by_cases hp : p w
  · rw [if_pos hp]; exact Or.inr ⟨w, hw, hp, rfl⟩
  · rw [if_neg hp]; exact hcur

theorem lastBy_comp (f : β → γ) (ws : List α) (init : β) :
    f (lastBy p val ws init) = lastBy p (fun w => f (val w)) ws (f init) :=
  (List.foldl_hom f (fun cur w => (apply_ite f (p w) (val w) cur).symm)).symm

end lastBy

end Rxn
