import RxnModel.Proofs.Lsm
/-! Scans (C07). A merge of sorted runs is sorted and looks a key up as the pick by sequence number among all the runs
merged. Where every hit is a genuine version and the latest write is among the hits, that pick is the latest write: so
for the containers in any arrangement, and for a scan whose memtables and level list are read in two states with a
write-free run in between. -/
namespace Rxn.Lsm
open Rxn

theorem keepNewest_cases (a b : Entry) : keepNewest a b = a ∨ keepNewest a b = b := by
  unfold keepNewest; split <;> simp

theorem keepNewest_key {a b : Entry} (h : a.key = b.key) : (keepNewest a b).key = a.key := by
  cases keepNewest_cases a b with
  | inl hk => rw [hk]
  | inr hk => rw [hk, h]

theorem keepNewest_seq (a b : Entry) : a.seq ≤ (keepNewest a b).seq ∧ b.seq ≤ (keepNewest a b).seq := by
  unfold keepNewest
  split
  · next h => exact ⟨Nat.le_refl _, Nat.le_of_lt h⟩
  · next h => exact ⟨Nat.not_lt.mp h, Nat.le_refl _⟩

/-- on equal sequence numbers the right entry wins, on either side -/
theorem keepNewest_assoc (a b c : Entry) : keepNewest (keepNewest a b) c = keepNewest a (keepNewest b c) := by
  unfold keepNewest
  by_cases hab : a.seq > b.seq
  · by_cases hbc : b.seq > c.seq
    · rw [if_pos hab, if_pos hbc, if_pos hab, if_pos (Nat.lt_trans hbc hab)]
    · rw [if_pos hab, if_neg hbc]
  · by_cases hbc : b.seq > c.seq
    · rw [if_neg hab, if_pos hbc, if_neg hab]
    · rw [if_neg hab, if_neg hbc, if_neg (Nat.not_lt.mpr (Nat.le_trans (Nat.not_lt.mp hab) (Nat.not_lt.mp hbc)))]

/-- two optional hits combine as `Option.merge keepNewest`, which core proves associative from this instance -/
instance : Std.Associative keepNewest := ⟨keepNewest_assoc⟩

theorem merge2_nil_right (a : Run) : merge2 a [] = a := by
  cases a <;> simp [merge2]

theorem merge2_mem {a b : Run} {x : Entry} : x ∈ merge2 a b → x ∈ a ∨ x ∈ b := by
  fun_induction merge2 a b with
  | case1 b => exact Or.inr
  | case2 a as => exact Or.inl
  | case3 x' xs y ys hc ih =>
    intro h
    rcases List.mem_cons.mp h with rfl | h
    · exact Or.inl List.mem_cons_self
    · exact (ih h).imp_left (List.mem_cons_of_mem _)
  | case4 x' xs y ys hc ih =>
    intro h
    rcases List.mem_cons.mp h with rfl | h
    · exact Or.inr List.mem_cons_self
    · exact (ih h).imp_right (List.mem_cons_of_mem _)
  | case5 x' xs y ys hc ih =>
    intro h
    rcases List.mem_cons.mp h with rfl | h
    · exact (keepNewest_cases x' y).imp (fun hk => by rw [hk]; exact List.mem_cons_self)
        (fun hk => by rw [hk]; exact List.mem_cons_self)
    · exact (ih h).imp (List.mem_cons_of_mem _) (List.mem_cons_of_mem _)

theorem merge2_sorted {a b : Run} (ha : a.Sorted) (hb : b.Sorted) : (merge2 a b).Sorted := by
  fun_induction merge2 a b with
  | case1 b => exact hb
  | case2 a as => exact ha
  | case3 x xs y ys hc ih =>
    refine List.pairwise_cons.mpr ⟨fun z hz => ?_, ih (List.Pairwise.of_cons ha) hb⟩
    exact (merge2_mem hz).elim ((List.pairwise_cons.mp ha).1 z) (Run.lt_of_lt_head hb hc z)
  | case4 x xs y ys hc ih =>
    refine List.pairwise_cons.mpr ⟨fun z hz => ?_, ih ha (List.Pairwise.of_cons hb)⟩
    exact (merge2_mem hz).elim (Run.lt_of_lt_head ha (Bytes.cmp_gt_iff_lt.mp hc) z)
      ((List.pairwise_cons.mp hb).1 z)
  | case5 x xs y ys hc ih =>
    have heq : x.key = y.key := Bytes.cmp_eq_iff.mp hc
    refine List.pairwise_cons.mpr ⟨fun z hz => ?_, ih (List.Pairwise.of_cons ha) (List.Pairwise.of_cons hb)⟩
    rw [keepNewest_key heq]
    exact (merge2_mem hz).elim ((List.pairwise_cons.mp ha).1 z) fun h => heq ▸ (List.pairwise_cons.mp hb).1 z h

theorem mem_mergeAll {rs : List Run} {e : Entry} (h : e ∈ mergeAll rs) : ∃ r ∈ rs, e ∈ r := by
  induction rs with
  | nil => cases h
  | cons r rs ih =>
    cases merge2_mem (a := r) (b := mergeAll rs) h with
    | inl h1 => exact ⟨r, List.mem_cons_self, h1⟩
    | inr h1 =>
      obtain ⟨r', hr', he⟩ := ih h1
      exact ⟨r', List.mem_cons_of_mem _ hr', he⟩

theorem mergeAll_sorted {rs : List Run} (h : ∀ r ∈ rs, r.Sorted) : (mergeAll rs).Sorted := by
  induction rs with
  | nil => exact Run.sorted_nil
  | cons r rs ih =>
    exact merge2_sorted (h r List.mem_cons_self) (ih (fun x hx => h x (List.mem_cons_of_mem _ hx)))

theorem mergeAll_map_filter {α : Type} (sel : α → Bool) (f : α → Run) (ts : List α)
    (h : ∀ t ∈ ts, sel t = false → f t = []) : mergeAll ((ts.filter sel).map f) = mergeAll (ts.map f) := by
  induction ts with
  | nil => rfl
  | cons t ts ih =>
    have ih' := ih fun t' ht' => h t' (List.mem_cons_of_mem _ ht')
    show _ = merge2 (f t) (mergeAll (ts.map f))
    cases hs : sel t with
    | true =>
      rw [List.filter_cons_of_pos hs]
      exact congrArg (merge2 (f t)) ih'
    | false => rw [List.filter_cons_of_neg (Bool.eq_false_iff.mp hs), ih', h t List.mem_cons_self hs, merge2]

theorem safeCS_sub (levels : List (List Tbl)) (rm : List Nat) (lvl : Nat) (add : List Run)
    (h : safeCS levels rm lvl add = true) :
    ∀ e ∈ add.flatten, ∃ t ∈ levels.flatten, e ∈ t.run := by
  intro e he
  unfold safeCS at h
  simp only at h
  split at h
  · simp only [List.isEmpty_iff] at h
    rw [h] at he; cases he
  · simp only [Bool.and_eq_true, decide_eq_true_eq] at h
    have hm : add.flatten = mergeAll (((readOrder levels).filter (fun t => rm.contains t.id)).map (·.run)) :=
      h.1.1.1.1.1
    rw [hm] at he
    obtain ⟨r, hr, her⟩ := mem_mergeAll he
    simp only [List.mem_map, List.mem_filter] at hr
    obtain ⟨t, ⟨ht, _⟩, rfl⟩ := hr
    exact ⟨t, (readOrder_mem _ _).mp ht, her⟩

theorem merge_keepNewest_some {x y : Option Entry} {e : Entry} (h : x.merge keepNewest y = some e) :
    (x = some e ∨ y = some e) ∧ (∀ a, x = some a → a.seq ≤ e.seq) ∧ (∀ b, y = some b → b.seq ≤ e.seq) := by
  refine ⟨(Option.merge_eq_or_eq keepNewest_cases x y).imp (fun hx => hx.symm.trans h) (fun hy => hy.symm.trans h),
    ?_, ?_⟩
  · rintro a rfl
    cases y with
    | none => cases h; exact Nat.le_refl _
    | some b => cases h; exact (keepNewest_seq a b).1
  · rintro b rfl
    cases x with
    | none => cases h; exact Nat.le_refl _
    | some a => cases h; exact (keepNewest_seq a b).2

theorem lookup_merge2 {a b : Run} (ha : a.Sorted) (hb : b.Sorted) (k : Bytes) :
    Run.lookup (merge2 a b) k = (Run.lookup a k).merge keepNewest (Run.lookup b k) := by
  fun_induction merge2 a b with
  | case1 b => exact Option.merge_none_left.symm
  | case2 a as => exact Option.merge_none_right.symm
  | case3 x xs y ys hc ih =>
    -- the smaller head comes first, and the other run does not hold its key
    rw [Run.lookup_cons x (merge2 xs (y :: ys)), Run.lookup_cons x xs, ih (List.Pairwise.of_cons ha) hb]
    by_cases hk : x.key = k
    · rw [if_pos hk, if_pos hk, ← hk, Run.lookup_none_of_lt_head hb hc]
      rfl
    · rw [if_neg hk, if_neg hk]
  | case4 x xs y ys hc ih =>
    rw [Run.lookup_cons y (merge2 (x :: xs) ys), Run.lookup_cons y ys, ih ha (List.Pairwise.of_cons hb)]
    by_cases hk : y.key = k
    · rw [if_pos hk, if_pos hk, ← hk, Run.lookup_none_of_lt_head ha (Bytes.cmp_gt_iff_lt.mp hc)]
      rfl
    · rw [if_neg hk, if_neg hk]
  | case5 x xs y ys hc ih =>
    have heq : x.key = y.key := Bytes.cmp_eq_iff.mp hc
    rw [Run.lookup_cons (keepNewest x y), Run.lookup_cons x xs, Run.lookup_cons y ys, keepNewest_key heq, ← heq,
      ih (List.Pairwise.of_cons ha) (List.Pairwise.of_cons hb)]
    by_cases hk : x.key = k
    · rw [if_pos hk, if_pos hk, if_pos hk]
      rfl
    · rw [if_neg hk, if_neg hk, if_neg hk]

/-- the best hit over a list of runs, combined as the merge combines them -/
def bestHit (rs : List Run) (k : Bytes) : Option Entry := rs.foldr (fun r acc => (r.lookup k).merge keepNewest acc) none

theorem bestHit_cons (r : Run) (rs : List Run) (k : Bytes) :
    bestHit (r :: rs) k = (r.lookup k).merge keepNewest (bestHit rs k) := rfl

theorem lookup_mergeAll {rs : List Run} (h : ∀ r ∈ rs, r.Sorted) (k : Bytes) :
    Run.lookup (mergeAll rs) k = bestHit rs k := by
  induction rs with
  | nil => rfl
  | cons r rs ih =>
    have hrs : ∀ x ∈ rs, x.Sorted := fun x hx => h x (List.mem_cons_of_mem _ hx)
    show Run.lookup (merge2 r (mergeAll rs)) k = (r.lookup k).merge keepNewest (bestHit rs k)
    rw [lookup_merge2 (h r List.mem_cons_self) (mergeAll_sorted hrs), ih hrs]

theorem bestHit_append (xs ys : List Run) (k : Bytes) :
    bestHit (xs ++ ys) k = (bestHit xs k).merge keepNewest (bestHit ys k) := by
  induction xs with
  | nil => exact Option.merge_none_left.symm
  | cons r rs ih =>
    rw [List.cons_append, bestHit_cons, bestHit_cons, ih, Std.Associative.assoc (op := Option.merge keepNewest)]

theorem bestHit_none {rs : List Run} {k : Bytes} : bestHit rs k = none ↔ ∀ r ∈ rs, r.lookup k = none := by
  induction rs with
  | nil => simp [bestHit]
  | cons r rs ih => rw [bestHit_cons, Option.merge_eq_none_iff, ih, List.forall_mem_cons]

theorem bestHit_some {rs : List Run} {k : Bytes} {e : Entry} (h : bestHit rs k = some e) :
    (∃ r ∈ rs, r.lookup k = some e) ∧ ∀ r ∈ rs, ∀ e', r.lookup k = some e' → e'.seq ≤ e.seq := by
  induction rs generalizing e with
  | nil => cases h
  | cons r rs ih =>
    rw [bestHit_cons] at h
    obtain ⟨hor, h1, h2⟩ := merge_keepNewest_some h
    constructor
    · cases hor with
      | inl hl => exact ⟨r, List.mem_cons_self, hl⟩
      | inr hr =>
        obtain ⟨r', hr', hl'⟩ := (ih hr).1
        exact ⟨r', List.mem_cons_of_mem _ hr', hl'⟩
    · intro r' hr' e' hl'
      cases hr' with
      | head => exact h1 e' hl'
      | tail _ hr' =>
        cases hb : bestHit rs k with
        | none => rw [bestHit_none.mp hb r' hr'] at hl'; cases hl'
        | some b => exact Nat.le_trans ((ih hb).2 r' hr' e' hl') (h2 b hb)

/-- what makes a hit `x` harmless in a merge by sequence number that should answer `o` (`bestHit_eq`) -/
def Genuine (o : Option Entry) (x : Entry) : Prop := ∃ e, o = some e ∧ x.seq ≤ e.seq ∧ (x.seq = e.seq → x = e)

theorem bestHit_eq {rs : List Run} {k : Bytes} {o : Option Entry}
    (hgen : ∀ r ∈ rs, ∀ x, r.lookup k = some x → Genuine o x)
    (hcov : ∀ e, o = some e → ∃ r ∈ rs, r.lookup k = some e) : bestHit rs k = o := by
  cases hb : bestHit rs k with
  | none =>
    cases o with
    | none => rfl
    | some e =>
      obtain ⟨r, hr, hl⟩ := hcov e rfl
      rw [bestHit_none.mp hb r hr] at hl
      cases hl
  | some x =>
    obtain ⟨⟨r, hr, hl⟩, hmax⟩ := bestHit_some hb
    obtain ⟨e, rfl, hle, heq⟩ := hgen r hr x hl
    obtain ⟨r', hr', hl'⟩ := hcov e rfl
    rw [heq (Nat.le_antisymm hle (hmax r' hr' e hl'))]

theorem firstHit_genuine {cs : List Run} (h : NewerAbove cs) {r : Run} (hr : r ∈ cs) {k : Bytes} {x : Entry}
    (hl : r.lookup k = some x) : Genuine (firstHit cs k) x := by
  induction cs with
  | nil => cases hr
  | cons c cs ih =>
    rw [firstHit, firstSome]
    unfold Genuine
    cases hc : c.lookup k with
    | some e =>
      refine ⟨e, rfl, ?_⟩
      rcases List.mem_cons.mp hr with rfl | hr
      · rw [hc] at hl
        cases hl
        exact ⟨Nat.le_refl _, fun _ => rfl⟩
      · -- a hit further down is strictly older
        obtain ⟨hme, hke⟩ := Run.lookup_some_mem hc
        obtain ⟨hmx, hkx⟩ := Run.lookup_some_mem hl
        have hlt := h.1 e hme r hr x hmx (hkx.trans hke.symm)
        exact ⟨Nat.le_of_lt hlt, fun heq => absurd heq (Nat.ne_of_lt hlt)⟩
    | none =>
      rcases List.mem_cons.mp hr with rfl | hr
      · rw [hc] at hl
        cases hl
      · exact ih h.2 hr

theorem hit_genuine {s : State} {m : Spec} (h : Inv s m) {r : Run} (hr : r ∈ containers s) {k : Bytes} {x : Entry}
    (hl : r.lookup k = some x) : Genuine (Spec.get m k) x :=
  h.hit k ▸ firstHit_genuine h.newer hr hl

theorem bestHit_eq_firstHit {cs rs : List Run} (h : NewerAbove cs) (hm : ∀ r, r ∈ cs ↔ r ∈ rs) (k : Bytes) :
    bestHit rs k = firstHit cs k :=
  bestHit_eq (fun r hr _ hl => firstHit_genuine h ((hm r).mpr hr) hl) fun _ he =>
    let ⟨r, hr, hl⟩ := firstSome_some he
    ⟨r, (hm r).mp hr, hl⟩

theorem lookup_prefixRun (p : Bytes) (r : Run) (k : Bytes) :
    Run.lookup (prefixRun p r) k = if Bytes.hasPrefix k p then Run.lookup r k else none := by
  induction r with
  | nil => cases Bytes.hasPrefix k p <;> rfl
  | cons x xs ih =>
    rw [prefixRun] at ih ⊢
    rw [List.filter_cons, Run.lookup_cons x xs]
    by_cases hx : Bytes.hasPrefix x.key p = true
    · rw [if_pos hx, Run.lookup_cons, ih]
      by_cases hk : x.key = k
      · rw [if_pos hk, if_pos hk, ← hk, if_pos hx]
      · rw [if_neg hk, if_neg hk]
    · rw [if_neg hx, ih]
      by_cases hk : x.key = k
      · subst hk; rw [if_neg hx, if_neg hx]
      · rw [if_neg hk]

theorem prefixRun_sorted (p : Bytes) {r : Run} (h : r.Sorted) : (prefixRun p r).Sorted :=
  List.Pairwise.filter _ h

theorem prefixRun_map_sorted (p : Bytes) {rs : List Run} (h : ∀ r ∈ rs, r.Sorted) :
    ∀ r ∈ rs.map (prefixRun p), r.Sorted :=
  List.forall_mem_map.mpr fun r hr => prefixRun_sorted p (h r hr)

theorem bestHit_map_prefix (p : Bytes) (rs : List Run) (k : Bytes) :
    bestHit (rs.map (prefixRun p)) k = if Bytes.hasPrefix k p then bestHit rs k else none := by
  induction rs with
  | nil => cases Bytes.hasPrefix k p <;> rfl
  | cons r rs ih =>
    rw [List.map_cons, bestHit_cons, bestHit_cons, ih, lookup_prefixRun]
    cases Bytes.hasPrefix k p <;> rfl

def noWrite : List Act → Bool
  | [] => true
  | .put .. :: _ => false
  | .del .. :: _ => false
  | _ :: as => noWrite as

theorem noWrite_mem {as : List Act} (h : noWrite as = true) {a : Act} (ha : a ∈ as) :
    (∀ k v, a ≠ .put k v) ∧ ∀ k, a ≠ .del k := by
  fun_induction noWrite as with
  | case1 => cases ha
  | case2 => cases h
  | case3 => cases h
  | case4 b as hp hd ih =>
    cases ha with
    | head => exact ⟨fun k v e => hp k v e, fun k e => hd k e⟩
    | tail _ ha => exact ih h ha

theorem step_noWrite {s s' : State} {a : Act} (hnw : (∀ k v, a ≠ .put k v) ∧ ∀ k, a ≠ .del k)
    (hstep : step s a = some s') (m : Spec) :
    specStep m s.seq a = m ∧ ∀ r ∈ s'.mems, r ∈ s.mems ∨ r = [] := by
  cases step_some hstep with
  | put k v => exact absurd rfl (hnw.1 k v)
  | del k => exact absurd rfl (hnw.2 k)
  | rotate => exact ⟨rfl, fun r hr => (List.mem_append.mp hr).imp_right List.mem_singleton.mp⟩
  | flushCommit => exact ⟨rfl, fun r hr => Or.inl (List.mem_of_mem_drop hr)⟩
  | flushBegin | flushAbort | compact | getA | getB => exact ⟨rfl, fun _ hr => Or.inl hr⟩

theorem runBoth_noWrite {as : List Act} {s s' : State} {m m' : Spec} (hnw : noWrite as = true)
    (hrun : runBoth s m as = some (s', m')) : m' = m ∧ ∀ r ∈ s'.mems, r ∈ s.mems ∨ r = [] := by
  refine runBoth_induct (ok := fun a => (∀ k v, a ≠ .put k v) ∧ ∀ k, a ≠ .del k)
    (P := fun s' m' => m' = m ∧ ∀ r ∈ s'.mems, r ∈ s.mems ∨ r = [])
    (fun {s₁ m₁ a s₂} hok h hs => ?_) (fun a ha => noWrite_mem hnw ha) ⟨rfl, fun _ hr => Or.inl hr⟩ hrun
  obtain ⟨hm, hsub⟩ := step_noWrite hok hs m₁
  exact ⟨hm.trans h.1, fun r hr => (hsub r hr).elim (h.2 r) Or.inr⟩

/-- the merge `DB.ScanPrefix` builds from a memtable list and a list of tables, delete markers still present -/
def scanWithRaw (mems : List Run) (T : List Tbl) (p : Bytes) : Run :=
  merge2 (mergeAll (mems.map (prefixRun p))) (mergeAll (T.map (·.scan p)))

/-- memtable phase in state `sA`, sstable phase in state `sB`, delete markers still present -/
def scan2Raw (sA sB : State) (p : Bytes) : Run := scanWithRaw sA.mems sB.levels.flatten p

/-- a table selection for prefix `p` is adequate for the level list `L` if it selects only tables of `L` and
every table of `L` holding a key with the prefix -/
def Selects (T : List Tbl) (L : List (List Tbl)) (p : Bytes) : Prop :=
  (∀ t ∈ T, t ∈ L.flatten) ∧ ∀ t ∈ L.flatten, ∀ e ∈ t.run, Bytes.hasPrefix e.key p = true → t ∈ T

theorem selects_all (L : List (List Tbl)) (p : Bytes) : Selects L.flatten L p :=
  ⟨fun _ h => h, fun _ h _ _ _ => h⟩

/-- `DB.ScanPrefix` with the memtables read in state `sA` and ALL tables of the level list of the (later) state `sB`
merged -/
def scan2 (sA sB : State) (p : Bytes) : Run :=
  (merge2 (mergeAll (sA.mems.map (prefixRun p))) (mergeAll ((sB.levels.flatten).map (·.scan p)))).filter
    (fun e => !e.del)

theorem scan2_self (s : State) (p : Bytes) : scan2 s s p = scan s p := rfl

theorem lookup_scanWithRaw_eq_bestHit {mems : List Run} {T : List Tbl} (hm : ∀ r ∈ mems, r.Sorted)
    (hT : ∀ t ∈ T, t.run.Sorted) (p k : Bytes) :
    Run.lookup (scanWithRaw mems T p) k =
      if Bytes.hasPrefix k p then bestHit (mems ++ T.map (·.run)) k else none := by
  have hmap : T.map (·.scan p) = (T.map (·.run)).map (prefixRun p) := by rw [List.map_map]; rfl
  have hsm := prefixRun_map_sorted p hm
  have hsT := prefixRun_map_sorted p (List.forall_mem_map.mpr hT)
  rw [scanWithRaw, hmap, lookup_merge2 (mergeAll_sorted hsm) (mergeAll_sorted hsT), lookup_mergeAll hsm,
    lookup_mergeAll hsT, ← bestHit_append, ← List.map_append, bestHit_map_prefix]

theorem scanWithRaw_sorted {mems : List Run} {T : List Tbl} (hm : ∀ r ∈ mems, r.Sorted)
    (hT : ∀ t ∈ T, t.run.Sorted) (p : Bytes) : (scanWithRaw mems T p).Sorted :=
  merge2_sorted (mergeAll_sorted (prefixRun_map_sorted p hm))
    (mergeAll_sorted (List.forall_mem_map.mpr fun t ht => prefixRun_sorted p (hT t ht)))

theorem lookup_scanWithRaw {sA sB : State} {m : Spec} (hA : Inv sA m) (hB : Inv sB m)
    (hsub : ∀ r ∈ sB.mems, r ∈ sA.mems ∨ r = []) {T : List Tbl} (p : Bytes) (hT : Selects T sB.levels p)
    (k : Bytes) :
    Run.lookup (scanWithRaw sA.mems T p) k = if Bytes.hasPrefix k p then Spec.get m k else none := by
  rw [lookup_scanWithRaw_eq_bestHit hA.sorted_mems fun t ht => hB.sorted_tbls t (hT.1 t ht)]
  cases hp : Bytes.hasPrefix k p with
  | false => rfl
  | true =>
    rw [if_pos rfl, if_pos rfl]
    refine bestHit_eq (fun r hr x hl => ?_) (fun e he => ?_)
    · rcases List.mem_append.mp hr with hr | hr
      · exact hit_genuine hA (mem_containers_of_mem hr) hl
      · obtain ⟨t, ht, rfl⟩ := List.mem_map.mp hr
        exact hit_genuine hB (tbl_containers_of_mem (hT.1 t ht)) hl
    · -- the latest version lies in a memtable of `sB`, hence of `sA`, or in a table of `sB`, which `T` selects
      obtain ⟨r, hr, hl⟩ := firstSome_some ((hB.hit k).trans he)
      rcases List.mem_append.mp hr with hr | hr
      · rcases hsub r (List.mem_reverse.mp hr) with hin | rfl
        · exact ⟨r, List.mem_append_left _ hin, hl⟩
        · cases hl
      · obtain ⟨t, ht, rfl⟩ := List.mem_map.mp hr
        obtain ⟨hme, hke⟩ := Run.lookup_some_mem hl
        have htT : t ∈ T := hT.2 t ((readOrder_mem _ t).mp ht) e hme (hke ▸ hp)
        exact ⟨t.run, List.mem_append_right _ (List.mem_map_of_mem htT), hl⟩

/-- `ScanPrefix` over the memtables of `sA` and an adequate table selection of `sB`: strictly ascending, and
exactly the live latest entries with the prefix -/
theorem scanWith_spec {sA sB : State} {m : Spec} (hA : Inv sA m) (hB : Inv sB m)
    (hsub : ∀ r ∈ sB.mems, r ∈ sA.mems ∨ r = []) {T : List Tbl} (p : Bytes) (hT : Selects T sB.levels p) :
    Run.Sorted ((scanWithRaw sA.mems T p).filter (fun e => !e.del)) ∧
    ∀ e, e ∈ (scanWithRaw sA.mems T p).filter (fun e => !e.del) ↔
      (Spec.get m e.key = some e ∧ e.del = false ∧ Bytes.hasPrefix e.key p = true) := by
  have hs := scanWithRaw_sorted hA.sorted_mems (fun t ht => hB.sorted_tbls t (hT.1 t ht)) p
  refine ⟨List.Pairwise.filter _ hs, fun e => ?_⟩
  rw [List.mem_filter]
  constructor
  · rintro ⟨hm, hd⟩
    have hl := Run.lookup_of_mem hs hm
    rw [lookup_scanWithRaw hA hB hsub p hT] at hl
    by_cases hp : Bytes.hasPrefix e.key p = true
    · rw [if_pos hp] at hl
      exact ⟨hl, by simpa using hd, hp⟩
    · rw [if_neg hp] at hl
      cases hl
  · rintro ⟨hg, hd, hp⟩
    have hl : Run.lookup (scanWithRaw sA.mems T p) e.key = some e := by
      rw [lookup_scanWithRaw hA hB hsub p hT, if_pos hp]
      exact hg
    exact ⟨(Run.lookup_some_mem hl).1, by rw [hd]; rfl⟩

/-- A `ScanPrefix` in two phases: the memtable list is snapshotted and merged first (`db.mtables.ScanPrefix`, state
`sA`), the level list later (`db.currentSSTables()`, state `sB`, over an adequate selection), with background flush
commits / compaction commits (and, in the model, rotations and point reads) in between. No foreground write happens in
between (reads and writes share one goroutine). The scan sees one specification throughout and meets it.

What is kept along the write-free stretch: every non-empty memtable of the later state is one of the memtables of
the snapshot (`rotate` appends an empty one, `flushCommit` drops a prefix, nothing else touches the list). Together
with the invariant of the later state this gives coverage: the latest version of a key lies in a memtable of the
later state, hence of the snapshot, or in a table of the later level list. Every candidate the merge sees is a
version held by a container of the earlier or of the later state, so none is newer than the latest version and only
the latest version itself has its sequence number; `keepNewest` therefore selects it.

The invariant of `sB` is a premise: it holds along `hrun`, but only by C18's `compactionSound`, whose proof rests on
this file. -/
theorem scanWith_two_phase {sA sB : State} {m m' : Spec} (hA : Inv sA m) (hB : Inv sB m') {as : List Act}
    (hnw : noWrite as = true) (hrun : runBoth sA m as = some (sB, m')) {T : List Tbl} (p : Bytes)
    (hT : Selects T sB.levels p) :
    m' = m ∧ Run.Sorted ((scanWithRaw sA.mems T p).filter (fun e => !e.del)) ∧
    ∀ e, e ∈ (scanWithRaw sA.mems T p).filter (fun e => !e.del) ↔
      (Spec.get m e.key = some e ∧ e.del = false ∧ Bytes.hasPrefix e.key p = true) := by
  obtain ⟨rfl, hsub⟩ := runBoth_noWrite hnw hrun
  exact ⟨rfl, scanWith_spec hA hB hsub p hT⟩

/-- `ScanPrefix` in one state: strictly ascending, and exactly the live latest entries with the prefix -/
theorem scan_spec {s : State} {m : Spec} (h : Inv s m) (p : Bytes) :
    (scan s p).Sorted ∧
    ∀ e, e ∈ scan s p ↔ (Spec.get m e.key = some e ∧ e.del = false ∧ Bytes.hasPrefix e.key p = true) :=
  scanWith_spec h h (fun _ hr => Or.inl hr) p (selects_all s.levels p)

end Rxn.Lsm
