import RxnModel.Proofs.CkptInv
/-!
`Inv` holds along every history; with `FInv`, a listed checkpoint whose handle was returned opens and reads as the
state it was captured in.
-/
namespace Rxn.Ckpt
open Rxn Rxn.Lsm

theorem inv_step (s s' : State) (a : Act) (hi : Inv s) (h : step s a = some s') : Inv s' := by
  cases a with
  | «open» id rots =>
    obtain ⟨c, _, hr⟩ := step_open.mp h
    obtain ⟨recs, _, hrep⟩ := restore_some.mp hr
    exact replay_inv _ _ _ _ (restoreBase_inv s.files c) hrep
  | write del k v rot => exact write_inv hi (step_write.mp h).2.2
  | flushBegin n =>
    obtain ⟨db', hdb, rfl⟩ := step_flushBegin h
    rw [lsm_flushBegin hdb]
    exact ⟨hi.parts, hi.cons, hi.segs, hi.act, hi.wl, hi.tbls, hi.le, hi.rd⟩
  | flushCommit => exact flushCommit_inv hi h
  | compact rm lvl add => exact compact_inv hi h
  | checkpoint id =>
    -- `Rotate` seals the active segment under the writer's marker and keeps every record
    obtain ⟨_, _, rfl⟩ := step_checkpoint h
    exact
    { parts := by rw [rotate_entries]; exact hi.parts
      cons := by rw [rotate_entries]; exact hi.cons
      segs := forall_mem_snoc.mpr ⟨hi.segs, hi.act⟩
      act := fun e he => absurd he List.not_mem_nil
      wl := hi.wl, tbls := hi.tbls, le := hi.le, rd := hi.rd }
  | saveWal id =>
    obtain ⟨_, _, _, rfl⟩ := step_saveWal h
    exact hi.congr rfl rfl rfl
  | saveDoc id =>
    obtain ⟨_, _, _, _, rfl⟩ := step_saveDoc h
    exact hi.congr rfl rfl rfl
  | retain ids =>
    rw [step_retain h]
    exact hi.congr rfl rfl rfl
  | saveList =>
    rw [step_saveList h]
    exact hi.congr rfl rfl rfl
  | destroy =>
    obtain ⟨_, _, _, rfl⟩ := step_destroy h
    exact hi.congr rfl rfl rfl
  | orphan id run =>
    rw [(step_orphan h).2]
    exact hi.congr rfl rfl rfl
  | crash =>
    rw [step_crash h]
    exact hi.congr rfl rfl rfl
  | openBegin id =>
    obtain ⟨c, _, _, _, rfl⟩ := step_openBegin h
    exact (restoreBase_inv s.files c).congr rfl rfl rfl
  | replayOne rot =>
    obtain ⟨_, _, _, s1, _, h1, rfl⟩ := step_replayOne.mp h
    exact (write_inv hi h1).congr rfl rfl rfl

theorem init_inv : Inv ({} : State) :=
  { parts := ⟨[[]], rfl, List.cons_ne_nil _ _, rfl⟩
    cons := ⟨1, trivial, Nat.le_refl _, rfl⟩
    segs := List.forall_mem_nil _
    act := List.forall_mem_nil _
    wl := Nat.le_refl _
    tbls := List.forall_mem_nil _
    le := Nat.le_refl _
    rd := rfl }

theorem inv_run (as : List Act) (s s' : State) (hi : Inv s) (h : run s as = some s') : Inv s' :=
  run_induct inv_step as s s' hi h

/-- how a history connects the capture state `s₁` and the listing state `s` plays no part -/
theorem open_of_listed {s s₁ : State} (hf : FInv s) (hi : Inv s₁) {id : Nat} (hret : capture s₁ id ∈ s.ckpts)
    (hdone : id ∈ s.done) (rots : List Nat) :
    ∃ r, step s (.open id rots) = some r ∧ Inv r ∧ FInv r ∧
      ∀ k, answer (Lsm.get r.db k) = answer (Lsm.get s₁.db k) := by
  obtain ⟨r, hr, hir, hget⟩ := restore_capture hi s.files id rots
  have hstep : step s (.open id rots) = some r := step_open.mpr ⟨_, load_of_done s hf _ hret hdone, hr⟩
  exact ⟨r, hstep, hir, finv_open s r id rots hstep, hget⟩

end Rxn.Ckpt
