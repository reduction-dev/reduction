import RxnModel.Model.Reorder
import RxnModel.Proofs.Batcher
import RxnModel.Proofs.Lists
/-! For C20/C04: `step` of `Model/Reorder.lean` as a relation, and its inductive invariant. -/
namespace Rxn.Reorder
variable {α ρ : Type}

/-- the batch a flusher got from `batcher.Flush` and has not yet handed to `Reserve` -/
def held : Pc α → List α
  | .mid evs => evs
  | _ => []

@[simp] theorem held_mid (evs : List α) : held (.mid evs) = evs := rfl
@[simp] theorem held_idle : held (.idle : Pc α) = [] := rfl
@[simp] theorem held_added : held (.added : Pc α) = [] := rfl
@[simp] theorem held_enter : held (.enter : Pc α) = [] := rfl
@[simp] theorem held_locked : held (.locked : Pc α) = [] := rfl

theorem held_of_not_holds (p : Pc α) (h : p.holds = false) : held p = [] := by
  cases p <;> first | rfl | cases h

theorem Pc.eq_idle {p : Pc α} (h : p.isIdle = true) : p = .idle := by
  cases p <;> first | rfl | cases h

abbrev cur : Option (List ρ) → List ρ := curOf

theorem lookupSeq_nil (seq : Nat) : lookupSeq seq ([] : List (Nat × List α)) = none := rfl
theorem lookupSeq_cons (seq k : Nat) (e : List α) (rest : List (Nat × List α)) :
    lookupSeq seq ((k, e) :: rest) = if k = seq then some e else lookupSeq seq rest := rfl

theorem mem_of_lookupSeq {seq : Nat} {l : List (Nat × List α)} {e : List α} (h : lookupSeq seq l = some e) :
    (seq, e) ∈ l := by
  induction l with
  | nil => cases h
  | cons p rest ih =>
    obtain ⟨k, e'⟩ := p
    rw [lookupSeq_cons] at h
    split at h
    · next hk => simp at h; subst hk; subst h; simp
    · exact List.mem_cons_of_mem _ (ih h)

theorem lookupSeq_of_mem {seq : Nat} {l : List (Nat × List α)} {e : List α} (h : (seq, e) ∈ l) :
    ∃ e', lookupSeq seq l = some e' := by
  induction l with
  | nil => simp at h
  | cons p rest ih =>
    obtain ⟨k, e'⟩ := p
    rw [lookupSeq_cons]
    split
    · exact ⟨e', rfl⟩
    · next hk =>
      rcases List.mem_cons.mp h with h1 | h1
      · simp at h1; exact absurd h1.1.symm hk
      · exact ih h1

theorem results_no_errors (g : α → ρ) (bs : List (Nat × List α)) :
    (bs.map (resultOf (List.map g) (fun _ => false))).flatten = ((bs.map Prod.snd).flatten).map g := by
  -- without failures `resultOf` is `List.map g ∘ Prod.snd`, by computation
  rw [List.map_flatten, List.map_map]; rfl

theorem inputOf_eq_nil {a : Act α} (h : ∀ x, a ≠ .pAdd x) : inputOf a = [] := by
  cases a <;> first | rfl | exact absurd rfl (h _)

theorem inputs_cons (a : Act α) (as : List (Act α)) : inputs (a :: as) = inputOf a ++ inputs as := rfl

theorem inputs_append (as cs : List (Act α)) : inputs (as ++ cs) = inputs as ++ inputs cs := by
  simp [inputs]

theorem inputs_snoc (as : List (Act α)) (a : Act α) : inputs (as ++ [a]) = inputs as ++ inputOf a := by
  rw [inputs_append, inputs_cons]; exact congrArg _ (List.append_nil _)

theorem exec_nil (f : List α → List ρ) (fails : Nat → Bool) (b : Bool) (r : Run α ρ) : exec f fails b r [] = some r := rfl
theorem exec_cons (f : List α → List ρ) (fails : Nat → Bool) (b : Bool) (r : Run α ρ) (a : Act α) (as : List (Act α)) :
    exec f fails b r (a :: as) =
      match step f fails b r.st a with
      | none => none
      | some (s', o) => exec f fails b { st := s', ins := r.ins ++ inputOf a, out := r.out ++ o } as := rfl

theorem exec_induction {f : List α → List ρ} {fails : Nat → Bool} {b : Bool} {P : Run α ρ → Prop}
    (hstep : ∀ (r : Run α ρ) (a : Act α) (s' : St α ρ) (o : List ρ), P r → step f fails b r.st a = some (s', o) →
      P { st := s', ins := r.ins ++ inputOf a, out := r.out ++ o }) (as : List (Act α)) :
    ∀ r r' : Run α ρ, exec f fails b r as = some r' → P r → P r' := by
  induction as with
  | nil => intro r r' he h; cases he; exact h
  | cons a as ih =>
    intro r r' he h
    rw [exec_cons] at he
    split at he
    · cases he
    · next s' o hs => exact ih _ r' he (hstep r a s' o h hs)

theorem exec_ins (f : List α → List ρ) (fails : Nat → Bool) (b : Bool) (as : List (Act α)) :
    ∀ (r r' : Run α ρ), exec f fails b r as = some r' → r'.ins = r.ins ++ inputs as := by
  induction as with
  | nil => intro r r' he; cases he; simp [inputs]
  | cons a as ih =>
    intro r r' he
    rw [exec_cons] at he
    split at he
    · cases he
    · simp [ih _ r' he, inputs]

theorem exec_append (f : List α → List ρ) (fails : Nat → Bool) (b : Bool) (as cs : List (Act α)) :
    ∀ r : Run α ρ, exec f fails b r (as ++ cs) = (exec f fails b r as).bind (fun r1 => exec f fails b r1 cs) := by
  induction as with
  | nil => intro r; rfl
  | cons x xs ih =>
    intro r
    cases h : step f fails b r.st x with
    | none => simp [exec_cons, h]
    | some p => simp only [List.cons_append, exec_cons, h]; exact ih _

theorem exec_snoc {f : List α → List ρ} {fails : Nat → Bool} {b : Bool} {as : List (Act α)} {a : Act α} {r0 r : Run α ρ}
    {s' : St α ρ} {o : List ρ} (hrun : exec f fails b r0 as = some r) (hstep : step f fails b r.st a = some (s', o)) :
    exec f fails b r0 (as ++ [a]) = some { st := s', ins := r.ins ++ inputOf a, out := r.out ++ o } := by
  rw [exec_append, hrun, Option.bind_some, exec_cons, hstep]; rfl

/-- one constructor per enabled branch of `step`: `unlock`/`reserve` are the branches of `flushB`,
`drainTake`/`drainEnd` those of `drainNext`, `recvQ`/`recvDirect` those of `recv` -/
inductive Step (f : List α → List ρ) (fails : Nat → Bool) (atomic : Bool) (s : St α ρ) :
    Act α → St α ρ → List ρ → Prop
  | pAdd (x : α) (hp : s.pp = .idle) :
    Step f fails atomic s (.pAdd x) { s with b := Batcher.add s.b x, pp := .added } []
  | pIsFull (hp : s.pp = .added) :
    Step f fails atomic s .pIsFull { s with pp := if Batcher.isFull s.b then .enter else .idle } []
  | pFlush (hp : s.pp = .idle) : Step f fails atomic s .pFlush { s with pp := .enter } []
  | fire (hf : (Batcher.fire s.b).isSome = true) :
    Step f fails atomic s .fire { s with pendingTok := s.pendingTok + 1 } []
  | stale (hf : (Batcher.stale s.b).isSome = true) :
    Step f fails atomic s .stale { s with pendingTok := s.pendingTok + 1 } []
  | tmoRecv {n : Nat} (hp : s.tp = .idle) (hn : s.pendingTok = n + 1) :
    Step f fails atomic s .tmoRecv { s with tp := .enter, pendingTok := n } []
  | lock (t : Tid) (hp : pc s t = .enter) (hfree : (atomic && (pc s (other t)).holds) = false) :
    Step f fails atomic s (.lock t) (setPc s t .locked) []
  | flushA (t : Tid) (hp : pc s t = .locked) :
    Step f fails atomic s (.flushA t)
      (setPc { s with b := (Batcher.flush s.b .cur).1 } t (.mid (Batcher.flush s.b .cur).2)) []
  | unlock (t : Tid) (hp : pc s t = .mid []) : Step f fails atomic s (.flushB t) (setPc s t .idle) []
  | reserve (t : Tid) {e : α} {es : List α} (hp : pc s t = .mid (e :: es)) (hroom : s.reserved < s.cap) :
    Step f fails atomic s (.flushB t)
      (setPc { s with reserved := s.reserved + 1, nextSeq := s.nextSeq + 1,
                      inflight := s.inflight ++ [(s.nextSeq, e :: es)] } t .idle) []
  | fetchErr (seq : Nat) {evs : List α} (hl : lookupSeq seq s.inflight = some evs)
      (hf : (fails seq && !s.errored.contains seq) = true) :
    Step f fails atomic s (.fetchErr seq) { s with errs := s.errs + 1, errored := seq :: s.errored } []
  | fetchDone (seq : Nat) {evs : List α} (hd : s.drainer = none) (hl : lookupSeq seq s.inflight = some evs)
      (hf : (fails seq && !s.errored.contains seq) = false) :
    Step f fails atomic s (.fetchDone seq)
      { s with inflight := s.inflight.filter (fun p => p.1 != seq),
               items := fun k => if k = seq then some (resultOf f fails (seq, evs)) else s.items k,
               drainers := s.drainers + 1 } []
  | drainStart {n : Nat} (hd : s.drainer = none) (hn : s.drainers = n + 1) :
    Step f fails atomic s .drainStart { s with drainer := some [] } []
  | drainTake {x : List ρ} {r : Nat} (hd : s.drainer = some []) (hx : s.items s.drainedSeq = some x)
      (hr : s.reserved = r + 1) :
    Step f fails atomic s .drainNext
      { s with items := fun k => if k = s.drainedSeq then none else s.items k,
               drainedSeq := s.drainedSeq + 1, reserved := r, drainer := some x } []
  | drainEnd {n : Nat} (hd : s.drainer = some []) (hx : s.items s.drainedSeq = none) (hn : s.drainers = n + 1) :
    Step f fails atomic s .drainNext { s with drainer := none, drainers := n } []
  | send {x : ρ} {rest : List ρ} (hd : s.drainer = some (x :: rest)) (hroom : s.outq.length < s.ocap) :
    Step f fails atomic s .send { s with outq := s.outq ++ [x], drainer := some rest } []
  | recvQ {x : ρ} {q : List ρ} (hq : s.outq = x :: q) : Step f fails atomic s .recv { s with outq := q } [x]
  | recvDirect {x : ρ} {rest : List ρ} (hq : s.outq = []) (hc : s.ocap = 0) (hd : s.drainer = some (x :: rest)) :
    Step f fails atomic s .recv { s with drainer := some rest } [x]

section
variable {f : List α → List ρ} {fails : Nat → Bool} {atomic : Bool} {s s' : St α ρ} {a : Act α} {o : List ρ}

theorem Step.of_step (h : step f fails atomic s a = some (s', o)) : Step f fails atomic s a s' o := by
  -- `split` leaves the pattern equations and `if` conditions of the branch in the context: the constructor's
  -- hypotheses (`‹_›`), an `else` branch giving `¬ c = true` for the constructor's `c = false`
  cases a with
  | pAdd x => simp only [step] at h; split at h <;> cases h; exact .pAdd x ‹_›
  | pIsFull => simp only [step] at h; split at h <;> cases h; exact .pIsFull ‹_›
  | pFlush => simp only [step] at h; split at h <;> cases h; exact .pFlush ‹_›
  | fire => simp only [step] at h; split at h <;> cases h; exact .fire ‹_›
  | stale => simp only [step] at h; split at h <;> cases h; exact .stale ‹_›
  | tmoRecv => simp only [step] at h; split at h <;> cases h; exact .tmoRecv ‹_› ‹_›
  | lock t =>
    simp only [step] at h; split at h
    · split at h <;> cases h; exact .lock t ‹_› (eq_false_of_ne_true ‹_›)
    · cases h
  | flushA t => simp only [step] at h; split at h <;> cases h; exact .flushA t ‹_›
  | flushB t =>
    simp only [step] at h; split at h
    · cases h; exact .unlock t ‹_›
    · split at h <;> cases h; exact .reserve t ‹_› ‹_›
    · cases h
  | fetchErr seq =>
    simp only [step] at h; split at h
    · split at h <;> cases h; exact .fetchErr seq ‹_› ‹_›
    · cases h
  | fetchDone seq =>
    simp only [step] at h; split at h
    · split at h <;> cases h; exact .fetchDone seq ‹_› ‹_› (eq_false_of_ne_true ‹_›)
    · cases h
  | drainStart => simp only [step] at h; split at h <;> cases h; exact .drainStart ‹_› ‹_›
  | drainNext =>
    simp only [step] at h; split at h
    · split at h
      · split at h <;> cases h; exact .drainTake ‹_› ‹_› ‹_›
      · split at h <;> cases h; exact .drainEnd ‹_› ‹_› ‹_›
    · cases h
  | send =>
    simp only [step] at h; split at h
    · split at h <;> cases h; exact .send ‹_› ‹_›
    · cases h
  | recv =>
    simp only [step] at h; split at h
    · cases h; exact .recvQ ‹_›
    · split at h <;> cases h; exact .recvDirect ‹_› ‹_› ‹_›

theorem Step.step_eq (h : Step f fails atomic s a s' o) : step f fails atomic s a = some (s', o) := by
  cases h with
  -- `simp` would turn the guard `fails seq && !…` of the goal into a conjunction and then not find `hf`
  | fetchErr seq hl hf => simp only [step, hl, hf, if_true]
  | fetchDone seq hd hl hf => simp only [step, hd, hl, hf]; rfl
  | _ => simp [step, *]

theorem Step.enabled (h : Step f fails atomic s a s' o) : (step f fails atomic s a).isSome = true := by
  rw [h.step_eq]; rfl

end

theorem step_out (f : List α → List ρ) (fails : Nat → Bool) (b : Bool) (s s' : St α ρ) (a : Act α) (o : List ρ)
    (hs : step f fails b s a = some (s', o)) : (a = .recv → ∃ v, o = [v]) ∧ (a ≠ .recv → o = []) := by
  cases Step.of_step hs <;> simp

/-- buffer part of the invariant. `hist` lists the reserved batches with their sequence numbers in reservation
order, `G` is the result of the fetch for a batch, `outp` what the consumer has received.
`hres`: a reserved batch holds its slot of `reserved` until it is dequeued, so the drain's `<-b.reserved` never blocks.
`out` is the order statement. `cover`: no number is lost, a failed fetch hands its number in too. `live`: a stored
head has a goroutine that will drain it. -/
structure BufInv (G : Nat × List α → List ρ) (next d rs cp : Nat) (items : Nat → Option (List ρ))
    (inflight : List (Nat × List α)) (drainers : Nat) (drainer : Option (List ρ)) (oc : Nat) (outq : List ρ)
    (outp : List ρ) (hist : List (Nat × List α)) : Prop where
  len : hist.length = next
  seqs : ∀ (k : Nat) (p : Nat × List α), hist[k]? = some p → p.1 = k
  dle : d ≤ next
  hres : rs = next - d
  capb : rs ≤ cp
  out : outp ++ outq ++ cur drainer = ((hist.take d).map G).flatten
  ocapb : outq.length ≤ oc
  infl : ∀ k e, (k, e) ∈ inflight → d ≤ k ∧ hist[k]? = some (k, e) ∧ items k = none
  nodup : (inflight.map Prod.fst).Nodup
  itm : ∀ k x, items k = some x → d ≤ k ∧ ∃ p, hist[k]? = some p ∧ x = G p
  cover : ∀ k, d ≤ k → k < next → items k ≠ none ∨ ∃ e, (k, e) ∈ inflight
  live : items d ≠ none → 0 < drainers
  dact : drainer ≠ none → 0 < drainers

structure Inv (f : List α → List ρ) (fails : Nat → Bool) (r : Run α ρ) (hist : List (Nat × List α)) : Prop where
  buf : BufInv (resultOf f fails) r.st.nextSeq r.st.drainedSeq r.st.reserved r.st.cap r.st.items r.st.inflight
    r.st.drainers r.st.drainer r.st.ocap r.st.outq r.out hist
  mutex : ¬ (r.st.pp.holds = true ∧ r.st.tp.holds = true)
  ins : r.ins = (hist.map Prod.snd).flatten ++ held r.st.pp ++ held r.st.tp ++ r.st.b.batch

section buf
variable {G : Nat × List α → List ρ} {next d rs cp : Nat} {items : Nat → Option (List ρ)}
  {inflight : List (Nat × List α)} {drainers : Nat} {drainer : Option (List ρ)} {oc : Nat} {outq outp : List ρ}
  {hist : List (Nat × List α)} {r : Nat}

theorem BufInv.reserve (hb : BufInv G next d rs cp items inflight drainers drainer oc outq outp hist)
    (evs : List α) (hlt : rs < cp) :
    BufInv G (next + 1) d (rs + 1) cp items (inflight ++ [(next, evs)]) drainers drainer oc outq outp
      (hist ++ [(next, evs)]) := by
  have hnone : items next = none := by
    cases hi : items next with
    | none => rfl
    | some x =>
      obtain ⟨_, e, he, _⟩ := hb.itm next x hi
      have := getElem?_lt_of_some he
      have := hb.len; omega
  refine ⟨by simp [hb.len], ?_, by have := hb.dle; omega, by have := hb.hres; have := hb.dle; omega, by omega, ?_,
    hb.ocapb, ?_, ?_, ?_, ?_, hb.live, hb.dact⟩
  · intro k p hk
    by_cases hlt' : k < hist.length
    · rw [List.getElem?_append_left hlt'] at hk; exact hb.seqs k p hk
    · have hk' := getElem?_lt_of_some hk
      simp at hk'
      have : k = hist.length := by omega
      subst this
      simp at hk
      rw [← hk]; exact hb.len.symm
  · rw [List.take_append_of_le_length (by rw [hb.len]; exact hb.dle)]; exact hb.out
  · intro k e hke
    rcases List.mem_append.mp hke with h | h
    · obtain ⟨h1, h2, h3⟩ := hb.infl k e h
      exact ⟨h1, getElem?_append_of_some _ h2, h3⟩
    · simp at h
      obtain ⟨rfl, rfl⟩ := h
      refine ⟨hb.dle, ?_, hnone⟩
      simp [← hb.len]
  · rw [List.map_append]
    refine nodup_append_singleton hb.nodup fun ha => ?_
    obtain ⟨p, hp, hp1⟩ := List.mem_map.mp ha
    obtain ⟨_, h2, _⟩ := hb.infl p.1 p.2 hp
    have := getElem?_lt_of_some h2
    have := hb.len; omega
  · intro k x hk
    obtain ⟨h1, e, he, hx⟩ := hb.itm k x hk
    exact ⟨h1, e, getElem?_append_of_some _ he, hx⟩
  · intro k h1 h2
    by_cases hk : k < next
    · rcases hb.cover k h1 hk with h | ⟨e, he⟩
      · exact Or.inl h
      · exact Or.inr ⟨e, List.mem_append_left _ he⟩
    · have : k = next := by omega
      subst this
      exact Or.inr ⟨evs, by simp⟩

theorem BufInv.fetchDone (hb : BufInv G next d rs cp items inflight drainers drainer oc outq outp hist)
    (seq : Nat) (evs : List α) (hl : lookupSeq seq inflight = some evs) :
    BufInv G next d rs cp (fun k => if k = seq then some (G (seq, evs)) else items k)
      (inflight.filter (fun p => p.1 != seq)) (drainers + 1) drainer oc outq outp hist := by
  obtain ⟨m1, m2, _⟩ := hb.infl seq evs (mem_of_lookupSeq hl)
  refine ⟨hb.len, hb.seqs, hb.dle, hb.hres, hb.capb, hb.out, hb.ocapb, ?_, ?_, ?_, ?_, by intro _; omega, by intro _; omega⟩
  · intro k e hke
    obtain ⟨h1, h2⟩ := List.mem_filter.mp hke
    simp at h2
    obtain ⟨a, b, c⟩ := hb.infl k e h1
    exact ⟨a, b, by simp [h2, c]⟩
  · exact List.Nodup.sublist ((List.filter_sublist).map _) hb.nodup
  · intro k x hk
    by_cases hks : k = seq
    · subst hks
      simp at hk
      exact ⟨m1, (k, evs), m2, hk.symm⟩
    · simp [hks] at hk
      exact hb.itm k x hk
  · intro k h1 h2
    by_cases hks : k = seq
    · left; simp [hks]
    · rcases hb.cover k h1 h2 with h | ⟨e, he⟩
      · left; simpa [hks] using h
      · right; exact ⟨e, List.mem_filter.mpr ⟨he, by simpa using hks⟩⟩

/-- `drainer`, `outq` and `outp` enter the invariant only through their concatenation, the length of `outq` and
whether a goroutine is inside `Drain`: what `drainStart`, the end of a drain, `send` and `recv` have to show -/
theorem BufInv.of_out (hb : BufInv G next d rs cp items inflight drainers drainer oc outq outp hist)
    {drainers' : Nat} {drainer' : Option (List ρ)} {outq' outp' : List ρ}
    (hout : outp' ++ outq' ++ cur drainer' = outp ++ outq ++ cur drainer) (hcap : outq'.length ≤ oc)
    (hlive : items d ≠ none → 0 < drainers') (hdact : drainer' ≠ none → 0 < drainers') :
    BufInv G next d rs cp items inflight drainers' drainer' oc outq' outp' hist :=
  ⟨hb.len, hb.seqs, hb.dle, hb.hres, hb.capb, hout ▸ hb.out, hcap, hb.infl, hb.nodup, hb.itm, hb.cover, hlive, hdact⟩

theorem BufInv.drainStart (hb : BufInv G next d rs cp items inflight (drainers + 1) none oc outq outp hist) :
    BufInv G next d rs cp items inflight (drainers + 1) (some []) oc outq outp hist :=
  hb.of_out (by simp [cur, curOf]) hb.ocapb (fun _ => Nat.succ_pos _) (fun _ => Nat.succ_pos _)

theorem BufInv.drainTake (hb : BufInv G next d (r + 1) cp items inflight drainers (some []) oc outq outp hist)
    (x : List ρ) (hx : items d = some x) :
    BufInv G next (d + 1) r cp (fun k => if k = d then none else items k) inflight drainers (some x) oc outq outp hist := by
  obtain ⟨_, p, hp, hxp⟩ := hb.itm d x hx
  have hdl : d < hist.length := getElem?_lt_of_some hp
  have hpos := hb.dact (by simp)
  refine ⟨hb.len, hb.seqs, by have := hb.len; omega, by have := hb.hres; omega, by have := hb.capb; omega, ?_, hb.ocapb,
    ?_, hb.nodup, ?_, ?_, by intro _; exact hpos, by intro _; exact hpos⟩
  · have h0 := hb.out
    simp only [cur, curOf, List.append_nil] at h0
    obtain ⟨hlt, hget⟩ := List.getElem?_eq_some_iff.mp hp
    rw [List.take_succ_eq_append_getElem hlt, List.map_append, List.flatten_append, ← h0]
    simp [cur, curOf, hxp, hget]
  · intro k e hke
    obtain ⟨a, b, c⟩ := hb.infl k e hke
    have hkd : k ≠ d := by intro h; subst h; rw [hx] at c; simp at c
    exact ⟨by omega, b, by simp [hkd, c]⟩
  · intro k y hk
    by_cases hkd : k = d
    · simp [hkd] at hk
    · simp [hkd] at hk
      obtain ⟨a, b⟩ := hb.itm k y hk
      exact ⟨by omega, b⟩
  · intro k h1 h2
    have hkd : k ≠ d := by omega
    rcases hb.cover k (by omega) h2 with h | h
    · left; simpa [hkd] using h
    · exact Or.inr h

end buf

theorem held_eq_of_other_outside {s : St α ρ} {t : Tid} (ho : (pc s (other t)).holds = false) (l : List α) :
    l ++ held s.pp ++ held s.tp = l ++ held (pc s t) := by
  cases t
  · show l ++ held s.pp ++ held s.tp = l ++ held s.pp
    rw [show held s.tp = [] from held_of_not_holds _ ho, List.append_nil]
  · show l ++ held s.pp ++ held s.tp = l ++ held s.tp
    rw [show held s.pp = [] from held_of_not_holds _ ho, List.append_nil]

theorem Inv.of_setPc {f : List α → List ρ} {fails : Nat → Bool} {s : St α ρ} {t : Tid} {p : Pc α} {ins : List α} {out : List ρ}
    {hist : List (Nat × List α)}
    (hb : BufInv (resultOf f fails) s.nextSeq s.drainedSeq s.reserved s.cap s.items s.inflight s.drainers s.drainer
      s.ocap s.outq out hist)
    (ho : (pc s (other t)).holds = false) (hi : ins = (hist.map Prod.snd).flatten ++ held p ++ s.b.batch) :
    Inv f fails { st := setPc s t p, ins := ins, out := out } hist := by
  cases t
  · have ho' : s.tp.holds = false := ho
    exact ⟨hb, by simp [setPc, ho'], by simp [setPc, hi, held_of_not_holds _ ho']⟩
  · have ho' : s.pp.holds = false := ho
    exact ⟨hb, by simp [setPc, ho'], by simp [setPc, hi, held_of_not_holds _ ho']⟩

theorem inv_step (f : List α → List ρ) (fails : Nat → Bool) (r : Run α ρ) (hist : List (Nat × List α))
    (h : Inv f fails r hist)
    (a : Act α) (s' : St α ρ) (o : List ρ) (hs : step f fails true r.st a = some (s', o)) :
    ∃ hist', Inv f fails { st := s', ins := r.ins ++ inputOf a, out := r.out ++ o } hist' := by
  obtain ⟨hb, hm, hi⟩ := h
  have alone : ∀ t, (pc r.st t).holds = true → (pc r.st (other t)).holds = false := by
    intro t ht
    cases hh : (pc r.st (other t)).holds
    · rfl
    · cases t
      · exact absurd ⟨ht, hh⟩ hm
      · exact absurd ⟨hh, ht⟩ hm
  cases Step.of_step hs with
  | pAdd x hp =>
    exact ⟨hist, by simpa using hb, by simp [Pc.holds], by simp [inputOf, hi, hp, Batcher.add_batch]⟩
  | pIsFull hp =>
    refine ⟨hist, by simpa using hb, ?_, ?_⟩
    · dsimp only; split <;> simp [Pc.holds]
    · dsimp only; simp only [inputOf, List.append_nil, hi, hp]; split <;> simp
  | pFlush hp | tmoRecv hp _ => exact ⟨hist, by simpa using hb, by simp [Pc.holds], by simp [inputOf, hi, hp]⟩
  | fire _ | stale _ | fetchErr _ _ _ => exact ⟨hist, by simpa using hb, hm, by simpa [inputOf] using hi⟩
  | lock t hp hfree =>
    have ho : (pc r.st (other t)).holds = false := by simpa using hfree
    rw [held_eq_of_other_outside ho, hp] at hi
    exact ⟨hist, .of_setPc (by simpa using hb) ho (by simpa [inputOf] using hi)⟩
  | flushA t hp =>
    have ho := alone t (by rw [hp]; rfl)
    rw [held_eq_of_other_outside ho, hp] at hi
    exact ⟨hist, .of_setPc (by simpa using hb) ho (by simpa [inputOf, Batcher.flush_concat] using hi)⟩
  | unlock t hp =>
    have ho := alone t (by rw [hp]; rfl)
    rw [held_eq_of_other_outside ho, hp] at hi
    exact ⟨hist, .of_setPc (by simpa using hb) ho (by simpa [inputOf] using hi)⟩
  | reserve t hp hroom =>
    have ho := alone t (by rw [hp]; rfl)
    rw [held_eq_of_other_outside ho, hp] at hi
    exact ⟨_, .of_setPc (by simpa using hb.reserve _ hroom) ho (by simpa [inputOf] using hi)⟩
  | fetchDone seq hd hl hf => exact ⟨hist, by simpa using hb.fetchDone seq _ hl, hm, by simpa [inputOf] using hi⟩
  | drainStart hd hn =>
    rw [hd, hn] at hb
    exact ⟨hist, by simpa [hn] using hb.drainStart, hm, by simpa [inputOf] using hi⟩
  | drainTake hd hx hr =>
    rw [hd, hr] at hb
    exact ⟨hist, by simpa using hb.drainTake _ hx, hm, by simpa [inputOf] using hi⟩
  | drainEnd hd hx hn =>
    exact ⟨hist, hb.of_out (by simp [hd, cur, curOf]) hb.ocapb (fun h => absurd hx h) (fun h => absurd rfl h), hm,
      by simpa [inputOf] using hi⟩
  | send hd hroom =>
    exact ⟨hist, hb.of_out (by simp [hd, cur, curOf]) (by simp; omega) hb.live (fun _ => hb.dact (by simp [hd])), hm,
      by simpa [inputOf] using hi⟩
  | recvQ hq =>
    exact ⟨hist, hb.of_out (by simp [hq]) (Nat.le_of_succ_le (by simpa [hq] using hb.ocapb)) hb.live hb.dact, hm,
      by simpa [inputOf] using hi⟩
  | recvDirect hq hc hd =>
    exact ⟨hist, hb.of_out (by simp [hq, hd, cur, curOf]) hb.ocapb hb.live (fun _ => hb.dact (by simp [hd])), hm,
      by simpa [inputOf] using hi⟩

theorem Inv.complete {f : List α → List ρ} {fails : Nat → Bool} {r : Run α ρ} {hist : List (Nat × List α)}
    (h : Inv f fails r hist) (hq : quiescent r.st) :
    (hist.map Prod.snd).flatten = r.ins ∧ r.out = (hist.map (resultOf f fails)).flatten := by
  obtain ⟨q1, q2, q3, q4, q5, q6⟩ := hq
  have hd : r.st.drainedSeq = r.st.nextSeq := by
    by_cases hlt : r.st.drainedSeq < r.st.nextSeq
    · rcases h.buf.cover _ (Nat.le_refl _) hlt with hc | ⟨e, he⟩
      · have := h.buf.live hc; omega
      · rw [q4] at he; cases he
    · have := h.buf.dle; omega
  have hdr : r.st.drainer = none := by
    cases hdd : r.st.drainer with
    | none => rfl
    | some l => have := h.buf.dact (by simp [hdd]); omega
  have hi := h.ins
  have ho := h.buf.out
  rw [Pc.eq_idle q1, Pc.eq_idle q2, q3] at hi
  rw [q6, hdr, hd, ← h.buf.len, List.take_length] at ho
  exact ⟨by simpa using hi.symm, by simpa [cur, curOf] using ho⟩

theorem exec_inv (f : List α → List ρ) (fails : Nat → Bool) (as : List (Act α)) (r r' : Run α ρ)
    (hist : List (Nat × List α)) (h : Inv f fails r hist) (he : exec f fails true r as = some r') :
    ∃ hist', Inv f fails r' hist' :=
  exec_induction (P := fun r => ∃ hist, Inv f fails r hist)
    (fun r a s' o ⟨hist, h⟩ hs => inv_step f fails r hist h a s' o hs) as r r' he ⟨hist, h⟩

theorem init_inv (f : List α → List ρ) (fails : Nat → Bool) (maxSize : Nat) (hasDelay : Bool) (bufferSize : Nat) :
    Inv f fails ({ st := init maxSize hasDelay bufferSize } : Run α ρ) [] := by
  refine ⟨⟨rfl, ?_, Nat.le_refl _, rfl, Nat.zero_le _, rfl, Nat.zero_le _, ?_, ?_, ?_, ?_, ?_, ?_⟩, ?_, ?_⟩
  · intro k p h; simp at h
  · intro k e h; simp [init] at h
  · simp [init]
  · intro k x h; simp [init] at h
  · intro k h1 h2; simp [init] at h2
  · intro h; simp [init] at h
  · intro h; simp [init] at h
  · simp [init, Pc.holds]
  · simp [init, Batcher.new]

end Rxn.Reorder
