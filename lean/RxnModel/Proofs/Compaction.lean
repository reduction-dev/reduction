import RxnModel.Model.Compaction
import RxnModel.Proofs.LsmScan
import RxnModel.Proofs.Lists
/-!
Core of C18. On flat lists of tables in the order lookups visit them, replacing the removed tables by the pieces of
their merge keeps every point lookup and "newer above", provided no table that stays lies beneath a removed one sharing
a key with it. Level lists are split at the target level and reduced to that.
-/
namespace Rxn.Compaction
open Rxn Rxn.Lsm

/-- the first hit for `k` going through the tables in order -/
def hit (ts : List Tbl) (k : Bytes) : Option Entry := firstSome (fun t => t.run.lookup k) ts

abbrev NewerT (a b : Tbl) : Prop := Newer a.run b.run

theorem sortedRun_iff (r : Run) : SortedRun r ↔ Run.Sorted r := Iff.rfl

theorem hit_nil (k : Bytes) : hit [] k = none := rfl

theorem hit_eq_firstHit (ts : List Tbl) (k : Bytes) : hit ts k = firstHit (ts.map (·.run)) k := by
  rw [firstHit, firstSome_map, hit]

theorem hit_cons (t : Tbl) (ts : List Tbl) (k : Bytes) :
    hit (t :: ts) k = match t.run.lookup k with
      | some e => some e
      | none => hit ts k := by
  cases h : t.run.lookup k <;> simp [hit, firstSome, h]

theorem hit_append (xs ys : List Tbl) (k : Bytes) :
    hit (xs ++ ys) k = match hit xs k with
      | some e => some e
      | none => hit ys k := by
  unfold hit; rw [firstSome_append]
  cases firstSome (fun t : Tbl => t.run.lookup k) xs <;> rfl

theorem hit_none {ts : List Tbl} {k : Bytes} : hit ts k = none ↔ ∀ t ∈ ts, t.run.lookup k = none :=
  firstSome_eq_none _ _

theorem hit_some_mem {ts : List Tbl} {k : Bytes} {e : Entry} (h : hit ts k = some e) :
    ∃ t ∈ ts, t.run.lookup k = some e :=
  firstSome_some h

theorem hit_eq_lookup_cat (ts : List Tbl) (k : Bytes) : hit ts k = (cat ts).lookup k := by
  rw [hit_eq_firstHit, firstHit_flatten, cat, List.flatMap_def]

theorem lookup_mergeAll_eq_firstHit {cs rs : List Run} (hs : ∀ r ∈ rs, r.Sorted) (hna : NewerAbove cs)
    (hm : ∀ r, r ∈ cs ↔ r ∈ rs) (k : Bytes) : (mergeAll rs).lookup k = firstHit cs k := by
  rw [lookup_mergeAll hs, bestHit_eq_firstHit hna hm]

theorem newerAbove_map_iff (ts : List Tbl) : NewerAbove (ts.map (·.run)) ↔ ts.Pairwise NewerT := by
  rw [newerAbove_iff_pairwise, List.pairwise_map]
  exact ⟨fun h => h.imp fun hab ea hea eb heb hk => hab ea hea eb heb hk.symm,
    fun h => h.imp fun hab e he e' he' hk => hab e he e' he' hk.symm⟩

theorem pairwise_or {α : Type} {R : α → α → Prop} {l : List α} (h : l.Pairwise R) {a b : α}
    (ha : a ∈ l) (hb : b ∈ l) : a = b ∨ R a b ∨ R b a :=
  List.Pairwise.forall_of_forall_of_flip (R := fun a b => a = b ∨ R a b ∨ R b a) (fun _ _ => Or.inl rfl)
    (h.imp fun h => Or.inr (Or.inl h)) (h.imp fun h => Or.inr (Or.inr h)) ha hb

/-- the relation between a removed table and a table that stays beneath it -/
abbrev SafePair (p : Tbl → Bool) (x y : Tbl) : Prop := p x = true → p y = false → DisjointKeys x.run y.run

theorem safePair_of_kept {p : Tbl → Bool} {x y : Tbl} (h : p x = false) : SafePair p x y :=
  fun hx => by rw [h] at hx; cases hx

theorem safePair_of_removed {p : Tbl → Bool} {x y : Tbl} (h : p y = true) : SafePair p x y :=
  fun _ hy => by rw [h] at hy; cases hy

theorem hit_filter_split (p : Tbl → Bool) (U : List Tbl) (k : Bytes) (hsafe : U.Pairwise (SafePair p)) :
    (match hit (U.filter (fun t => !p t)) k with
      | some e => some e
      | none => hit (U.filter p) k) = hit U k := by
  induction U with
  | nil => rfl
  | cons t U ih =>
    have ⟨hsf1, hsf2⟩ := List.pairwise_cons.mp hsafe
    have ih' := ih hsf2
    cases hp : p t with
    | false =>
      simp only [List.filter_cons, hp, Bool.not_false, if_true, Bool.false_eq_true, if_false]
      rw [hit_cons, hit_cons]
      cases t.run.lookup k with
      | some e => rfl
      | none => exact ih'
    | true =>
      simp only [List.filter_cons, hp, Bool.not_true, Bool.false_eq_true, if_false, if_true]
      rw [hit_cons, hit_cons]
      cases hl : t.run.lookup k with
      | none => exact ih'
      | some e =>
        have ⟨hem, hek⟩ := Run.lookup_some_mem hl
        -- `t` is removed and holds `k`: no table that stays further down holds `k`
        have hkept : hit (U.filter (fun t => !p t)) k = none := by
          rw [hit_none]
          intro a ha
          have ⟨haU, hpa⟩ := List.mem_filter.mp ha
          have hpa' : p a = false := by simpa using hpa
          rw [Run.lookup_none_iff]
          intro ea hea hk
          exact hsf1 a haU hp hpa' e hem ea hea (by rw [hek, hk])
        rw [hkept]

/-- **point lookups**: going first through the tables that stay and then into the merge of the removed ones finds
what the original order finds -/
theorem core_hit (p : Tbl → Bool) (U : List Tbl) (k : Bytes)
    (hs : ∀ t ∈ U, SortedRun t.run)
    (hn : U.Pairwise NewerT)
    (hsafe : U.Pairwise (SafePair p)) :
    (match hit (U.filter (fun t => !p t)) k with
      | some e => some e
      | none => (mergeAll ((U.filter p).map (·.run))).lookup k) = hit U k := by
  have hsm : ∀ r ∈ (U.filter p).map (·.run), Run.Sorted r :=
    List.forall_mem_map.mpr fun x hx => hs x (List.mem_filter.mp hx).1
  have hna : NewerAbove ((U.filter p).map (·.run)) := (newerAbove_map_iff _).mpr (hn.sublist List.filter_sublist)
  rw [lookup_mergeAll_eq_firstHit hsm hna (fun _ => Iff.rfl), ← hit_eq_firstHit]
  exact hit_filter_split p U k hsafe

theorem sorted_cat_keys {l : List Tbl} (h : SortedRun (cat l)) :
    l.Pairwise (fun a b => ∀ ea ∈ a.run, ∀ eb ∈ b.run, Bytes.lt ea.key eb.key = true) :=
  (List.pairwise_flatMap.mp h).2

theorem sorted_cat_pairwise {l : List Tbl} (h : SortedRun (cat l)) : l.Pairwise NewerT :=
  (sorted_cat_keys h).imp fun hab ea hea eb heb hk => by
    have hlt := hab ea hea eb heb
    rw [hk, Bytes.lt_irrefl] at hlt
    cases hlt

theorem core_newer (p : Tbl → Bool) (U TB new : List Tbl)
    (hn : (U ++ TB).Pairwise NewerT)
    (hsafe : U.Pairwise (SafePair p))
    (hnewSorted : SortedRun (cat new))
    (hnewMem : ∀ e ∈ cat new, ∃ r ∈ U, p r = true ∧ e ∈ r.run) :
    (U.filter (fun t => !p t) ++ new ++ TB).Pairwise NewerT := by
  have ⟨hU, hTB, hcross⟩ := List.pairwise_append.mp hn
  rw [List.append_assoc]
  refine List.pairwise_append.mpr ⟨hU.sublist List.filter_sublist, ?_, ?_⟩
  · refine List.pairwise_append.mpr ⟨sorted_cat_pairwise hnewSorted, hTB, ?_⟩
    intro n hnn b hb en hen eb heb hk
    obtain ⟨r, hr, _, her⟩ := hnewMem en (List.mem_flatMap.mpr ⟨n, hnn, hen⟩)
    exact hcross r hr b hb en her eb heb hk
  · intro a ha b hb
    have ⟨haU, hpa⟩ := List.mem_filter.mp ha
    have hpa' : p a = false := by simpa using hpa
    cases List.mem_append.mp hb with
    | inr hbTB => exact hcross a haU b hbTB
    | inl hbn =>
      intro ea hea en hen hk
      obtain ⟨r, hr, hpr, her⟩ := hnewMem en (List.mem_flatMap.mpr ⟨b, hbn, hen⟩)
      -- `en` comes from a removed `r`: the kept `a` lies above `r` (so is newer) or beneath it (so shares no key with it)
      rcases pairwise_or (hU.and hsafe) haU hr with h | h | h
      · subst h; rw [hpa'] at hpr; cases hpr
      · exact h.1 ea hea en her hk
      · exact absurd hk.symm (h.2 hpr hpa' en her ea hea)

theorem headD_mem_flatten {L : Levels} {t : Tbl} (h : t ∈ L.headD []) : t ∈ L.flatten :=
  getD_mem_flatten (i := 0) (List.headD_eq_getD ▸ h)

theorem modify_append_length {α : Type} (xs : List α) (y : α) (ys : List α) (f : α → α) :
    (xs ++ y :: ys).modify xs.length f = xs ++ f y :: ys := by
  induction xs with
  | nil => simp
  | cons x xs ih => simp only [List.cons_append, List.length_cons, List.modify_succ_cons, ih]

theorem split_at {L : Levels} {lvl : Nat} (h : lvl < L.length) : ∃ T Lv B, L = T ++ Lv :: B ∧ T.length = lvl :=
  ⟨L.take lvl, L[lvl], L.drop (lvl + 1), by rw [← List.drop_eq_getElem_cons h, List.take_append_drop],
    List.length_take_of_le (Nat.le_of_lt h)⟩

theorem filter_kept_self {rm : List Nat} {l : List Tbl} (h : ∀ t ∈ l, rmP rm t = false) :
    l.filter (fun t => !rmP rm t) = l :=
  List.filter_eq_self.mpr (fun t ht => by rw [h t ht]; rfl)

theorem filter_kept_nil {rm : List Nat} {l : List Tbl} (h : ∀ t ∈ l, rmP rm t = true) :
    l.filter (fun t => !rmP rm t) = [] :=
  List.filter_eq_nil_iff.mpr (fun t ht => by rw [h t ht]; exact Bool.false_ne_true)

theorem filter_rm_nil {rm : List Nat} {l : List Tbl} (h : ∀ t ∈ l, rmP rm t = false) : l.filter (rmP rm) = [] :=
  List.filter_eq_nil_iff.mpr (fun t ht => by rw [h t ht]; exact Bool.false_ne_true)

theorem removeIds_eq (rm : List Nat) (D : List (List Tbl)) :
    removeIds rm D = D.map (List.filter (fun t => !rmP rm t)) := rfl

theorem removeIds_self {rm : List Nat} {D : List (List Tbl)} (h : ∀ t ∈ D.flatten, rmP rm t = false) :
    removeIds rm D = D := by
  rw [removeIds_eq]
  exact (List.map_congr_left (fun l hl => filter_kept_self (fun t ht => h t (List.mem_flatten.mpr ⟨l, hl, ht⟩)))).trans
    (List.map_id _)

theorem flatten_removeIds (rm : List Nat) (D : List (List Tbl)) :
    (removeIds rm D).flatten = D.flatten.filter (fun t => !rmP rm t) := by
  rw [removeIds_eq, List.filter_flatten]

theorem applyCS_append (T : List (List Tbl)) (Lv : List Tbl) (B : List (List Tbl)) (rm : List Nat) (n : Nat)
    (add : List Run) :
    applyCS (T ++ Lv :: B) n ⟨rm, T.length, add⟩
      = removeIds rm T ++ (Lv.filter (fun t => !rmP rm t) ++ mkTables n add) :: removeIds rm B := by
  have hlen : (removeIds rm T).length = T.length := List.length_map _
  show (removeIds rm (T ++ Lv :: B)).modify T.length (· ++ mkTables n add) = _
  rw [removeIds_eq, List.map_append, List.map_cons, ← removeIds_eq, ← removeIds_eq, ← hlen, modify_append_length]

theorem flatten_applyCS_perm {L : Levels} (n : Nat) {cs : ChangeSet} (h : cs.lvl < L.length) :
    (applyCS L n cs).flatten.Perm (L.flatten.filter (fun t => !rmP cs.rm t) ++ mkTables n cs.add) := by
  obtain ⟨rm, lvl, add⟩ := cs
  obtain ⟨T, Lv, B, rfl, rfl⟩ := split_at h
  rw [applyCS_append]
  simp only [List.flatten_append, List.flatten_cons, flatten_removeIds, List.filter_append, List.append_assoc]
  exact (List.perm_append_left_iff _).mpr ((List.perm_append_left_iff _).mpr List.perm_append_comm)

theorem applyCS_length (L : Levels) (n : Nat) (cs : ChangeSet) : (applyCS L n cs).length = L.length := by
  simp only [applyCS, addAt, removeIds, List.length_modify, List.length_map]

theorem applyCS_headD (L : Levels) (n : Nat) {cs : ChangeSet} (h : 1 ≤ cs.lvl) :
    (applyCS L n cs).headD [] = (L.headD []).filter (fun t => !rmP cs.rm t) := by
  obtain ⟨m, hm⟩ : ∃ m, cs.lvl = m + 1 := ⟨cs.lvl - 1, (Nat.sub_add_cancel h).symm⟩
  cases L with
  | nil => simp only [applyCS, addAt, removeIds, List.map_nil, List.modify_nil]; rfl
  | cons l0 D => simp only [applyCS, addAt, removeIds, hm, List.map_cons, List.modify_succ_cons, List.headD_cons]; rfl

/-- `applyCS L n ⟨rm, lvl, []⟩ = L`, in the unfolded form in which `Lsm.step` writes the new level list -/
theorem applyCS_noop {L : Levels} {rm : List Nat} (lvl n : Nat) (hno : ∀ t ∈ L.flatten, rmP rm t = false) :
    addAt (removeIds rm L) lvl (mkTables n []) = L := by
  have hid : (fun l : List Tbl => l ++ mkTables n []) = id := funext List.append_nil
  rw [removeIds_self hno, addAt, hid, List.modify_id]

/-- the part of the C07 refinement invariant that speaks about the level list -/
structure WeakValid (L : Levels) : Prop where
  sorted : ∀ t ∈ L.flatten, SortedRun t.run
  deep : ∀ l ∈ L.tail, RangeUnique l
  newer : (readOrder L).Pairwise NewerT

theorem cat_mkTables (n : Nat) (add : List Run) : cat (mkTables n add) = add.flatten := by
  unfold cat
  rw [List.flatMap_def, mkTables_map_run]

theorem endKey_mem {t : Tbl} (h : t.run ≠ []) : ∃ e ∈ t.run, t.endKey = e.key := by
  refine ⟨t.run.getLast h, List.getLast_mem h, ?_⟩
  unfold Tbl.endKey
  rw [List.getLast?_eq_some_getLast h]
  rfl

theorem startKey_mem {t : Tbl} (h : t.run ≠ []) : ∃ e ∈ t.run, t.startKey = e.key := by
  unfold Tbl.startKey
  cases hr : t.run with
  | nil => exact absurd hr h
  | cons x xs => exact ⟨x, List.mem_cons_self, rfl⟩

theorem ordered_of_sorted_cat {l : List Tbl} (hne : ∀ t ∈ l, t.run ≠ []) (h : SortedRun (cat l)) : Ordered l := by
  refine (sorted_cat_keys h).imp_of_mem fun {a b} ha hb hab => ?_
  obtain ⟨ea, hea, hka⟩ := endKey_mem (hne a ha)
  obtain ⟨eb, heb, hkb⟩ := startKey_mem (hne b hb)
  rw [hka, hkb]
  exact hab ea hea eb heb

theorem mkTables_single_empty (n : Nat) : mkTables n [[]] = [⟨n, []⟩] := by
  simp [mkTables]

theorem added_sorted {L : Levels} {rm : List Nat} {lvl : Nat} {add : List Run} (hv : WeakValid L)
    (hs : SafeCS L rm lvl add) : SortedRun add.flatten := by
  rw [hs.added]
  exact mergeAll_sorted (List.forall_mem_map.mpr fun t ht => hv.sorted t ((readOrder_mem _ t).mp (List.mem_filter.mp ht).1))

theorem ordered_new {L : Levels} {rm : List Nat} {lvl : Nat} {add : List Run} (n : Nat) (hv : WeakValid L)
    (hs : SafeCS L rm lvl add) : Ordered (mkTables n add) := by
  cases hs.chunks with
  | inl hne =>
    apply ordered_of_sorted_cat
    · intro t ht; exact hne _ (mkTables_run_mem ht)
    · rw [cat_mkTables]; exact added_sorted hv hs
  | inr he => rw [he, mkTables_single_empty]; exact List.pairwise_singleton _ _

theorem safe_split {L : Levels} {rm : List Nat} {lvl : Nat} {add : List Run} (n : Nat) (hs : SafeCS L rm lvl add) :
    ∃ l0 D1 Lv D2, L = l0 :: (D1 ++ Lv :: D2) ∧ D1.length + 1 = lvl ∧
      (∀ t ∈ Lv, rmP rm t = true) ∧ (∀ t ∈ D2.flatten, rmP rm t = false) ∧
      applyCS L n ⟨rm, lvl, add⟩
        = l0.filter (fun t => !rmP rm t) :: (D1.map (List.filter (fun t => !rmP rm t)) ++ mkTables n add :: D2) := by
  obtain ⟨T, Lv, D2, rfl, rfl⟩ := split_at hs.lvl_lt
  cases T with
  | nil => exact absurd hs.lvl_pos (Nat.not_succ_le_zero 0)
  | cons l0 D1 =>
    have hall : ∀ t ∈ Lv, rmP rm t = true := by simpa [List.getD_eq_getElem?_getD] using hs.target_all
    have hnone : ∀ t ∈ D2.flatten, rmP rm t = false := by simpa using hs.below_none
    refine ⟨l0, D1, Lv, D2, rfl, rfl, hall, hnone, ?_⟩
    rw [applyCS_append (l0 :: D1) Lv D2 rm n add, filter_kept_nil hall, removeIds_self hnone]
    rfl

/-- the levels above the target lose tables, the target becomes the new tables -/
theorem deeper_applyCS {R : Tbl → Tbl → Prop} {L : Levels} {rm : List Nat} {lvl : Nat} {add : List Run} (n : Nat)
    (hs : SafeCS L rm lvl add) (hold : ∀ l ∈ L.tail, l.Pairwise R) (hnew : (mkTables n add).Pairwise R) :
    ∀ l ∈ (applyCS L n ⟨rm, lvl, add⟩).tail, l.Pairwise R := by
  obtain ⟨l0, D1, Lv, D2, rfl, rfl, -, -, hL'⟩ := safe_split n hs
  rw [hL']
  intro l hl
  rcases List.mem_append.mp hl with hl | hl
  · obtain ⟨l', hl', rfl⟩ := List.mem_map.mp hl
    exact (hold l' (List.mem_append_left _ hl')).sublist List.filter_sublist
  · rcases List.mem_cons.mp hl with rfl | hl
    · exact hnew
    · exact hold l (List.mem_append_right _ (List.mem_cons_of_mem _ hl))

theorem ordered_applyCS {L : Levels} {rm : List Nat} {lvl : Nat} {add : List Run} (n : Nat) (hv : WeakValid L)
    (hs : SafeCS L rm lvl add) (ho : ∀ l ∈ L.tail, Ordered l) : ∀ l ∈ (applyCS L n ⟨rm, lvl, add⟩).tail, Ordered l :=
  deeper_applyCS n hs ho (ordered_new n hv hs)

theorem safe_core {L : Levels} {rm : List Nat} {lvl : Nat} {add : List Run} (n : Nat)
    (hv : WeakValid L) (hs : SafeCS L rm lvl add) :
    (∀ k, hit (readOrder (applyCS L n ⟨rm, lvl, add⟩)) k = hit (readOrder L) k) ∧
    WeakValid (applyCS L n ⟨rm, lvl, add⟩) ∧
    (∀ t' ∈ (applyCS L n ⟨rm, lvl, add⟩).flatten, ∀ e ∈ t'.run, ∃ t ∈ L.flatten, e ∈ t.run) := by
  have hMsorted : SortedRun add.flatten := added_sorted hv hs
  have hdeep : ∀ l ∈ (applyCS L n ⟨rm, lvl, add⟩).tail, RangeUnique l :=
    deeper_applyCS n hs hv.deep (rangeUnique_of_ordered (ordered_new n hv hs))
  have hmem : ∀ t ∈ (applyCS L n ⟨rm, lvl, add⟩).flatten, t ∈ L.flatten ∨ t ∈ mkTables n add := fun t ht =>
    (List.mem_append.mp ((flatten_applyCS_perm n hs.lvl_lt).mem_iff.mp ht)).imp_left (fun h => (List.mem_filter.mp h).1)
  obtain ⟨l0, D1, Lv, D2, rfl, rfl, hall, hnone, hL'⟩ := safe_split n hs
  -- in read order: `U` down to the target level, where tables are removed, and `TB` beneath it
  let U := l0.reverse ++ D1.flatten ++ Lv
  let TB := D2.flatten
  have hRO : readOrder (l0 :: (D1 ++ Lv :: D2)) = U ++ TB := by
    simp only [readOrder, U, TB, List.flatten_append, List.flatten_cons, List.append_assoc]
  have hRO' : readOrder (l0.filter (fun t => !rmP rm t) :: (D1.map (List.filter (fun t => !rmP rm t)) ++ mkTables n add :: D2))
      = U.filter (fun t => !rmP rm t) ++ mkTables n add ++ TB := by
    simp only [readOrder, U, TB, List.flatten_append, List.flatten_cons, List.filter_append, List.filter_reverse,
      List.filter_flatten, filter_kept_nil hall, List.append_nil, List.append_assoc]
  have hadd : add.flatten = mergeAll ((U.filter (rmP rm)).map (·.run)) := by
    have := hs.added
    rwa [hRO, List.filter_append, filter_rm_nil hnone, List.append_nil] at this
  have hsU : ∀ t ∈ U, SortedRun t.run := fun t ht =>
    hv.sorted t ((readOrder_mem _ t).mp (hRO ▸ List.mem_append_left _ ht))
  have hnewer : (U ++ TB).Pairwise NewerT := by rw [← hRO]; exact hv.newer
  have hnU : U.Pairwise NewerT := (List.pairwise_append.mp hnewer).1
  have hsafeU : U.Pairwise (SafePair (rmP rm)) := by
    have h0' : (l0.reverse ++ D1.flatten).Pairwise (SafePair (rmP rm)) := by
      simpa [readOrder] using hs.no_kept_below_removed
    exact List.pairwise_append.mpr ⟨h0', List.pairwise_of_forall_mem_list fun _ _ b hb => safePair_of_removed (hall b hb),
      fun _ _ b hb => safePair_of_removed (hall b hb)⟩
  have hcatnew : cat (mkTables n add) = mergeAll ((U.filter (rmP rm)).map (·.run)) := by
    rw [cat_mkTables, hadd]
  have hnewMem : ∀ e ∈ cat (mkTables n add), ∃ r ∈ U, rmP rm r = true ∧ e ∈ r.run := by
    intro e he
    rw [hcatnew] at he
    obtain ⟨r, hr, her⟩ := mem_mergeAll he
    obtain ⟨x, hx, rfl⟩ := List.mem_map.mp hr
    exact ⟨x, (List.mem_filter.mp hx).1, (List.mem_filter.mp hx).2, her⟩
  refine ⟨?_, ⟨?_, hdeep, ?_⟩, ?_⟩
  · intro k
    rw [hL', hRO', hRO, hit_append, hit_append, hit_append, hit_eq_lookup_cat (mkTables n add), hcatnew,
      ← core_hit (rmP rm) U k hsU hnU hsafeU]
  · intro t ht
    rcases hmem t ht with h | h
    · exact hv.sorted t h
    · exact List.Pairwise.sublist (List.sublist_flatten_of_mem (mkTables_run_mem h)) hMsorted
  · rw [hL', hRO']
    exact core_newer (rmP rm) U TB (mkTables n add) hnewer hsafeU (by rw [cat_mkTables]; exact hMsorted) hnewMem
  · intro t' ht' e he
    rcases hmem t' ht' with h | h
    · exact ⟨t', h, he⟩
    · obtain ⟨r, hr, _, her⟩ := hnewMem e (List.mem_flatMap.mpr ⟨t', h, he⟩)
      exact ⟨r, (readOrder_mem _ r).mp (hRO ▸ List.mem_append_left _ hr), her⟩

theorem disjoint_of_rangeUnique {l : List Tbl} (hs : ∀ t ∈ l, SortedRun t.run) (hu : RangeUnique l) :
    l.Pairwise (fun a b => DisjointKeys a.run b.run) := by
  refine List.Pairwise.imp_of_mem ?_ hu
  intro a b ha hb hab ea hea eb heb hk
  have h1 : a.rangeContainsKey ea.key = true := rangeContainsKey_of_mem (hs a ha) hea
  have h2 : b.rangeContainsKey eb.key = true := rangeContainsKey_of_mem (hs b hb) heb
  rw [← hk] at h2
  exact hab ea.key ⟨h1, h2⟩

/-- the structural shape all three branches of the compactor produce and the executable test `Lsm.safeCS` asks for -/
structure StructOK (L : Levels) (rm : List Nat) (lvl : Nat) (add : List Run) : Prop where
  lvl_pos : 1 ≤ lvl
  lvl_lt : lvl < L.length
  target : ∀ t ∈ L.getD lvl [], rmP rm t = true
  below : ∀ i, lvl < i → ∀ t ∈ L.getD i [], rmP rm t = false
  l0 : (L.headD []).Pairwise (fun older newer =>
      rmP rm newer = true → rmP rm older = false → DisjointKeys newer.run older.run)
  closed : ∀ i j, i < j → j < lvl → (∃ t ∈ L.getD i [], rmP rm t = true) → ∀ t ∈ L.getD j [], rmP rm t = true
  added : add.flatten = mergeAll (((readOrder L).filter (rmP rm)).map (·.run))
  chunks : (∀ r ∈ add, r ≠ []) ∨ add = [[]]

/-- a table that stays beneath a removed one lies in the same level (disjoint ranges) or in level 0 (`l0`); every level
between two removed tables is removed entirely (`closed`) -/
theorem safe_of_structOK {L : Levels} {rm : List Nat} {lvl : Nat} {add : List Run} (hv : WeakValid L)
    (h : StructOK L rm lvl add) : SafeCS L rm lvl add := by
  refine ⟨h.lvl_pos, h.lvl_lt, h.target, ?_, ?_, h.added, h.chunks⟩
  · intro t ht
    obtain ⟨i, _, hti⟩ := mem_flatten_getD ht
    rw [List.getD_eq_getElem?_getD, List.getElem?_drop, ← List.getD_eq_getElem?_getD] at hti
    exact h.below (lvl + 1 + i) (Nat.lt_add_right i (Nat.lt_succ_self lvl)) t hti
  · cases L with
    | nil => exact absurd h.lvl_lt (Nat.not_lt_zero _)
    | cons l0 D =>
      obtain ⟨m, rfl⟩ : ∃ m, lvl = m + 1 := ⟨lvl - 1, (Nat.sub_add_cancel h.lvl_pos).symm⟩
      have hget : ∀ k (hk : k < (D.take m).length), k < m ∧ (D.take m)[k] = (l0 :: D).getD (k + 1) [] := by
        intro k hk
        have hk' : k < m ∧ k < D.length := Nat.lt_min.mp (List.length_take ▸ hk)
        refine ⟨hk'.1, ?_⟩
        rw [List.getElem_take, List.getD_eq_getElem?_getD, List.getElem?_cons_succ, List.getElem?_eq_getElem hk'.2]
        rfl
      show (l0.reverse ++ (D.take m).flatten).Pairwise (SafePair (rmP rm))
      refine List.pairwise_append.mpr ⟨List.pairwise_reverse.mpr h.l0, List.pairwise_flatten.mpr ⟨?_, ?_⟩, ?_⟩
      · intro l hl
        have hlD : l ∈ l0 :: D := List.mem_cons_of_mem _ (List.mem_of_mem_take hl)
        have hsl : ∀ t ∈ l, SortedRun t.run := fun t ht => hv.sorted t (List.mem_flatten.mpr ⟨l, hlD, ht⟩)
        exact (disjoint_of_rangeUnique hsl (hv.deep l (List.mem_of_mem_take hl))).imp (fun h _ _ => h)
      · rw [List.pairwise_iff_getElem]
        intro i j hi hj hij x hx y hy hpx
        rw [(hget i hi).2] at hx
        rw [(hget j hj).2] at hy
        exact safePair_of_removed
          (h.closed (i + 1) (j + 1) (Nat.succ_lt_succ hij) (Nat.succ_lt_succ (hget j hj).1) ⟨x, hx, hpx⟩ y hy) hpx
      · intro x hx y hy hpx
        obtain ⟨l, hl, hyl⟩ := List.mem_flatten.mp hy
        obtain ⟨j, hj, rfl⟩ := List.mem_iff_getElem.mp hl
        rw [(hget j hj).2] at hyl
        exact safePair_of_removed
          (h.closed 0 (j + 1) (Nat.succ_pos j) (Nat.succ_lt_succ (hget j hj).1) ⟨x, List.mem_reverse.mp hx, hpx⟩ y hyl) hpx

end Rxn.Compaction
