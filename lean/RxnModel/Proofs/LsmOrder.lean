import RxnModel.Model.LsmCode
import RxnModel.Proofs.CompactionSound
import RxnModel.Proofs.RescaleRead
import RxnModel.Proofs.LsmScan
/-!
C07: the reads as `dkv/sst/level_list.go` performs them agree with the order-insensitive descriptions of
`Model/Lsm.lean` wherever the deeper levels are ascending by key range, which every step keeps. On such a level
`SearchUnique` over `RangeKeyCompare` is `find?` over `RangeContainsKey`, and `RangePrefixCompare` is monotone
(`− … − 0 … 0 + … +`) with zero set `RangeContainsPrefix`, so `slices.BinarySearchFunc` and the forward walk return
exactly the tables whose range contains the prefix, among them every table holding a key with it.
-/
namespace Rxn.Lsm
open Rxn Rxn.Compaction

def DeepOrdered (s : State) : Prop := ∀ l ∈ s.levels.tail, Ordered l

theorem deepOrdered_init : DeepOrdered {} := by
  intro l hl
  rw [init_deep hl]
  exact List.Pairwise.nil

theorem step_ordered {s s' : State} {m : Spec} (a : Act) (h : Inv s m) (ho : DeepOrdered s)
    (hstep : step s a = some s') : DeepOrdered s' := by
  cases step_some hstep with
  | put | del | rotate | flushBegin | flushAbort | getA | getB => exact ho
  | @flushCommit snap =>
    show ∀ l ∈ (addAt s.levels 0 (mkTables s.nextId snap)).tail, Ordered l
    rw [addAt_zero_tail]
    exact ho
  | compact rm lvl add hsafe =>
    have hv := weakValid_of_inv h
    -- the change set touches nothing, or is in C18's safe family: levels lose tables, the target level becomes the
    -- chunks of one sorted merge
    rcases safeCS_sound hv hsafe with ⟨hno, hadd⟩ | hs
    · subst hadd
      show ∀ l ∈ (addAt (removeIds rm s.levels) lvl (mkTables s.nextId [])).tail, Ordered l
      rw [applyCS_noop lvl s.nextId hno]
      exact ho
    · exact ordered_applyCS s.nextId hv hs ho

theorem step_inv_ordered {s s' : State} {m : Spec} (a : Act) (h : Inv s m) (hr : ReadInv s m) (ho : DeepOrdered s)
    (hstep : step s a = some s') :
    Inv s' (specStep m s.seq a) ∧ ReadInv s' (specStep m s.seq a) ∧ DeepOrdered s' :=
  have hi := lsm_step a h hr hstep
  ⟨hi.1, hi.2, step_ordered a h ho hstep⟩

/-- the refinement invariant together with the order of the deeper levels, along every history -/
theorem runBoth_inv_ordered :
    ∀ (as : List Act) (s : State) (m : Spec) (s' : State) (m' : Spec),
    Inv s m → ReadInv s m → DeepOrdered s → runBoth s m as = some (s', m') →
    Inv s' m' ∧ ReadInv s' m' ∧ DeepOrdered s' := by
  intro as s m s' m' h hr ho hrun
  exact runBoth_induct (ok := fun _ => True) (P := fun s m => Inv s m ∧ ReadInv s m ∧ DeepOrdered s)
    (fun {s m a s'} _ h hs => step_inv_ordered a h.1 h.2.1 h.2.2 hs) (fun _ _ => trivial) ⟨h, hr, ho⟩ hrun

theorem tblOk_of_sorted (t : Tbl) (hs : t.run.Sorted) : Rescale.TblOk t := by
  unfold Rescale.TblOk
  cases hr : t.run with
  | nil => simp [Tbl.startKey, Tbl.endKey, hr]
  | cons x xs =>
    rw [show t.startKey = x.key by simp [Tbl.startKey, hr]]
    exact (key_between_start_end hs (hr ▸ List.mem_cons_self)).2

theorem levelValid_of_inv {s : State} {m : Spec} (h : Inv s m) (ho : DeepOrdered s) :
    ∀ l ∈ s.levels.tail, Rescale.LevelValid l :=
  fun l hl => ⟨fun t ht => tblOk_of_sorted t (h.sorted_tbls t (List.mem_flatten.mpr ⟨l, List.mem_of_mem_tail hl, ht⟩)),
    List.Pairwise.imp Bytes.lt_iff_cmp.mp (ho l hl)⟩

/-- the converse, for states that come with C06's `LevelValid` (restored / merged level lists) -/
theorem deepOrdered_of_levelValid {s : State} (h : ∀ l ∈ s.levels.tail, Rescale.LevelValid l) : DeepOrdered s :=
  fun l hl => List.Pairwise.imp Bytes.lt_iff_cmp.mpr (h l hl).2

/-- `LevelList.Get` with `SearchUnique` on the deeper levels = the order-insensitive description -/
theorem levelsGetR_eq {s : State} {m : Spec} (h : Inv s m) (ho : DeepOrdered s) (k : Bytes) :
    Rescale.levelsGetR s.levels k = levelsGet s.levels k :=
  Rescale.levelsGetR_eq_of_valid s.levels (levelValid_of_inv h ho) k

/-- `DB.Get` with the binary searches of `tablesForKey` = `get` -/
theorem getR_eq_get {s : State} {m : Spec} (h : Inv s m) (ho : DeepOrdered s) (k : Bytes) :
    Rescale.getR s k = get s k := by
  unfold Rescale.getR get
  rw [levelsGetR_eq h ho]
  cases memGet s.mems k <;> rfl

theorem getBResultR_eq {s : State} {m : Spec} (h : Inv s m) (ho : DeepOrdered s) :
    getBResultR s = getBResult s := by
  unfold getBResultR getBResult
  cases s.reading with
  | none => rfl
  | some kr =>
    obtain ⟨k, r⟩ := kr
    cases r with
    | some e => rfl
    | none => exact levelsGetR_eq h ho k

/-- `t.RangePrefixCompare(p)` -/
def prefCmp (p : Bytes) (t : Tbl) : Int := Gen.tblRangePrefixCompare t.startKey t.endKey p

theorem prefixCompare_eq (s e p : Bytes) : Gen.tblRangePrefixCompare s e p =
    if Bytes.hasPrefix s p = true ∨ Bytes.hasPrefix e p = true then 0
    else if Bytes.cmp s p = .gt then 1 else if Bytes.cmp e p = .lt then -1 else 0 := by
  simp only [Gen.tblRangePrefixCompare, decide_eq_true_eq, cmpInt_eq_one, cmpInt_eq_neg_one, Bool.or_eq_true]

theorem ite3_neg (a c d : Prop) [Decidable a] [Decidable c] [Decidable d] :
    (if a then 0 else if c then 1 else if d then -1 else 0 : Int) < 0 ↔ ¬a ∧ ¬c ∧ d := by
  by_cases ha : a
  · simp [ha]
  · by_cases hc : c
    · simp [ha, hc]
    · by_cases hd : d
      · simp [ha, hc, hd]
      · simp [ha, hc, hd]

theorem ite3_pos (a c d : Prop) [Decidable a] [Decidable c] [Decidable d] :
    0 < (if a then 0 else if c then 1 else if d then -1 else 0 : Int) ↔ ¬a ∧ c := by
  by_cases ha : a
  · simp [ha]
  · by_cases hc : c
    · simp [ha, hc]
    · by_cases hd : d
      · simp [ha, hc, hd]
      · simp [ha, hc, hd]

theorem ite3_zero (a c d : Prop) [Decidable a] [Decidable c] [Decidable d] :
    (if a then 0 else if c then 1 else if d then -1 else 0 : Int) = 0 ↔ a ∨ ¬c ∧ ¬d := by
  by_cases ha : a
  · simp [ha]
  · by_cases hc : c
    · simp [ha, hc]
    · by_cases hd : d
      · simp [ha, hc, hd]
      · simp [ha, hc, hd]

theorem prefixCompare_zero (s e p : Bytes) :
    Gen.tblRangePrefixCompare s e p = 0 ↔ Gen.tblRangeContainsPrefix s e p = true := by
  rw [prefixCompare_eq, ite3_zero, or_comm, ← or_assoc]
  simp only [Gen.tblRangeContainsPrefix, Bool.or_eq_true, Bool.and_eq_true, decide_eq_true_eq, cmpInt_lt_one_iff,
    cmpInt_gt_neg_one_iff, ne_eq]

theorem prefixCompare_neg (s e p : Bytes) :
    Gen.tblRangePrefixCompare s e p < 0 ↔
      (Bytes.hasPrefix s p = false ∧ Bytes.hasPrefix e p = false ∧ Bytes.cmp s p ≠ .gt ∧ Bytes.cmp e p = .lt) := by
  rw [prefixCompare_eq, ite3_neg, not_or, Bool.not_eq_true, Bool.not_eq_true, and_assoc]

theorem prefixCompare_pos (s e p : Bytes) :
    0 < Gen.tblRangePrefixCompare s e p ↔
      (Bytes.hasPrefix s p = false ∧ Bytes.hasPrefix e p = false ∧ Bytes.cmp s p = .gt) := by
  rw [prefixCompare_eq, ite3_pos, not_or, Bool.not_eq_true, Bool.not_eq_true, and_assoc]

theorem prefCmp_zero (p : Bytes) (t : Tbl) : prefCmp p t = 0 ↔ t.rangeContainsPrefix p = true :=
  prefixCompare_zero _ _ _

theorem ne_gt_of_lt {o : Ordering} (h : o = .lt) : o ≠ .gt := h ▸ nofun

theorem prefCmp_neg_of_before {t u : Tbl} {p : Bytes} (ht : Bytes.cmp t.startKey t.endKey ≠ .gt)
    (hb : Bytes.cmp t.endKey u.startKey = .lt) (h : prefCmp p u < 0) : prefCmp p t < 0 := by
  obtain ⟨_, _, h3, _⟩ := (prefixCompare_neg _ _ _).mp h
  have he : Bytes.cmp t.endKey p = .lt := Bytes.cmp_lt_le_trans hb h3
  have hs : Bytes.cmp t.startKey p = .lt := Bytes.cmp_le_lt_trans ht he
  exact (prefixCompare_neg _ _ _).mpr ⟨Bytes.not_prefix_of_lt hs, Bytes.not_prefix_of_lt he, ne_gt_of_lt hs, he⟩

theorem prefCmp_pos_of_before {t u : Tbl} {p : Bytes} (ht : Bytes.cmp t.startKey t.endKey ≠ .gt)
    (hb : Bytes.cmp t.endKey u.startKey = .lt) (hu : Bytes.cmp u.startKey u.endKey ≠ .gt)
    (h : 0 < prefCmp p t) : 0 < prefCmp p u := by
  obtain ⟨h1, _, h3⟩ := (prefixCompare_pos _ _ _).mp h
  have hps : Bytes.cmp p t.startKey = .lt := Bytes.cmp_gt_iff_lt.mp h3
  have hsu : Bytes.cmp t.startKey u.startKey = .lt := Bytes.cmp_le_lt_trans ht hb
  have hse : Bytes.cmp t.startKey u.endKey = .lt := Bytes.cmp_lt_le_trans hsu hu
  have hpu : Bytes.cmp p u.startKey = .lt := Bytes.cmp_lt_trans hps hsu
  refine (prefixCompare_pos _ _ _).mpr ⟨?_, ?_, Bytes.cmp_lt_iff_gt.mp hpu⟩
  · cases hp : Bytes.hasPrefix u.startKey p with
    | false => rfl
    | true =>
      -- `p < t.startKey < u.startKey`: were the prefix on `u.startKey`, it would be on `t.startKey`
      rw [Bytes.prefix_interval (Bytes.hasPrefix_self p) hp (ne_gt_of_lt hps) (ne_gt_of_lt hsu)] at h1
      cases h1
  · cases hp : Bytes.hasPrefix u.endKey p with
    | false => rfl
    | true =>
      rw [Bytes.prefix_interval (Bytes.hasPrefix_self p) hp (ne_gt_of_lt hps) (ne_gt_of_lt hse)] at h1
      cases h1

theorem rangeContainsPrefix_of_mem {t : Tbl} (hs : t.run.Sorted) {e : Entry} (he : e ∈ t.run) {p : Bytes}
    (hp : Bytes.hasPrefix e.key p = true) : t.rangeContainsPrefix p = true := by
  obtain ⟨hsk, hek⟩ := (rangeContainsKey_iff t e.key).mp (rangeContainsKey_of_mem hs he)
  have hpk : Bytes.cmp p e.key ≠ .gt := Bytes.prefix_le hp
  rw [← prefCmp_zero]
  have hnn : ¬ prefCmp p t < 0 := by
    intro hn
    obtain ⟨_, _, _, h4⟩ := (prefixCompare_neg _ _ _).mp hn
    exact hek (Bytes.cmp_lt_le_trans h4 hpk)
  have hnp : ¬ 0 < prefCmp p t := by
    intro hn
    obtain ⟨h1, _, h3⟩ := (prefixCompare_pos _ _ _).mp hn
    rw [Bytes.prefix_interval (Bytes.hasPrefix_self p) hp (ne_gt_of_lt (Bytes.cmp_gt_iff_lt.mp h3)) hsk] at h1
    cases h1
  exact Int.le_antisymm (Int.not_lt.mp hnp) (Int.not_lt.mp hnn)

/-- the loop invariant of `slices.BinarySearchFunc`: negative below `low`, not negative from `high` on -/
theorem lowerBound_spec {α : Type} (xs : Array α) (c : α → Int)
    (hm : ∀ i j (_ : i < j) (hj : j < xs.size), c xs[j] < 0 → c (xs[i]'(by omega)) < 0)
    (low high : Nat) (hh : high ≤ xs.size)
    (hlow : ∀ i (h : i < xs.size), i < low → c xs[i] < 0)
    (hhigh : ∀ i (h : i < xs.size), high ≤ i → 0 ≤ c xs[i]) :
    (∀ i (h : i < xs.size), i < Rescale.lowerBound xs c low high → c xs[i] < 0) ∧
    (∀ i (h : i < xs.size), Rescale.lowerBound xs c low high ≤ i → 0 ≤ c xs[i]) := by
  fun_induction Rescale.lowerBound xs c low high with
  | case1 low high hl mid hmid hneg ih =>
    refine ih hh (fun i h hi => ?_) hhigh
    rcases Nat.lt_succ_iff_lt_or_eq.mp hi with hlt | heq
    · exact hm i mid hlt hmid hneg
    · exact heq ▸ hneg
  | case2 low high hl mid hmid hneg ih =>
    refine ih (Nat.le_of_lt hmid) hlow (fun i h hi => Int.not_lt.mp fun hlt => hneg ?_)
    rcases Nat.lt_or_eq_of_le hi with hlt' | heq
    · exact hm mid i hlt' h hlt
    · exact heq ▸ hlt
  | case3 low high hl mid hmid =>
    exact absurd (Nat.lt_of_lt_of_le (Nat.div_lt_of_lt_mul (by omega)) hh) hmid
  | case4 low high hl => exact ⟨hlow, fun i h hge => hhigh i h (Nat.le_trans (Nat.le_of_not_lt hl) hge)⟩

theorem lowerBound_split {α : Type} {l : List α} {c : α → Int} (h : l.Pairwise (fun t u => c u < 0 → c t < 0)) :
    (∀ t ∈ l.take (Rescale.lowerBound l.toArray c 0 l.toArray.size), c t < 0) ∧
    ∀ t ∈ l.drop (Rescale.lowerBound l.toArray c 0 l.toArray.size), 0 ≤ c t := by
  obtain ⟨hlow, hhigh⟩ := lowerBound_spec l.toArray c
    (fun i j hij hj => List.pairwise_iff_getElem.mp h i j _ _ hij)
    0 l.toArray.size (Nat.le_refl _)
    (fun i _ h0 => absurd h0 (Nat.not_lt_zero _)) (fun i h hge => absurd h (Nat.not_lt.mpr hge))
  constructor
  · intro t ht
    obtain ⟨i, hi, rfl⟩ := List.mem_take_iff_getElem.mp ht
    exact hlow i (Nat.lt_of_lt_of_le hi (Nat.min_le_right _ _)) (Nat.lt_of_lt_of_le hi (Nat.min_le_left _ _))
  · intro t ht
    obtain ⟨i, hi, rfl⟩ := List.mem_drop_iff_getElem.mp ht
    exact hhigh _ (by rwa [Nat.add_comm] at hi) (Nat.le_add_right _ _)

theorem deepTablesForPrefix_walk (l : List Tbl) (p : Bytes) : Rescale.deepTablesForPrefix l p =
    (l.drop (Rescale.lowerBound l.toArray (prefCmp p) 0 l.toArray.size)).takeWhile
      (fun t => t.rangeContainsPrefix p) := by
  -- the definition, its compare function read as `prefCmp p`
  show (match l.toArray[Rescale.lowerBound l.toArray (prefCmp p) 0 l.toArray.size]? with
    | some t =>
      if prefCmp p t = 0 then
        (l.drop (Rescale.lowerBound l.toArray (prefCmp p) 0 l.toArray.size)).takeWhile
          (fun t : Tbl => t.rangeContainsPrefix p)
      else []
    | none => []) = _
  generalize Rescale.lowerBound l.toArray (prefCmp p) 0 l.toArray.size = r
  rw [List.getElem?_toArray]
  cases hr : l[r]? with
  | none => rw [List.drop_eq_nil_of_le (List.getElem?_eq_none_iff.mp hr)]; rfl
  | some t =>
    obtain ⟨hlt, rfl⟩ := List.getElem?_eq_some_iff.mp hr
    rw [List.drop_eq_getElem_cons hlt, List.takeWhile_cons]
    simp only [prefCmp_zero]
    cases l[r].rangeContainsPrefix p <;> rfl

theorem deepTablesForPrefix_eq_filter {l : List Tbl} (hv : Rescale.LevelValid l) (p : Bytes) :
    Rescale.deepTablesForPrefix l p = l.filter (fun t => t.rangeContainsPrefix p) := by
  -- along the level the compare value is negative, then zero, then positive
  have hneg : l.Pairwise (fun t u => prefCmp p u < 0 → prefCmp p t < 0) :=
    hv.2.imp_of_mem fun ht _ hb => prefCmp_neg_of_before (hv.1 _ ht) hb
  have hpos : l.Pairwise (fun t u => 0 < prefCmp p t → 0 < prefCmp p u) :=
    hv.2.imp_of_mem fun ht hu hb => prefCmp_pos_of_before (hv.1 _ ht) hb (hv.1 _ hu)
  obtain ⟨hlow, hhigh⟩ := lowerBound_split hneg
  rw [deepTablesForPrefix_walk]
  generalize Rescale.lowerBound l.toArray (prefCmp p) 0 l.toArray.size = r at hlow hhigh
  -- nothing before `r` is selected; from `r` on the selected tables come first
  have hbefore : (l.take r).filter (fun t => t.rangeContainsPrefix p) = [] :=
    List.filter_eq_nil_iff.mpr fun t ht hc => by
      have := hlow t ht
      rw [(prefCmp_zero p t).mpr hc] at this
      cases this
  have hafter : (l.drop r).Pairwise
      (fun t u => t.rangeContainsPrefix p = false → u.rangeContainsPrefix p = false) := by
    refine (hpos.sublist (List.drop_sublist r l)).imp_of_mem fun {t u} ht _ h ht0 => ?_
    have hne : prefCmp p t ≠ 0 := fun hz => by rw [(prefCmp_zero _ _).mp hz] at ht0; cases ht0
    have hu := h (Int.lt_iff_le_and_ne.mpr ⟨hhigh t ht, hne.symm⟩)
    cases hc : u.rangeContainsPrefix p with
    | false => rfl
    | true => rw [(prefCmp_zero _ _).mpr hc] at hu; cases hu
  conv => rhs; rw [← List.take_append_drop r l, List.filter_append, hbefore, filter_eq_takeWhile _ hafter]
  rfl

theorem tablesForPrefix_eq_filter {L : List (List Tbl)} (hv : ∀ l ∈ L.tail, Rescale.LevelValid l) (p : Bytes) :
    Rescale.tablesForPrefix L p = L.flatten.filter (fun t => t.rangeContainsPrefix p) := by
  cases L with
  | nil => rfl
  | cons l0 deeper =>
    have hd : ∀ l ∈ deeper, Rescale.deepTablesForPrefix l p = l.filter (fun t => t.rangeContainsPrefix p) :=
      fun l hl => deepTablesForPrefix_eq_filter (hv l hl) p
    rw [Rescale.tablesForPrefix, List.flatten_cons, List.filter_append, List.filter_flatten, List.flatMap_def,
      List.map_congr_left hd]

/-- `AllTablesForPrefix` selects every table that holds a key with the prefix (and only tables of the list) -/
theorem selects_tablesForPrefix {s : State} {m : Spec} (h : Inv s m) (ho : DeepOrdered s) (p : Bytes) :
    Selects (Rescale.tablesForPrefix s.levels p) s.levels p := by
  rw [tablesForPrefix_eq_filter (levelValid_of_inv h ho)]
  exact ⟨fun t ht => (List.mem_filter.mp ht).1, fun t ht e he hp =>
    List.mem_filter.mpr ⟨ht, rangeContainsPrefix_of_mem (h.sorted_tbls t ht) he hp⟩⟩

theorem scan2R_eq (sA sB : State) (p : Bytes) :
    scan2R sA sB p = (scanWithRaw sA.mems (Rescale.tablesForPrefix sB.levels p) p).filter (fun e => !e.del) := rfl

theorem scanR_eq_scan2R (s : State) (p : Bytes) : Rescale.scanR s p = scan2R s s p := rfl

/-- `ScanPrefix` over the tables `AllTablesForPrefix` selects, in one state: strictly ascending, and exactly the live
latest entries with the prefix -/
theorem scanR_spec {s : State} {m : Spec} (h : Inv s m) (ho : DeepOrdered s) (p : Bytes) :
    (Rescale.scanR s p).Sorted ∧
    ∀ e, e ∈ Rescale.scanR s p ↔ (Spec.get m e.key = some e ∧ e.del = false ∧ Bytes.hasPrefix e.key p = true) :=
  scanWith_spec h h (fun _ hr => Or.inl hr) p (selects_tablesForPrefix h ho p)

/-- The selection does not change the result: the code's scan equals the merge over all tables. No refinement
invariant is involved: a table whose range does not contain the prefix holds no key with it, so its scan is empty. -/
theorem scan2R_eq_scan2_of_valid {sA sB : State} (hs : ∀ t ∈ sB.levels.flatten, t.run.Sorted)
    (hv : ∀ l ∈ sB.levels.tail, Rescale.LevelValid l) (p : Bytes) : scan2R sA sB p = scan2 sA sB p := by
  have hnil : ∀ t ∈ sB.levels.flatten, t.rangeContainsPrefix p = false → t.scan p = [] := fun t ht hc =>
    List.filter_eq_nil_iff.mpr fun e he hp => by rw [rangeContainsPrefix_of_mem (hs t ht) he hp] at hc; cases hc
  rw [scan2R_eq, scan2, scanWithRaw, tablesForPrefix_eq_filter hv p, mergeAll_map_filter _ _ _ hnil]

theorem scanR_eq_scan_of_inv {s : State} {m : Spec} (h : Inv s m) (ho : DeepOrdered s) (p : Bytes) :
    Rescale.scanR s p = scan s p :=
  scan2R_eq_scan2_of_valid h.sorted_tbls (levelValid_of_inv h ho) p

theorem code_reads_of_inv {s : State} {m : Spec} (h : Inv s m) (hr : ReadInv s m) (ho : DeepOrdered s) :
    (∀ k, Rescale.getR s k = Spec.get m k) ∧
    (∀ k r, s.reading = some (k, r) → getBResultR s = Spec.get m k) ∧
    (∀ p, (Rescale.scanR s p).Sorted ∧
      ∀ e, e ∈ Rescale.scanR s p ↔ (Spec.get m e.key = some e ∧ e.del = false ∧ Bytes.hasPrefix e.key p = true)) :=
  ⟨fun k => (getR_eq_get h ho k).trans (get_spec h k),
   fun k r hrd => (getBResultR_eq h ho).trans (getB_correct h hr k r hrd),
   scanR_spec h ho⟩

end Rxn.Lsm
