import RxnModel.Proofs.RescaleInv
import RxnModel.Proofs.CompactionLsm
/-!
The code's reads on the restored instance (C06). On a layout with sorted tables and valid deeper levels
`LevelList.AllTablesForPrefix` selects by `RangeContainsPrefix`, which drops only tables holding no key with the prefix, so
`scanR` equals `Lsm.scan` (`Lsm.scan2R_eq_scan2_of_valid`). A write to an instance with one memtable is a C07 write, so the scan
after it shows the written entry (`scan_write_single`). C18's `DInv` holds for any instance with one memtable, given that
level 0 is age-ordered per key; for the composite level list that comes from the sources sharing no key.
-/
namespace Rxn.Rescale
open Rxn Lsm Rxn.Compaction

theorem scanR_eq_scan (s : State) (hsorted : ∀ t ∈ s.levels.flatten, t.run.Sorted)
    (hv : ∀ l ∈ s.levels.tail, LevelValid l) (p : Bytes) : scanR s p = scan s p :=
  (scanR_eq_scan2R s p).trans ((scan2R_eq_scan2_of_valid hsorted hv p).trans (scan2_self s p))

theorem scanR_eq_scan_merged {n : Nat} (ps : List (KGRange × Ckpt)) (hok : ∀ p ∈ ps, SrcOk n p)
    (hdis : ps.Pairwise (fun a b => a.1.overlaps b.1 = false)) (s : State)
    (hl : s.levels = mergeLevels (ps.map (·.2))) (p : Bytes) : scanR s p = scan s p := by
  apply scanR_eq_scan
  · rw [hl]
    exact merged_sorted ps hok
  · rw [hl]
    exact merged_tail_valid ps hok hdis

theorem scan_val_iff_answer {s : State} {m : Spec} (hinv : Inv s m) (p k v : Bytes) :
    (∃ e ∈ scan s p, e.key = k ∧ e.val = v) ↔ (answer (Spec.get m k) = some v ∧ Bytes.hasPrefix k p = true) := by
  rw [← scan_kv (scan_spec hinv p).2, List.mem_map]
  exact exists_congr fun e => and_congr_right fun _ => Prod.mk.injEq .. ▸ Iff.rfl

theorem inv_write_single {s : State} {m : Spec} (hinv : Inv s m) (mm : Run) (hmm : s.mems = [mm]) (hr : s.reading = none)
    (k : Bytes) (d : Bool) (v : Bytes) : Inv (write s k d v) (wEntry (s.seq + 1) k d v :: m) := by
  rw [write_single s mm hmm hr]
  exact inv_write hinv (wEntry (s.seq + 1) k d v) (wEntry_seq _ _ _ _) mm [] (by rw [hmm]; rfl)

theorem scan_write_single {s : State} {m : Spec} (hinv : Inv s m) (mm : Run) (hmm : s.mems = [mm]) (hr : s.reading = none)
    (k : Bytes) (d : Bool) (v : Bytes) (p : Bytes) (hp : Bytes.hasPrefix k p = true) (e : Entry) :
    (e ∈ scan (write s k d v) p ∧ e.key = k) ↔ (d = false ∧ e = ⟨k, s.seq + 1, false, v⟩) := by
  have hmem := (scan_spec (inv_write_single hinv mm hmm hr k d v) p).2 e
  have hget : Spec.get (wEntry (s.seq + 1) k d v :: m) k = some (wEntry (s.seq + 1) k d v) := by
    rw [Spec.get, Run.lookup, if_pos (wEntry_key _ _ _ _)]
  constructor
  · rintro ⟨he, hk⟩
    obtain ⟨hg, hd, _⟩ := hmem.mp he
    rw [hk, hget] at hg
    cases hg
    cases d with
    | true => cases hd
    | false => exact ⟨rfl, rfl⟩
  · rintro ⟨rfl, rfl⟩
    exact ⟨hmem.mpr ⟨hget, rfl, hp⟩, rfl⟩

/-- level 0 of the composite: tables that share a key are age-ordered, because each source's level 0 is and sources
share no key -/
theorem l0KeyAge_merged (n : Nat) (ps : List (KGRange × Ckpt)) (hne : ps ≠ [])
    (hok : ∀ p ∈ ps, SrcOk (n + 1) p) (hdis : ps.Pairwise (fun a b => a.1.overlaps b.1 = false))
    (hage : ∀ p ∈ ps, L0KeyAgeOrdered p.2.levels) : L0KeyAgeOrdered (mergeLevels (ps.map (·.2))) := by
  unfold L0KeyAgeOrdered
  rw [List.headD_eq_getD, List.getD_eq_getElem?_getD,
    mergeLevels_level0 _ (n + 1) (Nat.le_add_left 1 n) (by simpa using hne) (srcs_nlev ps hok), Option.getD_some]
  refine concatLevel_pairwise ps hdis 0 ?_ ?_
  · intro p hp
    have := hage p hp
    unfold L0KeyAgeOrdered at this
    rwa [List.headD_eq_getD] at this
  · intro a ha b hb hab x hx y hy hnd
    refine absurd (fun ea hea eb heb => ?_) hnd
    exact key_ne_of_disjoint a.1 b.1 ea.key eb.key
      ((hok a ha).keys x (getD_mem_flatten hx) ea hea).2
      ((hok b hb).keys y (getD_mem_flatten hy) eb heb).2 hab

/-- C18's invariant for an instance with one memtable; `nid` is the number it continues its table files at
(`Checkpoint.NextTableID` after a restore). -/
theorem dinv_of_single {s : State} {m : Spec} (hinv : Inv s m) (mm : Run) (hmm : s.mems = [mm]) (hr : s.reading = none)
    (hord : DeepOrdered s) (hlen : 2 ≤ s.levels.length) (hage : L0KeyAgeOrdered s.levels)
    (hsep : ∀ t ∈ s.levels.headD [], ∀ e ∈ t.run, ∀ e' ∈ mm, e.seq < e'.seq)
    (nid : Nat) (hids : IdsFresh s.levels nid) (c : Compactor) :
    DInv { s := { s with nextId := nid }, c := c, pending := none } m where
  inv := hinv.of_eq rfl rfl rfl
  rinv := readInv_of_none hr
  ids := hids
  len := hlen
  chron := by
    refine ⟨hage, ?_, fun t ht r hr' e he e' he' => ?_⟩
    · show s.mems.Pairwise _
      rw [hmm]; exact List.pairwise_singleton _ _
    · have hrm : r ∈ s.mems := hr'
      rw [hmm] at hrm
      cases List.mem_singleton.mp hrm
      exact hsep t ht e he e' he'
  ord := hord
  pend := fun _ h => nomatch h

end Rxn.Rescale
