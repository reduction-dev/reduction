import RxnModel.Model.Splits
import RxnModel.Proofs.Lists
/-!
The Kinesis split tracker and the splitter's steps of `Model/Splits.lean` (C16), operation by operation; what a step does to
`log`, `tainted` and `ck`; the environment only appends to the stream (`Appends`). `Proofs/SplitsInv.lean` builds the invariant
on these.
-/
namespace Rxn.Splits

theorem knownId_iff (k : List Shard) (i : Nat) : knownId k i = true ↔ ∃ sh ∈ k, sh.id = i := by
  simp [knownId, List.any_eq_true]

theorem knownId_false_iff (k : List Shard) (i : Nat) : knownId k i = false ↔ ∀ sh ∈ k, sh.id ≠ i := by
  rw [← Bool.not_eq_true, knownId_iff]
  constructor
  · intro h sh hs e; exact h ⟨sh, hs, e⟩
  · intro h ⟨sh, hs, e⟩; exact h sh hs e

theorem mem_setKnown (k : List Shard) (s t : Shard) : t ∈ setKnown k s ↔ t = s ∨ (t ∈ k ∧ t.id ≠ s.id) := by
  simp [setKnown, List.mem_filter]

theorem addSplits_cons (k : List Shard) (a : Shard) (ss : List Shard) :
    addSplits k (a :: ss) = addSplits (setKnown k a) ss := rfl

theorem mem_addSplits (k ss : List Shard) (t : Shard) (h : t ∈ addSplits k ss) : t ∈ k ∨ t ∈ ss := by
  induction ss generalizing k with
  | nil => exact Or.inl h
  | cons a ss ih =>
    rw [addSplits_cons] at h
    rcases ih _ h with h | h
    · rcases (mem_setKnown _ _ _).mp h with h | h
      · exact Or.inr (h ▸ List.mem_cons_self)
      · exact Or.inl h.1
    · exact Or.inr (List.mem_cons_of_mem _ h)

theorem mem_addSplits_nil (ss : List Shard) (t : Shard) (h : t ∈ addSplits [] ss) : t ∈ ss :=
  (mem_addSplits _ _ _ h).resolve_left fun h0 => nil_elim h0

theorem knownId_setKnown (k : List Shard) (s : Shard) (i : Nat) :
    knownId (setKnown k s) i = true ↔ knownId k i = true ∨ s.id = i := by
  simp only [knownId_iff]
  constructor
  · rintro ⟨t, ht, e⟩
    rcases (mem_setKnown _ _ _).mp ht with h | h
    · exact Or.inr (h ▸ e)
    · exact Or.inl ⟨t, h.1, e⟩
  · rintro (⟨t, ht, e⟩ | e)
    · by_cases hs : t.id = s.id
      · exact ⟨s, (mem_setKnown _ _ _).mpr (Or.inl rfl), hs ▸ e⟩
      · exact ⟨t, (mem_setKnown _ _ _).mpr (Or.inr ⟨ht, hs⟩), e⟩
    · exact ⟨s, (mem_setKnown _ _ _).mpr (Or.inl rfl), e⟩

theorem knownId_addSplits (k ss : List Shard) (i : Nat) :
    knownId (addSplits k ss) i = true ↔ knownId k i = true ∨ ∃ t ∈ ss, t.id = i := by
  induction ss generalizing k with
  | nil => simp [addSplits]
  | cons a ss ih =>
    rw [addSplits_cons, ih, knownId_setKnown]
    constructor
    · rintro ((h | h) | ⟨t, ht, e⟩)
      · exact Or.inl h
      · exact Or.inr ⟨a, List.mem_cons_self, h⟩
      · exact Or.inr ⟨t, List.mem_cons_of_mem _ ht, e⟩
    · rintro (h | ⟨t, ht, e⟩)
      · exact Or.inl (Or.inl h)
      · rcases List.mem_cons.mp ht with h | h
        · exact Or.inl (Or.inr (h ▸ e))
        · exact Or.inr ⟨t, h, e⟩

theorem nodup_setKnown (k : List Shard) (s : Shard) (h : (k.map (·.id)).Nodup) : ((setKnown k s).map (·.id)).Nodup := by
  simp only [setKnown, List.map_cons, List.nodup_cons]
  refine ⟨?_, (List.filter_sublist.map _).nodup h⟩
  intro hm
  obtain ⟨t, ht, e⟩ := List.mem_map.mp hm
  have := (List.mem_filter.mp ht).2
  simp [e] at this

theorem nodup_addSplits (k ss : List Shard) (h : (k.map (·.id)).Nodup) : ((addSplits k ss).map (·.id)).Nodup := by
  induction ss generalizing k with
  | nil => exact h
  | cons a ss ih => exact ih _ (nodup_setKnown k a h)

theorem nextOf_cons (n : Nat) (a : Shard) (b : List Shard) : nextOf n (a :: b) = nextOf (max n (a.id + 1)) b := rfl

theorem nextOf_le_iff (n m : Nat) (b : List Shard) : nextOf n b ≤ m ↔ n ≤ m ∧ ∀ sh ∈ b, sh.id < m := by
  induction b generalizing n with
  | nil => simp [nextOf]
  | cons a b ih =>
    rw [nextOf_cons, ih]
    simp only [List.mem_cons, forall_eq_or_imp]
    constructor
    · rintro ⟨h1, h2⟩; exact ⟨by omega, by omega, h2⟩
    · rintro ⟨h1, h2, h3⟩; exact ⟨by omega, h3⟩

theorem nextOf_ge (n : Nat) (b : List Shard) : n ≤ nextOf n b :=
  ((nextOf_le_iff n _ b).mp (Nat.le_refl _)).1

theorem nextOf_mem (n : Nat) (b : List Shard) (sh : Shard) (h : sh ∈ b) : sh.id < nextOf n b :=
  ((nextOf_le_iff n _ b).mp (Nat.le_refl _)).2 sh h

theorem nextOf_le (n m : Nat) (b : List Shard) (hn : n ≤ m) (hb : ∀ sh ∈ b, sh.id < m) : nextOf n b ≤ m :=
  (nextOf_le_iff n m b).mpr ⟨hn, hb⟩

theorem nextOf_lt (n : Nat) (b : List Shard) (i : Nat) (h : i < nextOf n b) : i < n ∨ ∃ sh ∈ b, i ≤ sh.id := by
  by_cases hb : ∃ sh ∈ b, i ≤ sh.id
  · exact Or.inr hb
  · refine Or.inl (Nat.lt_of_not_le fun hn => Nat.not_le_of_lt h ?_)
    exact nextOf_le n i b hn fun sh hs => Nat.lt_of_not_le fun hle => hb ⟨sh, hs, hle⟩

theorem mem_available (t : Tr) (sh : Shard) :
    sh ∈ available t ↔ sh ∈ t.known ∧ sh.id ∉ t.assigned ∧ ∀ p ∈ sh.parents, knownId t.known p = false := by
  simp [available]

theorem tracked_cases (t : Tr) (sh : Shard) (hs : sh ∈ t.known) :
    sh.id ∈ t.assigned ∨ sh ∈ available t ∨ ∃ p ∈ sh.parents, knownId t.known p = true := by
  by_cases ha : sh.id ∈ t.assigned
  · exact Or.inl ha
  by_cases hp : ∃ p ∈ sh.parents, knownId t.known p = true
  · exact Or.inr (Or.inr hp)
  · exact Or.inr (Or.inl ((mem_available t sh).mpr ⟨hs, ha, fun p hpp => Bool.eq_false_iff.mpr fun hc => hp ⟨p, hpp, hc⟩⟩))

/-- `assignShards` without its shortcut: an empty batch tracks nothing and hands nothing out -/
theorem assignAvail_fst (s : Sp) : (assignAvail s).1 =
    { s with tr := trackAssigned s.tr (available s.tr), log := s.log ++ (available s.tr).map (·.id) } := by
  unfold assignAvail
  cases available s.tr with
  | nil => simp [trackAssigned, nextOf]
  | cons a b => rfl

def callIds (cs : List Call) : List Nat := cs.flatMap (·.map (·.2.1))

theorem assignAvail_callIds (s : Sp) : callIds (assignAvail s).2 = (available s.tr).map (·.id) := by
  unfold assignAvail
  cases available s.tr with
  | nil => rfl
  | cons a b => simp [callIds, mkCall]

theorem mem_assignAvail_call (s : Sp) (sh : Shard) (h : sh ∈ available s.tr) :
    ∃ call ∈ (assignAvail s).2, (uidx sh.lo sh.hi s.runners, sh.id, cursorOf s.cursors sh.id) ∈ call := by
  unfold assignAvail
  cases hb : available s.tr with
  | nil => rw [hb] at h; exact nil_elim h
  | cons a b => exact ⟨_, List.mem_singleton.mpr rfl, List.mem_map.mpr ⟨sh, hb ▸ h, rfl⟩⟩

theorem assignAvail_frame (s : Sp) : (assignAvail s).1.tainted = s.tainted ∧ (assignAvail s).1.ck = s.ck := by
  rw [assignAvail_fst]; exact ⟨rfl, rfl⟩

/-- what holds of the record that `Checkpoint()` builds holds of the checkpoint the state then has -/
theorem checkpoint_ck {s : Sp} {st : List (Nat × Nat)} {P : Ckpt → Prop}
    (h : P { tr := s.tr, states := st, done := s.done,
             good := s.tr.known.all fun sh => isAssigned s.tr sh || decide (s.tr.next ≤ sh.id),
             clean := !s.tainted, sound := !s.dropped }) :
    ∀ c, (checkpoint s st).ck = some c → P c := by
  rintro _ ⟨⟩; exact h

theorem load_none (keep readd : Bool) (s : Sp) (h : s.ck = none) :
    load keep readd s = { s with tr := {}, cursors := [], done := [], log := [] } := by
  cases s; cases h; rfl

/-- the shards `LoadSplits` is given: those of the checkpoint (assigned, or withheld when kept) and the re-added ones -/
def loaded (keep readd : Bool) (stream : List Shard) (c : Ckpt) : List Shard :=
  (c.tr.known.filter fun sh => isAssigned c.tr sh || keep) ++ (if readd then readdList stream c else [])

def loadedDone (readd : Bool) (stream : List Shard) (c : Ckpt) : List Nat :=
  if readd then c.done.filter (fun i => !((readdList stream c).map (·.id)).contains i) else c.done

theorem load_some (keep readd : Bool) (s : Sp) (c : Ckpt) (h : s.ck = some c) :
    load keep readd s =
      { s with tr := { known := addSplits [] (loaded keep readd s.stream c), assigned := [], next := c.tr.next },
               cursors := c.states,
               done := loadedDone readd s.stream c,
               log := [],
               tainted := s.tainted || !c.clean || (!keep && !c.good),
               dropped := s.dropped || !c.sound || (!readd && !(readdList s.stream c).isEmpty) } := by
  cases s; cases h; rfl

theorem load_ck (keep readd : Bool) (s : Sp) : (load keep readd s).ck = s.ck := by
  unfold load
  cases s.ck <;> rfl

theorem load_assigned (keep readd : Bool) (s : Sp) : (load keep readd s).tr.assigned = [] := by
  unfold load
  cases s.ck <;> rfl

theorem load_log (keep readd : Bool) (s : Sp) : (load keep readd s).log = [] := by
  unfold load
  cases s.ck <;> rfl

theorem mem_readdList (stream : List Shard) (c : Ckpt) (sh : Shard) : sh ∈ readdList stream c ↔
    sh ∈ stream ∧ sh.id ∈ c.states.map (·.1) ∧ (sh.id ∉ c.tr.assigned ∨ knownId c.tr.known sh.id = false) ∧
      sh.id < c.tr.next := by
  simp only [readdList, isAssigned, List.mem_filter, Bool.and_eq_true, Bool.not_eq_true', Bool.and_eq_false_iff,
    decide_eq_true_eq, List.contains_eq_mem, decide_eq_false_iff_not, and_assoc]

theorem mem_loaded (keep readd : Bool) (stream : List Shard) (c : Ckpt) (t : Shard) :
    t ∈ loaded keep readd stream c ↔
      (t ∈ c.tr.known ∧ (t.id ∈ c.tr.assigned ∨ keep = true)) ∨ (readd = true ∧ t ∈ readdList stream c) := by
  cases readd <;> simp [loaded, isAssigned]

theorem mem_loadedDone (readd : Bool) (stream : List Shard) (c : Ckpt) (i : Nat) :
    i ∈ loadedDone readd stream c ↔ i ∈ c.done ∧ (readd = true → i ∉ (readdList stream c).map (·.id)) := by
  unfold loadedDone
  cases readd with
  | false => exact ⟨fun h => ⟨h, fun x => Bool.noConfusion x⟩, fun h => h.1⟩
  | true => exact List.mem_filter.trans (and_congr_right fun _ => not_contains.trans ⟨fun h _ => h, fun h => h rfl⟩)

/-- the `tainted` field of `load_some`, taken apart -/
theorem restore_untainted_iff (t clean keep good : Bool) :
    (t || !clean || (!keep && !good)) = false ↔ t = false ∧ clean = true ∧ (keep = false → good = true) := by
  simp only [Bool.or_eq_false_iff, Bool.and_eq_false_imp, Bool.not_eq_eq_eq_not, Bool.not_true, Bool.not_false, and_assoc]

theorem load_tainted_false (keep readd : Bool) (s : Sp) (h : (load keep readd s).tainted = false) : s.tainted = false := by
  cases hck : s.ck with
  | none => rw [load_none keep readd s hck] at h; exact h
  | some c =>
    rw [load_some keep readd s c hck] at h
    exact ((restore_untainted_iff _ _ _ _).mp h).1

def NewShards (n : Nat) (new : List Shard) : Prop :=
  ∀ (j : Nat) (sh : Shard), new[j]? = some sh → sh.id = n + j ∧ ∀ p ∈ sh.parents, p < n + j

theorem newShards_nil (n : Nat) : NewShards n [] := fun j sh h => by simp at h

theorem newShards_cons (n : Nat) (a : Shard) (l : List Shard) (ha : a.id = n) (hp : ∀ p ∈ a.parents, p < n)
    (hl : NewShards (n + 1) l) : NewShards n (a :: l) := by
  intro j sh hj
  cases j with
  | zero =>
    simp only [List.getElem?_cons_zero, Option.some.injEq] at hj
    subst hj; exact ⟨ha, hp⟩
  | succ j =>
    have := hl j sh hj
    rw [Nat.add_right_comm] at this
    exact this

/-- all that `envSplit` and `envMerge` do to the state (nothing when the request is refused) -/
def Appends (s s' : Sp) : Prop :=
  ∃ new cl, s' = { s with stream := s.stream ++ new, closed := cl } ∧ NewShards s.stream.length new

theorem Appends.refl (s : Sp) : Appends s s :=
  ⟨[], s.closed, by simp, newShards_nil _⟩

theorem envSplit_appends (s : Sp) (i a : Nat) : Appends s ((envSplit s i a).getD s) := by
  unfold envSplit
  cases hi : s.stream[i]? with
  | none => exact Appends.refl s
  | some sh =>
    have hil : i < s.stream.length := (List.getElem?_eq_some_iff.mp hi).1
    have hp : ∀ n, s.stream.length ≤ n → ∀ p ∈ [i], p < n := by
      intro n hn p hp
      rw [List.mem_singleton.mp hp]; omega
    exact iteInduction (motive := fun x : Option Sp => Appends s (x.getD s)) (fun _ => Appends.refl s)
      fun _ => ⟨_, _, rfl, newShards_cons _ _ _ rfl (hp _ (Nat.le_refl _))
        (newShards_cons _ _ _ rfl (hp _ (Nat.le_succ _)) (newShards_nil _))⟩

theorem envMerge_appends (s : Sp) (i j : Nat) : Appends s ((envMerge s i j).getD s) := by
  unfold envMerge
  cases hi : s.stream[i]? with
  | none => exact Appends.refl s
  | some a =>
    cases hj : s.stream[j]? with
    | none => exact Appends.refl s
    | some b =>
      have hil : i < s.stream.length := (List.getElem?_eq_some_iff.mp hi).1
      have hjl : j < s.stream.length := (List.getElem?_eq_some_iff.mp hj).1
      refine ⟨_, _, rfl, newShards_cons _ _ _ rfl ?_ (newShards_nil _)⟩
      intro p hp
      simp only [List.mem_cons, List.not_mem_nil, or_false] at hp
      rcases hp with hp | hp <;> omega

theorem Appends.frame {s s' : Sp} (h : Appends s s') : s'.log = s.log ∧ s'.tainted = s.tainted ∧ s'.ck = s.ck := by
  obtain ⟨new, cl, rfl, _⟩ := h
  exact ⟨rfl, rfl, rfl⟩

/-- the log is exactly what the `AssignSplits` calls since the last (re)start handed out -/
theorem step_log (keep readd : Bool) (s : Sp) (a : Act) :
    (step keep readd s a).1.log = (match a with | .start => [] | _ => s.log) ++ callIds (step keep readd s a).2 := by
  have round : ∀ x : Sp, (assignAvail x).1.log = x.log ++ callIds (assignAvail x).2 := by
    intro x; rw [assignAvail_callIds, assignAvail_fst]
  cases a with
  | start =>
    exact (round _).trans (congrArg (· ++ callIds _) (load_log keep readd s))
  | tick => exact round _
  | finish ids => exact round _
  | ckpt st => exact (List.append_nil _).symm
  | split i a => exact (envSplit_appends s i a).frame.1.trans (List.append_nil _).symm
  | merge i j => exact (envMerge_appends s i j).frame.1.trans (List.append_nil _).symm

theorem step_tainted (keep readd : Bool) (s : Sp) (a : Act) :
    (step keep readd s a).1.tainted = match a with | .start => (load keep readd s).tainted | _ => s.tainted := by
  cases a with
  | start => exact (assignAvail_frame _).1
  | tick => exact (assignAvail_frame _).1
  | finish ids => exact (assignAvail_frame _).1
  | ckpt st => rfl
  | split i a => exact (envSplit_appends s i a).frame.2.1
  | merge i j => exact (envMerge_appends s i j).frame.2.1

theorem step_taints (keep readd : Bool) (s : Sp) (a : Act) (h : s.tainted = false)
    (h' : (step keep readd s a).1.tainted = true) :
    a = .start ∧ ∃ c, s.ck = some c ∧ (c.clean = false ∨ (keep = false ∧ c.good = false)) := by
  rw [step_tainted] at h'
  cases a with
  | start =>
    refine ⟨rfl, ?_⟩
    cases hck : s.ck with
    | none => rw [load_none keep readd s hck, h] at h'; exact Bool.noConfusion h'
    | some c =>
      rw [load_some keep readd s c hck] at h'
      simp only [h, Bool.false_or, Bool.or_eq_true, Bool.and_eq_true, Bool.not_eq_true'] at h'
      exact ⟨c, rfl, h'⟩
  | _ => exact Bool.noConfusion (h.symm.trans h')

theorem step_ck (keep readd : Bool) (s : Sp) (a : Act) :
    (step keep readd s a).1.ck = match a with | .ckpt st => (checkpoint s st).ck | _ => s.ck := by
  cases a with
  | start => exact (assignAvail_frame _).2.trans (load_ck keep readd s)
  | tick => exact (assignAvail_frame _).2
  | finish ids => exact (assignAvail_frame _).2
  | ckpt st => rfl
  | split i a => exact (envSplit_appends s i a).frame.2.2
  | merge i j => exact (envMerge_appends s i j).frame.2.2

end Rxn.Splits
