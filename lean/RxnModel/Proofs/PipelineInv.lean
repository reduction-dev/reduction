import RxnModel.Proofs.Pipeline
/-!
# C01: the transition function action by action, and the inductive invariant `Inv`

`step` is taken apart once: for each of the six actions of a running deployment (`read` … `publish`) an equation on a
named post-state (`step_X`, by `rfl`) and its inversion (`step_X_some`). `Inv` is `Core` (what the theorems of
`Props/C01.lean` project from it) strengthened by what holds between the barriers of a pending checkpoint (`PendOK`); every
action preserves it except `redeployLive` (finding D39), which `inv_step` excludes.
-/
namespace Rxn.Pipeline
variable {σ : Type}

section step
variable {cfg : Cfg σ} {s s' : State σ} {g : List (Given σ)}

abbrev readS (cfg : Cfg σ) (s : State σ) (sp : Nat) : State σ :=
  { s with
    cursor := fun x => if x = sp then s.cursor sp + 1 else s.cursor x
    queue := fun a b => if a = cfg.assign s.n sp ∧ b = cfg.route s.n (cfg.key sp (s.cursor sp)) then
      s.queue (cfg.assign s.n sp) (cfg.route s.n (cfg.key sp (s.cursor sp))) ++
        [Item.ev ⟨cfg.key sp (s.cursor sp), sp, s.cursor sp⟩] else s.queue a b }

abbrev startS (cfg : Cfg σ) (s : State σ) : State σ :=
  { s with
    pending := some { id := s.nextId, rAck := [], oAck := [], cut := fun _ => 0,
                      slog := fun _ _ => [], sst := fun _ _ => cfg.init }
    nextId := s.nextId + 1 }

abbrev barS (s : State σ) (r : Nat) : State σ :=
  { s with queue := fun a b => if a = r then s.queue a b ++ [Item.bar] else s.queue a b }

abbrev Pend.ackR (p : Pend σ) (cfg : Cfg σ) (s : State σ) (r : Nat) : Pend σ :=
  { p with
    rAck := r :: p.rAck
    cut := fun sp => if cfg.assign s.n sp = r then s.cursor sp else p.cut sp }

abbrev delivS (cfg : Cfg σ) (s : State σ) (r o : Nat) (e : Entry) (rest : List Item) : State σ :=
  { s with
    queue := fun a b => if a = r ∧ b = o then rest else s.queue a b
    log := fun a k => if a = o ∧ k = e.key then s.log o e.key ++ [(e.split, e.idx)] else s.log a k
    st := fun a k => if a = o ∧ k = e.key then cfg.h (s.st o e.key) e else s.st a k }

abbrev ckS (s : State σ) (o : Nat) : State σ :=
  { s with queue := fun a b => if b = o then dropBar (s.queue a b) else s.queue a b }

abbrev Pend.ackO (p : Pend σ) (s : State σ) (o : Nat) : Pend σ :=
  { p with
    oAck := o :: p.oAck
    slog := fun a k => if a = o then s.log o k else p.slog a k
    sst := fun a k => if a = o then s.st o k else p.sst a k }

theorem step_read (cfg : Cfg σ) (s : State σ) (sp : Nat) :
    step cfg s (.read sp) = if 0 < s.n then some (readS cfg s sp, []) else none := rfl

theorem step_start (cfg : Cfg σ) (s : State σ) :
    step cfg s .start = match s.pending with
      | some _ => none
      | none => if 0 < s.n then some (startS cfg s, []) else none := rfl

theorem step_barrier (cfg : Cfg σ) (s : State σ) (r : Nat) :
    step cfg s (.barrier r) = match s.pending with
      | none => none
      | some p => if r < s.n ∧ r ∉ p.rAck then some (settle (barS s r) (p.ackR cfg s r), []) else none := rfl

theorem step_deliver (cfg : Cfg σ) (s : State σ) (r o : Nat) :
    step cfg s (.deliver r o) = match s.queue r o with
      | Item.ev e :: rest => some (delivS cfg s r o e rest, [⟨o, e, s.st o e.key⟩])
      | _ => none := rfl

theorem step_opCkpt (cfg : Cfg σ) (s : State σ) (o : Nat) :
    step cfg s (.opCkpt o) = match s.pending with
      | none => none
      | some p =>
        if o < s.n ∧ o ∉ p.oAck ∧ (List.range s.n).all (fun r => (s.queue r o).head? == some Item.bar) then
          some (settle (ckS s o) (p.ackO s o), [])
        else none := rfl

theorem step_publish (cfg : Cfg σ) (s : State σ) (i : Nat) :
    step cfg s (.publish i) = match s.writing[i]? with
      | some c => some ({ s with writing := s.writing.eraseIdx i, published := c :: s.published }, [])
      | none => none := rfl

theorem step_restart (cfg : Cfg σ) (s : State σ) (n' : Nat) (job : Bool) :
    step cfg s (.restart n' job) =
      if 0 < n' then some (restore cfg s (newest s.published) n' job, []) else none := rfl

theorem step_read_some {sp : Nat} (h : step cfg s (.read sp) = some (s', g)) :
    0 < s.n ∧ s' = readS cfg s sp ∧ g = [] := by
  rw [step_read, Option.ite_none_right_eq_some] at h
  obtain ⟨hn, h⟩ := h
  cases h
  exact ⟨hn, rfl, rfl⟩

theorem step_start_some (h : step cfg s .start = some (s', g)) :
    s.pending = none ∧ 0 < s.n ∧ s' = startS cfg s ∧ g = [] := by
  rw [step_start] at h
  split at h
  · cases h
  · rw [Option.ite_none_right_eq_some] at h
    obtain ⟨hn, h⟩ := h
    cases h
    exact ⟨‹_›, hn, rfl, rfl⟩

theorem step_barrier_some {r : Nat} (h : step cfg s (.barrier r) = some (s', g)) :
    ∃ p, s.pending = some p ∧ r < s.n ∧ r ∉ p.rAck ∧ s' = settle (barS s r) (p.ackR cfg s r) ∧ g = [] := by
  rw [step_barrier] at h
  split at h
  · cases h
  · rw [Option.ite_none_right_eq_some] at h
    obtain ⟨hr, h⟩ := h
    cases h
    exact ⟨_, ‹_›, hr.1, hr.2, rfl, rfl⟩

theorem step_deliver_some {r o : Nat} (h : step cfg s (.deliver r o) = some (s', g)) :
    ∃ e rest, s.queue r o = Item.ev e :: rest ∧ s' = delivS cfg s r o e rest ∧ g = [⟨o, e, s.st o e.key⟩] := by
  rw [step_deliver] at h
  split at h
  · cases h
    exact ⟨_, _, ‹_›, rfl, rfl⟩
  · cases h

theorem step_deliver_of_head {r o : Nat} {e : Entry} {rest : List Item} (hq : s.queue r o = Item.ev e :: rest) :
    step cfg s (.deliver r o) = some (delivS cfg s r o e rest, [⟨o, e, s.st o e.key⟩]) := by
  rw [step_deliver, hq]

theorem step_opCkpt_some {o : Nat} (h : step cfg s (.opCkpt o) = some (s', g)) :
    ∃ p, s.pending = some p ∧ o < s.n ∧ o ∉ p.oAck ∧ (∀ r, r < s.n → ∃ t, s.queue r o = Item.bar :: t) ∧
      s' = settle (ckS s o) (p.ackO s o) ∧ g = [] := by
  rw [step_opCkpt] at h
  split at h
  · cases h
  · rw [Option.ite_none_right_eq_some] at h
    obtain ⟨⟨ho, hoa, hall⟩, h⟩ := h
    cases h
    exact ⟨_, ‹_›, ho, hoa,
      fun r hr => head_bar_cases (List.all_eq_true.1 hall r (List.mem_range.2 hr)), rfl, rfl⟩

theorem step_publish_some {i : Nat} (h : step cfg s (.publish i) = some (s', g)) :
    ∃ c, c ∈ s.writing ∧
      s' = { s with writing := s.writing.eraseIdx i, published := c :: s.published } ∧ g = [] := by
  rw [step_publish] at h
  split at h
  · cases h
    exact ⟨_, List.mem_of_getElem? ‹_›, rfl, rfl⟩
  · cases h

theorem runFrom_cons {a : Act} {as : List Act} {s1 : State σ} {g1 obs1 : List (Given σ)}
    (h1 : step cfg s a = some (s1, g1)) (h2 : runFrom cfg s1 as = some (s', obs1)) :
    runFrom cfg s (a :: as) = some (s', g1 ++ obs1) := by
  simp only [runFrom, h1, h2]

theorem runFrom_cons_some {a : Act} {as : List Act} {obs : List (Given σ)}
    (h : runFrom cfg s (a :: as) = some (s', obs)) :
    ∃ s1 g1 obs1, step cfg s a = some (s1, g1) ∧ runFrom cfg s1 as = some (s', obs1) ∧ obs = g1 ++ obs1 := by
  simp only [runFrom] at h
  split at h
  · cases h
  · split at h
    · cases h
    · cases h
      exact ⟨_, _, _, ‹_›, ‹_›, rfl⟩

theorem runFrom_append {as1 as2 : List Act} {s1 s2 : State σ} {o1 o2 : List (Given σ)}
    (h1 : runFrom cfg s as1 = some (s1, o1)) (h2 : runFrom cfg s1 as2 = some (s2, o2)) :
    runFrom cfg s (as1 ++ as2) = some (s2, o1 ++ o2) := by
  induction as1 generalizing s o1 with
  | nil =>
    cases h1
    exact h2
  | cons a as1 ih =>
    obtain ⟨s', g, o, hs, hr, rfl⟩ := runFrom_cons_some h1
    rw [List.append_assoc]
    exact runFrom_cons hs (ih hr)

theorem runFrom_invariant (cfg : Cfg σ) (P : State σ → Prop) (A : Act → Prop)
    (hstep : ∀ s a s' g, P s → A a → step cfg s a = some (s', g) → P s') (as : List Act) (s s' : State σ)
    (obs : List (Given σ)) (hP : P s) (hA : ∀ a ∈ as, A a) (h : runFrom cfg s as = some (s', obs)) : P s' := by
  induction as generalizing s obs with
  | nil =>
    cases h
    exact hP
  | cons a as ih =>
    obtain ⟨s1, g1, obs1, h1, h2, _⟩ := runFrom_cons_some h
    exact ih s1 obs1 (hstep s a s1 g1 hP (hA a List.mem_cons_self) h1)
      (fun b hb => hA b (List.mem_cons_of_mem _ hb)) h2

end step

/- `main` and `own` are `Consistent`. `main` looks at one channel per key and split; `qwf` says no record is on any
other, so that no `deliver` goes unseen by it. -/
structure Core (cfg : Cfg σ) (s : State σ) : Prop where
  main : ∀ k sp, idxOf sp (s.log (cfg.route s.n k) k) ++ projI k sp (s.queue (cfg.assign s.n sp) (cfg.route s.n k))
      = routed cfg k sp (s.cursor sp)
  own : ∀ o k, cfg.route s.n k ≠ o → s.log o k = []
  qwf : ∀ r o e, Item.ev e ∈ s.queue r o →
      cfg.route s.n e.key = o ∧ cfg.assign s.n e.split = r ∧ e.key = cfg.key e.split e.idx
  hst : ∀ o k, s.st o k = foldLog cfg k (s.log o k)
  ck : ∀ c, (c ∈ s.writing ∨ c ∈ s.published) → CkptOK cfg c

/- The alignment in progress: the channel `r → o` holds one barrier exactly while `r` has acknowledged and `o` has not
(`cnt`), and then what `o` has applied plus what is in front of the barrier is `r`'s cut (`pre`); so when `o` snapshots,
with a barrier at the head of every channel into it, its log is the cut (`snap`). -/
structure PendOK (cfg : Cfg σ) (s : State σ) (p : Pend σ) : Prop where
  npos : 0 < s.n
  cnt : ∀ r o, r < s.n → o < s.n → countBar (s.queue r o) = if r ∈ p.rAck ∧ o ∉ p.oAck then 1 else 0
  pre : ∀ r o, r < s.n → o < s.n → r ∈ p.rAck → o ∉ p.oAck → ∀ k sp, cfg.route s.n k = o → cfg.assign s.n sp = r →
      idxOf sp (s.log o k) ++ preProj k sp (s.queue r o) = routed cfg k sp (p.cut sp)
  snap : ∀ o, o ∈ p.oAck → o < s.n ∧ (∀ r, r < s.n → r ∈ p.rAck) ∧
      (∀ k sp, cfg.route s.n k = o → idxOf sp (p.slog o k) = routed cfg k sp (p.cut sp)) ∧
      (∀ k, p.sst o k = foldLog cfg k (p.slog o k))

structure Inv (cfg : Cfg σ) (s : State σ) : Prop extends Core cfg s where
  pnone : s.pending = none → ∀ r o, r < s.n → o < s.n → countBar (s.queue r o) = 0
  psome : ∀ p, s.pending = some p → PendOK cfg s p

theorem countBar_readS (cfg : Cfg σ) (s : State σ) (sp a b : Nat) :
    countBar ((readS cfg s sp).queue a b) = countBar (s.queue a b) := by
  dsimp only [readS]
  split
  · rename_i h
    rw [countBar_snoc_ev, ← h.1, ← h.2]
  · rfl

theorem projI_readS (cfg : Cfg σ) (s : State σ) (sp k sp2 : Nat) :
    projI k sp2 ((readS cfg s sp).queue (cfg.assign s.n sp2) (cfg.route s.n k)) =
      projI k sp2 (s.queue (cfg.assign s.n sp2) (cfg.route s.n k)) ++
        (if cfg.key sp (s.cursor sp) = k ∧ sp = sp2 then [s.cursor sp] else []) := by
  dsimp only [readS]
  by_cases hr : cfg.assign s.n sp2 = cfg.assign s.n sp ∧ cfg.route s.n k = cfg.route s.n (cfg.key sp (s.cursor sp))
  · rw [if_pos hr, hr.1, hr.2, projI_snoc_ev]
  · rw [if_neg hr, if_neg, List.append_nil]
    rintro ⟨rfl, rfl⟩
    exact hr ⟨rfl, rfl⟩

theorem preProj_readS (cfg : Cfg σ) (s : State σ) (sp k sp2 a b : Nat) (h : 1 ≤ countBar (s.queue a b)) :
    preProj k sp2 ((readS cfg s sp).queue a b) = preProj k sp2 (s.queue a b) := by
  dsimp only [readS]
  split
  · rename_i h'
    rw [← h'.1, ← h'.2]
    exact preProj_append_of_bar _ _ _ _ h
  · rfl

theorem inv_read {cfg : Cfg σ} {s : State σ} (hi : Inv cfg s) (sp : Nat) : Inv cfg (readS cfg s sp) := by
  refine ⟨⟨?_, hi.own, ?_, hi.hst, hi.ck⟩, ?_, ?_⟩
  · intro k sp2
    rw [projI_readS, ← List.append_assoc, hi.main k sp2]
    dsimp only [readS]
    by_cases hsp : sp2 = sp
    · subst hsp
      rw [if_pos rfl, routed_succ]
      simp only [and_true]
    · rw [if_neg hsp, if_neg (fun h => hsp h.2.symm), List.append_nil]
  · intro r o e he
    dsimp only [readS] at he ⊢
    split at he
    · rename_i h
      rcases List.mem_append.1 he with h1 | h1
      · rw [h.1, h.2]; exact hi.qwf _ _ _ h1
      · cases List.mem_singleton.1 h1
        exact ⟨h.2.symm, h.1.symm, rfl⟩
    · exact hi.qwf _ _ _ he
  · intro hpn r o hr ho
    rw [countBar_readS]
    exact hi.pnone hpn r o hr ho
  · intro p hp
    have hp0 := hi.psome p hp
    refine ⟨hp0.npos, ?_, ?_, hp0.snap⟩
    · intro r o hr ho
      rw [countBar_readS]
      exact hp0.cnt r o hr ho
    · intro r o hr ho hra hoa k sp2 hk hs
      have h1 := hp0.cnt r o hr ho
      rw [if_pos ⟨hra, hoa⟩] at h1
      rw [preProj_readS cfg s sp k sp2 r o (Nat.le_of_eq h1.symm)]
      exact hp0.pre r o hr ho hra hoa k sp2 hk hs

theorem inv_settle {cfg : Cfg σ} (wf : cfg.WF) {s : State σ} {p : Pend σ} (hc : Core cfg s) (hp : PendOK cfg s p) :
    Inv cfg (settle s p) := by
  unfold settle
  split
  · rename_i h
    obtain ⟨hr, ho⟩ := (complete_iff p s.n).1 h
    refine ⟨⟨hc.main, hc.own, hc.qwf, hc.hst, ?_⟩, ?_, ?_⟩
    · intro c hcm
      dsimp only at hcm
      rcases hcm with h1 | h1
      · rcases List.mem_cons.1 h1 with h2 | h2
        · -- the completed checkpoint: every key's owner is in `oAck`, and `snap` says its snapshot is the cut
          subst h2
          have hlt : ∀ k, cfg.route s.n k < s.n := fun k => wf.route_lt s.n k hp.npos
          refine ⟨hp.npos, fun k sp => ?_, fun k => ?_⟩
          · exact (hp.snap _ (ho _ (hlt k))).2.2.1 k sp rfl
          · exact (hp.snap _ (ho _ (hlt k))).2.2.2 k
        · exact hc.ck c (Or.inl h2)
      · exact hc.ck c (Or.inr h1)
    · intro _ r o hr' ho'
      dsimp only at hr' ho' ⊢
      rw [hp.cnt r o hr' ho', if_neg]
      intro hh
      exact hh.2 (ho o ho')
    · intro p' h'
      cases h'
  · refine ⟨⟨hc.main, hc.own, hc.qwf, hc.hst, hc.ck⟩, ?_, ?_⟩
    · intro h'
      cases h'
    · intro p' h'
      cases h'
      exact ⟨hp.npos, hp.cnt, hp.pre, hp.snap⟩

theorem inv_start {cfg : Cfg σ} {s : State σ} (hi : Inv cfg s) (hpn : s.pending = none) (hn : 0 < s.n) :
    Inv cfg (startS cfg s) := by
  refine ⟨⟨hi.main, hi.own, hi.qwf, hi.hst, hi.ck⟩, ?_, ?_⟩
  · intro h'
    cases h'
  · intro p' h'
    cases h'
    refine ⟨hn, ?_, ?_, ?_⟩
    · intro r o hr ho
      simp only [List.not_mem_nil, false_and, if_false]
      exact hi.pnone hpn r o hr ho
    · intro r o _ _ hra
      cases hra
    · intro o ho
      cases ho

theorem core_barrier {cfg : Cfg σ} {s : State σ} (hc : Core cfg s) (r : Nat) : Core cfg (barS s r) := by
  refine ⟨?_, hc.own, ?_, hc.hst, hc.ck⟩
  · intro k sp
    dsimp only [barS]
    rw [← hc.main k sp]
    split
    · rw [projI_snoc_bar]
    · rfl
  · intro a b e he
    dsimp only [barS] at he
    split at he
    · rcases List.mem_append.1 he with h1 | h1
      · exact hc.qwf _ _ _ h1
      · simp at h1
    · exact hc.qwf _ _ _ he

theorem pend_barrier {cfg : Cfg σ} {s : State σ} {p : Pend σ} (hc : Core cfg s) (hp : PendOK cfg s p) {r : Nat}
    (hr : r < s.n) (hra : r ∉ p.rAck) : PendOK cfg (barS s r) (p.ackR cfg s r) := by
  -- an operator acknowledges only after every runner (`snap`), and `r` has not yet: no operator has
  have hno : ∀ o, o ∉ p.oAck := fun o ho => hra ((hp.snap o ho).2.1 r hr)
  refine ⟨hp.npos, ?_, ?_, ?_⟩
  · intro a b ha hb
    dsimp only [barS, Pend.ackR]
    have h0 := hp.cnt a b ha hb
    by_cases har : a = r
    · subst har
      rw [if_pos rfl, countBar_snoc_bar, h0, if_neg (fun h => hra h.1)]
      exact (if_pos ⟨List.mem_cons_self, hno b⟩).symm
    · rw [if_neg har, h0]
      simp only [List.mem_cons, har, false_or]
  · intro a b ha hb haa hbb k sp hk hs
    dsimp only [barS, Pend.ackR] at hk hs ⊢
    by_cases har : a = r
    · -- no barrier was on the channel: what is in front of the new one is everything, and the cut is the cursor
      subst har
      have h0 := hp.cnt a b ha hb
      rw [if_neg (fun h => hra h.1)] at h0
      rw [if_pos rfl, if_pos hs, preProj_snoc_bar_nobar _ _ _ h0, ← hk, ← hs]
      exact hc.main k sp
    · rw [if_neg har, if_neg (by rw [hs]; exact har)]
      exact hp.pre a b ha hb ((List.mem_cons.1 haa).resolve_left har) hbb k sp hk hs
  · intro o ho
    exact absurd ho (hno o)

theorem idxOf_log_delivS {cfg : Cfg σ} {s : State σ} {r o : Nat} {e : Entry} {rest : List Item}
    (he1 : cfg.route s.n e.key = o) (k sp : Nat) :
    idxOf sp ((delivS cfg s r o e rest).log (cfg.route s.n k) k) =
      idxOf sp (s.log (cfg.route s.n k) k) ++ (if e.key = k ∧ e.split = sp then [e.idx] else []) := by
  dsimp only [delivS]
  by_cases hk : k = e.key
  · subst hk
    rw [he1, if_pos ⟨rfl, rfl⟩, idxOf_snoc]
    simp only [true_and]
  · rw [if_neg (fun h => hk h.2), if_neg (fun h => hk h.1.symm), List.append_nil]

/-- `P` is `projI` or `preProj`; `hP` is `projI_cons_ev`, `preProj_cons_ev` -/
theorem proj_queue_delivS {cfg : Cfg σ} {s : State σ} (P : Nat → Nat → List Item → List Nat)
    (hP : ∀ k sp e t, P k sp (Item.ev e :: t) = (if e.key = k ∧ e.split = sp then [e.idx] else []) ++ P k sp t)
    {r o : Nat} {e : Entry} {rest : List Item} (hq : s.queue r o = Item.ev e :: rest)
    (he1 : cfg.route s.n e.key = o) (he2 : cfg.assign s.n e.split = r) (k sp : Nat) :
    (if e.key = k ∧ e.split = sp then [e.idx] else []) ++
        P k sp ((delivS cfg s r o e rest).queue (cfg.assign s.n sp) (cfg.route s.n k)) =
      P k sp (s.queue (cfg.assign s.n sp) (cfg.route s.n k)) := by
  dsimp only [delivS]
  by_cases hc : cfg.assign s.n sp = r ∧ cfg.route s.n k = o
  · rw [if_pos hc, hc.1, hc.2, hq, hP]
  · rw [if_neg hc, if_neg, List.nil_append]
    rintro ⟨rfl, rfl⟩
    exact hc ⟨he2, he1⟩

theorem countBar_delivS {cfg : Cfg σ} {s : State σ} {r o : Nat} {e : Entry} {rest : List Item}
    (hq : s.queue r o = Item.ev e :: rest) (a b : Nat) :
    countBar ((delivS cfg s r o e rest).queue a b) = countBar (s.queue a b) := by
  dsimp only [delivS]
  split
  · rename_i h
    rw [h.1, h.2, hq, countBar_cons_ev]
  · rfl

theorem inv_deliver {cfg : Cfg σ} {s : State σ} (hi : Inv cfg s) {r o : Nat} {e : Entry} {rest : List Item}
    (hq : s.queue r o = Item.ev e :: rest) : Inv cfg (delivS cfg s r o e rest) := by
  obtain ⟨he1, he2, _⟩ := hi.qwf r o e (hq ▸ List.mem_cons_self)
  refine ⟨⟨?_, ?_, ?_, ?_, hi.ck⟩, ?_, ?_⟩
  · intro k sp
    rw [idxOf_log_delivS he1, List.append_assoc, proj_queue_delivS projI projI_cons_ev hq he1 he2]
    exact hi.main k sp
  · intro a k hne
    dsimp only [delivS] at hne ⊢
    split
    · rename_i h
      exact absurd (by rw [h.2, h.1]; exact he1) hne
    · exact hi.own a k hne
  · intro a b e2 hm
    dsimp only [delivS] at hm ⊢
    split at hm
    · rename_i h
      rw [h.1, h.2]
      exact hi.qwf r o e2 (by rw [hq]; exact List.mem_cons_of_mem _ hm)
    · exact hi.qwf a b e2 hm
  · intro a k
    dsimp only [delivS]
    split
    · rw [foldLog_snoc, hi.hst o e.key]
      rename_i h
      rw [h.2]
    · exact hi.hst a k
  · intro hpn a b ha hb
    rw [countBar_delivS hq]
    exact hi.pnone hpn a b ha hb
  · intro p hp
    have hp0 := hi.psome p hp
    refine ⟨hp0.npos, ?_, ?_, hp0.snap⟩
    · intro a b ha hb
      rw [countBar_delivS hq]
      exact hp0.cnt a b ha hb
    · intro a b ha hb haa hbb k sp hk hs
      subst hk hs
      rw [idxOf_log_delivS he1, List.append_assoc, proj_queue_delivS preProj preProj_cons_ev hq he1 he2]
      exact hp0.pre _ _ ha hb haa hbb k sp rfl rfl

theorem core_opCkpt {cfg : Cfg σ} {s : State σ} (hc : Core cfg s) (o : Nat) : Core cfg (ckS s o) := by
  refine ⟨?_, hc.own, ?_, hc.hst, hc.ck⟩
  · intro k sp
    dsimp only [ckS]
    rw [← hc.main k sp]
    split
    · rw [projI_dropBar]
    · rfl
  · intro a b e he
    dsimp only [ckS] at he
    split at he
    · exact hc.qwf _ _ _ (mem_of_mem_dropBar he)
    · exact hc.qwf _ _ _ he

theorem pend_opCkpt {cfg : Cfg σ} (wf : cfg.WF) {s : State σ} {p : Pend σ} (hc : Core cfg s) (hp : PendOK cfg s p)
    {o : Nat} (ho : o < s.n) (hoa : o ∉ p.oAck) (hall : ∀ r, r < s.n → ∃ t, s.queue r o = Item.bar :: t) :
    PendOK cfg (ckS s o) (p.ackO s o) := by
  -- a barrier on every channel into `o`: every runner has acknowledged
  have hrall : ∀ r, r < s.n → r ∈ p.rAck := by
    intro r hr
    obtain ⟨t, ht⟩ := hall r hr
    apply Decidable.byContradiction
    intro hra
    have h0 := hp.cnt r o hr ho
    rw [ht, countBar_cons_bar, if_neg (fun h => hra h.1)] at h0
    exact Nat.succ_ne_zero _ h0
  refine ⟨hp.npos, ?_, ?_, ?_⟩
  · intro a b ha hb
    dsimp only [ckS, Pend.ackO]
    have h0 := hp.cnt a b ha hb
    by_cases hbo : b = o
    · subst hbo
      obtain ⟨t, ht⟩ := hall a ha
      rw [ht, countBar_cons_bar, if_pos ⟨hrall a ha, hoa⟩] at h0
      rw [if_pos rfl, ht]
      exact (Nat.succ.inj h0).trans (if_neg fun h => h.2 List.mem_cons_self).symm
    · rw [if_neg hbo, h0]
      simp only [List.mem_cons, hbo, false_or]
  · intro a b ha hb haa hbb k sp hk hs
    dsimp only [ckS, Pend.ackO]
    have hbo : b ≠ o := fun h => hbb (by rw [h]; exact List.mem_cons_self)
    have hbb' : b ∉ p.oAck := fun h => hbb (List.mem_cons_of_mem _ h)
    rw [if_neg hbo]
    exact hp.pre a b ha hb haa hbb' k sp hk hs
  · intro b hb
    dsimp only [ckS, Pend.ackO]
    by_cases hbo : b = o
    · subst hbo
      refine ⟨ho, hrall, ?_, ?_⟩
      · -- the channel from the split's runner starts with the barrier: nothing is in front of it
        intro k sp hk
        rw [if_pos rfl]
        have hr : cfg.assign s.n sp < s.n := wf.assign_lt s.n sp hp.npos
        obtain ⟨t, ht⟩ := hall _ hr
        have h1 := hp.pre _ b hr ho (hrall _ hr) hoa k sp hk rfl
        rw [ht, preProj_cons_bar, List.append_nil] at h1
        exact h1
      · intro k
        rw [if_pos rfl, if_pos rfl]
        exact hc.hst b k
    · simp only [if_neg hbo]
      exact hp.snap b ((List.mem_cons.1 hb).resolve_left hbo)

theorem inv_restore {cfg : Cfg σ} {s : State σ} (hw : ∀ c', (c' ∈ s.writing ∨ c' ∈ s.published) → CkptOK cfg c')
    (c : Option (Ckpt σ)) (hck : ∀ c', c = some c' → CkptOK cfg c') (n' : Nat) (job : Bool) :
    Inv cfg (restore cfg s c n' job) := by
  have hckw : ∀ c', (c' ∈ (if job = true then [] else s.writing) ∨ c' ∈ s.published) → CkptOK cfg c' := by
    intro c' h
    rcases h with h | h
    · cases job
      · exact hw c' (Or.inl h)
      · cases h
    · exact hw c' (Or.inr h)
  cases c with
  | none =>
    refine ⟨⟨?_, ?_, ?_, ?_, hckw⟩, ?_, ?_⟩
    · intro k sp; rfl
    · intro o k _; rfl
    · intro r o e he; cases he
    · intro o k; rfl
    · intro _ r o _ _; rfl
    · intro p hp; cases hp
  | some c =>
    obtain ⟨_, h2, h3⟩ := hck c rfl
    refine ⟨⟨?_, ?_, ?_, ?_, hckw⟩, ?_, ?_⟩
    · intro k sp
      dsimp only [restore]
      rw [if_pos rfl, projI_nil, List.append_nil]
      exact h2 k sp
    · intro o k hne
      exact if_neg hne
    · intro r o e he; cases he
    · intro o k
      dsimp only [restore]
      split
      · exact h3 k
      · rfl
    · intro _ r o _ _; rfl
    · intro p hp; cases hp

/-- `init cfg` is what `restore` makes of it without a checkpoint, on no workers -/
theorem inv_init (cfg : Cfg σ) : Inv cfg (init cfg) :=
  inv_restore (s := init cfg) (fun _ h => by rcases h with h | h <;> cases h) none (fun _ h => nomatch h) 0 true

theorem inv_with_ckpts (cfg : Cfg σ) (s : State σ) (hi : Inv cfg s) (w pub : List (Ckpt σ)) (nid : Nat) (d : List Nat)
    (hck : ∀ c, (c ∈ w ∨ c ∈ pub) → CkptOK cfg c) :
    Inv cfg { s with writing := w, published := pub, nextId := nid, dead := d } :=
  ⟨⟨hi.main, hi.own, hi.qwf, hi.hst, hck⟩, hi.pnone,
    fun p hp => ⟨(hi.psome p hp).npos, (hi.psome p hp).cnt, (hi.psome p hp).pre, (hi.psome p hp).snap⟩⟩

theorem inv_step (cfg : Cfg σ) (wf : cfg.WF) (s s' : State σ) (a : Act) (g : List (Given σ)) (hi : Inv cfg s)
    (hl : a.isLiveRedeploy = false) (h : step cfg s a = some (s', g)) : Inv cfg s' := by
  cases a with
  | read sp =>
    obtain ⟨_, rfl, _⟩ := step_read_some h
    exact inv_read hi sp
  | start =>
    obtain ⟨hpn, hn, rfl, _⟩ := step_start_some h
    exact inv_start hi hpn hn
  | barrier r =>
    obtain ⟨p, hp, hr, hra, rfl, _⟩ := step_barrier_some h
    exact inv_settle wf (core_barrier hi.toCore r) (pend_barrier hi.toCore (hi.psome p hp) hr hra)
  | deliver r o =>
    obtain ⟨e, rest, hq, rfl, _⟩ := step_deliver_some h
    exact inv_deliver hi hq
  | opCkpt o =>
    obtain ⟨p, hp, ho, hoa, hall, rfl, _⟩ := step_opCkpt_some h
    exact inv_settle wf (core_opCkpt hi.toCore o) (pend_opCkpt wf hi.toCore (hi.psome p hp) ho hoa hall)
  | publish i =>
    obtain ⟨c, hcm, rfl, _⟩ := step_publish_some h
    refine inv_with_ckpts cfg s hi _ _ _ _ fun c' h' => ?_
    rcases h' with h' | h'
    · exact hi.ck c' (Or.inl (List.mem_of_mem_eraseIdx h'))
    · rcases List.mem_cons.1 h' with h'' | h''
      · subst h''
        exact hi.ck _ (Or.inl hcm)
      · exact hi.ck c' (Or.inr h'')
  | kill w =>
    cases h
    exact inv_with_ckpts cfg s hi _ _ _ _ hi.ck
  | restart n' job =>
    rw [step_restart, Option.ite_none_right_eq_some] at h
    cases h.2
    exact inv_restore hi.ck _ (fun c' hc' => hi.ck c' (Or.inr (newest_mem hc'))) n' job
  | redeployLive n' => cases hl

theorem inv_run (cfg : Cfg σ) (wf : cfg.WF) (as : List Act) (s : State σ) (obs : List (Given σ))
    (hl : ∀ a ∈ as, a.isLiveRedeploy = false) (h : run cfg as = some (s, obs)) : Inv cfg s :=
  runFrom_invariant cfg (Inv cfg) (fun a => a.isLiveRedeploy = false)
    (fun s a s' g hi hl h => inv_step cfg wf s s' a g hi hl h) as (init cfg) s obs (inv_init cfg) hl h

theorem count_applied_add_inflight (cfg : Cfg σ) (s : State σ) (hc : Core cfg s) (sp i : Nat) :
    (s.log (cfg.route s.n (cfg.key sp i)) (cfg.key sp i)).count (sp, i) +
        (projI (cfg.key sp i) sp (s.queue (cfg.assign s.n sp) (cfg.route s.n (cfg.key sp i)))).count i =
      (if i < s.cursor sp then 1 else 0) := by
  rw [count_pair, ← List.count_append, hc.main, count_routed]
  simp only [and_true]

theorem mem_log (cfg : Cfg σ) (s : State σ) (hc : Core cfg s) (sp i o k : Nat) (h : (sp, i) ∈ s.log o k) :
    o = cfg.route s.n k ∧ k = cfg.key sp i ∧ i < s.cursor sp := by
  have ho : cfg.route s.n k = o := by
    apply Decidable.byContradiction
    intro hne
    rw [hc.own o k hne] at h
    cases h
  subst ho
  have h1 : i ∈ routed cfg k sp (s.cursor sp) := by
    rw [← hc.main k sp]
    exact List.mem_append_left _ (mem_idxOf.2 h)
  rw [mem_routed] at h1
  exact ⟨rfl, h1.2.symm, h1.1⟩

theorem quiescent_count (cfg : Cfg σ) (s : State σ) (hi : Inv cfg s) (hq : Quiescent s) (sp i : Nat) :
    (s.log (cfg.route s.n (cfg.key sp i)) (cfg.key sp i)).count (sp, i) = (if i < s.cursor sp then 1 else 0) := by
  have h := count_applied_add_inflight cfg s hi.toCore sp i
  rw [projI_eq_nil_of_no_ev _ sp _ (fun e => hq _ _ e)] at h
  exact h

theorem deliver_spec (cfg : Cfg σ) (s s' : State σ) (hi : Inv cfg s) (r o : Nat) (gs : List (Given σ))
    (hs : step cfg s (.deliver r o) = some (s', gs)) :
    ∃ e, gs = [⟨o, e, foldLog cfg e.key (s.log o e.key)⟩] ∧ o = cfg.route s.n e.key ∧
      e.key = cfg.key e.split e.idx ∧ s'.log o e.key = s.log o e.key ++ [(e.split, e.idx)] ∧
      s'.st o e.key = cfg.h (foldLog cfg e.key (s.log o e.key)) e := by
  obtain ⟨e, rest, hq, rfl, rfl⟩ := step_deliver_some hs
  obtain ⟨he1, _, he3⟩ := hi.qwf r o e (hq ▸ List.mem_cons_self)
  refine ⟨e, by rw [hi.hst o e.key], he1.symm, he3, ?_, ?_⟩
  · exact if_pos ⟨rfl, rfl⟩
  · rw [← hi.hst o e.key]
    exact if_pos ⟨rfl, rfl⟩

/-- a decidable sufficient test for `Quiescent` in a reachable state: records only sit on channels inside the
deployment, so it is enough to look at those -/
theorem quiescent_of_check (cfg : Cfg σ) (wf : cfg.WF) (s : State σ) (hi : Inv cfg s) (hn : 0 < s.n)
    (h : ((List.range s.n).all fun r => (List.range s.n).all fun o =>
      (s.queue r o).all fun x => x == Item.bar) = true) : Quiescent s := by
  intro r o e he
  obtain ⟨h1, h2, _⟩ := hi.qwf r o e he
  have ho : o < s.n := by rw [← h1]; exact wf.route_lt _ _ hn
  have hr : r < s.n := by rw [← h2]; exact wf.assign_lt _ _ hn
  have h3 := List.all_eq_true.1 (List.all_eq_true.1 (List.all_eq_true.1 h r (List.mem_range.2 hr)) o
    (List.mem_range.2 ho)) _ he
  simp at h3

end Rxn.Pipeline
