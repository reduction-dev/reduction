import RxnModel.Proofs.KeyedStateKV
import RxnModel.Proofs.KeyedStateGroup
/-! The store of C03 against its specification. A history is replayed as its raw writes; a raw write to a state key is
the normalised mutation naming the triple the key encodes, so `GetState` after any history is the per-key map of the
normalised mutations. On top of that the operator's batch rule, also across checkpoints and restores, where the
operator state is a function of the effective invocations (`opOf`). -/
namespace Rxn.KeyedState
open Rxn Bytes

theorem mem_apply_lwrites {s : Bytes} {nss : List NsMuts} {w : LWrite} :
    w ∈ (Act.apply s nss).lwrites ↔ ∃ nm ∈ nss, ∃ m ∈ nm.2, (s, nm.1, m.key, m.val) = w := by
  simp only [Act.lwrites, nsWrites, List.mem_flatMap, List.mem_map]

theorem applyMutations_eq (kgc : Nat) (kv : KV) (subj : Bytes) (nss : List NsMuts) :
    applyMutations kgc kv subj nss = ((nss.flatMap (nsWrites subj)).map (encW kgc)).foldl KV.write kv := by
  rw [List.foldl_map, List.foldl_flatMap]
  simp only [nsWrites, List.foldl_map]
  rfl

theorem step_eq (kgc : Nat) (kv : KV) (a : Act) : step kgc kv a = (a.rawWrites kgc).foldl KV.write kv := by
  cases a with
  | apply subj nss => simp only [step, Act.rawWrites, Act.lwrites, applyMutations_eq]
  | timerPut subj t | timerDel subj t => rfl

theorem run_eq (kgc : Nat) (acts : List Act) (kv : KV) :
    run kgc kv acts = (acts.flatMap (Act.rawWrites kgc)).foldl KV.write kv := by
  rw [List.foldl_flatMap]
  exact congrArg (fun f => acts.foldl f kv) (funext fun kv => funext (step_eq kgc kv))

theorem run_append (kgc : Nat) (kv : KV) (a b : List Act) : run kgc kv (a ++ b) = run kgc (run kgc kv a) b :=
  List.foldl_append

theorem run_sorted (kgc : Nat) (acts : List Act) : Sorted (run kgc [] acts) := by
  rw [run_eq]; exact foldl_write_sorted _ List.Pairwise.nil

theorem get_run (kgc : Nat) (acts : List Act) (dk : Bytes) :
    KV.get (run kgc [] acts) dk = lastW (acts.flatMap (Act.rawWrites kgc)) dk none := by
  rw [run_eq, get_foldl_write _ _ List.Pairwise.nil]; rfl

theorem mem_run (kgc : Nat) (acts : List Act) (dk v : Bytes) :
    (dk, v) ∈ run kgc [] acts ↔ lastW (acts.flatMap (Act.rawWrites kgc)) dk none = some v := by
  rw [KV.mem_iff_get (run_sorted kgc acts), get_run]

/-! `uint8(len(namespace))` makes a mutation with an over-long namespace write the composite key of its normalised form
`normW`. So the replay of the raw writes at a state key is the replay of the NORMALISED mutations at the triple the key
encodes; what follows is stated against the normalised mutations, with no namespace precondition. -/

theorem normW_ns_le (w : LWrite) : (normW w).2.1.length ≤ 255 := by
  show (w.2.1.take (w.2.1.length % 256)).length ≤ 255
  rw [List.length_take]
  exact Nat.le_trans (Nat.min_le_left _ _) (Nat.le_of_lt_succ (Nat.mod_lt _ (by decide)))

theorem normW_id (w : LWrite) (h : w.2.1.length ≤ 255) : normW w = w := by
  have hr : w.2.1.length % 256 = w.2.1.length := Nat.mod_eq_of_lt (Nat.lt_succ_of_le h)
  simp only [normW, hr, List.take_length, List.drop_length, List.nil_append]

theorem encW_normW (kgc : Nat) (w : LWrite) :
    (encW kgc w).1 = Keys.dbKey kgc (normW w).1 (normW w).2.1 (normW w).2.2.1 := dbKey_norm kgc w.1 w.2.1 w.2.2.1

theorem encW_key_iff (kgc : Nat) {w : LWrite} {k ns ek : Bytes} (hw : w.1.length < 4294967296)
    (hk : k.length < 4294967296) (hn : ns.length ≤ 255) :
    (encW kgc w).1 = Keys.dbKey kgc k ns ek ↔ (normW w).1 = k ∧ (normW w).2.1 = ns ∧ (normW w).2.2.1 = ek := by
  rw [encW_normW]
  constructor
  · exact dbKey_inj hw hk (normW_ns_le w) hn
  · rintro ⟨h1, h2, h3⟩; rw [h1, h2, h3]

theorem specLookup_eq (ws : List LWrite) (subj ns ek : Bytes) :
    specLookup ws subj ns ek =
      lastBy (fun w : LWrite => w.1 = subj ∧ w.2.1 = ns ∧ w.2.2.1 = ek) (fun w => w.2.2.2) ws none := rfl

theorem lastW_map_encW (kgc : Nat) (k ns ek : Bytes) (hk : k.length < 4294967296) (hn : ns.length ≤ 255)
    (ws : List LWrite) (hws : ∀ w ∈ ws, w.1.length < 4294967296) :
    lastW (ws.map (encW kgc)) (Keys.dbKey kgc k ns ek) none = specLookup (ws.map normW) k ns ek := by
  rw [specLookup_eq, lastBy_map, lastW, lastBy_map]
  exact lastBy_congr ws (fun w hw => encW_key_iff kgc (hws w hw) hk hn) none

theorem lastW_single_ne (w : Bytes × Option Bytes) (k : Bytes) (init : Option Bytes) (h : w.1 ≠ k) :
    lastW [w] k init = init := if_neg h

/-- no timer key lies inside a subject's prefix -/
theorem lastW_rawWrites (kgc : Nat) {dk k : Bytes} (hdk : hasPrefix dk (Keys.subjectKey kgc k) = true) (acts : List Act) :
    lastW (acts.flatMap (Act.rawWrites kgc)) dk none = lastW ((acts.flatMap Act.lwrites).map (encW kgc)) dk none := by
  rw [List.map_flatMap]
  refine lastBy_flatMap_congr _ _ acts (fun a _ init => ?_) none
  cases a with
  | apply subj nss => rfl
  | timerPut subj t | timerDel subj t =>
    refine lastW_single_ne _ _ init (fun (e : Keys.timerKey kgc subj t = dk) => ?_)
    rw [← e, timerKey_not_hasPrefix_subjectKey] at hdk
    cases hdk

theorem mem_run_dbKey (kgc : Nat) (acts : List Act) (hkeys : ∀ a ∈ acts, a.KeysOK) (k ns ek : Bytes)
    (hk : k.length < 4294967296) (hn : ns.length ≤ 255) (v : Bytes) :
    (Keys.dbKey kgc k ns ek, v) ∈ run kgc [] acts ↔
      specLookup ((acts.flatMap Act.lwrites).map normW) k ns ek = some v := by
  rw [mem_run, lastW_rawWrites kgc (dbKey_hasPrefix kgc k ns ek),
    lastW_map_encW kgc k ns ek hk hn _ (List.forall_mem_flatMap.mpr hkeys)]

theorem mem_scan_subject (kgc : Nat) (acts : List Act) (hkeys : ∀ a ∈ acts, a.KeysOK) (k : Bytes) (hk : k.length < 4294967296)
    (dk v : Bytes) (h : (dk, v) ∈ (run kgc [] acts).scan (Keys.subjectKey kgc k)) :
    ∃ ns ek, ns.length ≤ 255 ∧ dk = Keys.dbKey kgc k ns ek ∧
      specLookup ((acts.flatMap Act.lwrites).map normW) k ns ek = some v := by
  obtain ⟨hmem, hpre⟩ := List.mem_filter.mp h
  -- `dk` was written by a mutation: it is the state key of the normalised mutation
  have hget := (mem_run kgc acts dk v).mp hmem
  rw [lastW_rawWrites kgc hpre] at hget
  obtain ⟨r, hr, hrk, _⟩ := lastBy_mem _ hget nofun
  obtain ⟨w, hw, rfl⟩ := List.mem_map.mp hr
  have e := hrk.symm.trans (encW_normW kgc w)
  subst e
  have hks := (dbKey_hasPrefix_iff kgc k w.1 _ _ hk (List.forall_mem_flatMap.mpr hkeys w hw)).mp hpre
  subst hks
  exact ⟨_, _, normW_ns_le w, rfl, (mem_run_dbKey kgc acts hkeys _ _ _ hk (normW_ns_le w) v).mp hmem⟩

theorem specLookup_norm_ns_le {ws : List LWrite} {k ns ek v : Bytes}
    (h : specLookup (ws.map normW) k ns ek = some v) : ns.length ≤ 255 := by
  obtain ⟨w, hw, hwk, _⟩ := lastBy_mem _ h nofun
  obtain ⟨w0, _, e⟩ := List.mem_map.mp hw
  rw [← hwk.2.1, ← e]; exact normW_ns_le w0

theorem decoded_mem (kgc : Nat) (acts : List Act) (hkeys : ∀ a ∈ acts, a.KeysOK) (k : Bytes) (hk : k.length < 4294967296)
    (ns ek v : Bytes) :
    (ns, ek, v) ∈ decoded kgc (run kgc [] acts) k ↔
      specLookup ((acts.flatMap Act.lwrites).map normW) k ns ek = some v := by
  constructor
  · intro h
    obtain ⟨⟨dk, v'⟩, hmem, e⟩ := List.mem_map.mp h
    obtain ⟨ns', ek', hn, hdk, hspec⟩ := mem_scan_subject kgc acts hkeys k hk dk v' hmem
    rw [hdk, decode_dbKey kgc k ns' ek' hk hn] at e
    cases e
    exact hspec
  · intro h
    have hn := specLookup_norm_ns_le h
    refine List.mem_map.mpr ⟨(Keys.dbKey kgc k ns ek, v),
      List.mem_filter.mpr ⟨(mem_run_dbKey kgc acts hkeys k ns ek hk hn v).mpr h, dbKey_hasPrefix kgc k ns ek⟩, ?_⟩
    simp only [decode_dbKey kgc k ns ek hk hn]

theorem decoded_sorted (kgc : Nat) (acts : List Act) (hkeys : ∀ a ∈ acts, a.KeysOK) (k : Bytes) (hk : k.length < 4294967296) :
    (decoded kgc (run kgc [] acts) k).Pairwise (fun a b => cmp (entKey a) (entKey b) = .lt) := by
  simp only [decoded, decodedOf]
  rw [List.pairwise_map]
  have hs : ((run kgc [] acts).scan (Keys.subjectKey kgc k)).Pairwise (fun a b => cmp a.1 b.1 = .lt) :=
    List.Pairwise.filter _ (run_sorted kgc acts)
  refine List.Pairwise.imp_of_mem ?_ hs
  intro a b ha hb hab
  obtain ⟨na, ea, hna, hda, _⟩ := mem_scan_subject kgc acts hkeys k hk a.1 a.2 ha
  obtain ⟨nb, eb, hnb, hdb, _⟩ := mem_scan_subject kgc acts hkeys k hk b.1 b.2 hb
  simp only [hda, hdb, decode_dbKey kgc k _ _ hk hna, decode_dbKey kgc k _ _ hk hnb, entKey]
  rw [hda, hdb, dbKey_eq, dbKey_eq, cmp_append_left] at hab
  exact hab

theorem getState_matches_norm (kgc : Nat) (acts : List Act) (hkeys : ∀ a ∈ acts, a.KeysOK) (k : Bytes)
    (hk : k.length < 4294967296) :
    Matches (getState kgc (run kgc [] acts) k) (specLookup ((acts.flatMap Act.lwrites).map normW) k) := by
  obtain ⟨hp, hne, he⟩ := group_ok _
    (fun x hx => specLookup_norm_ns_le ((decoded_mem kgc acts hkeys k hk x.1 x.2.1 x.2.2).mp hx))
    (decoded_sorted kgc acts hkeys k hk)
  refine ⟨fun ns ek v => ?_, hp, hne, he⟩
  rw [← decoded_mem kgc acts hkeys k hk ns ek v, ← mem_ungroup]
  exact iff_of_eq (congrArg _ (ungroup_group _))

theorem specLookup_local (k : Bytes) (ws : List LWrite) (h : NsOKFor k ws) :
    specLookup (ws.map normW) k = specLookup ws k := by
  funext ns ek
  rw [specLookup_eq, specLookup_eq, lastBy_map]
  refine lastBy_congr ws (fun w hw => ?_) none
  by_cases hwk : w.1 = k
  · rw [normW_id w (h w hw hwk)]
  · exact ⟨fun h' => absurd h'.1 hwk, fun h' => absurd h'.1 hwk⟩

theorem getState_matches_local (kgc : Nat) (acts : List Act) (hkeys : ∀ a ∈ acts, a.KeysOK) (k : Bytes)
    (hk : k.length < 4294967296) (hns : NsOKFor k (acts.flatMap Act.lwrites)) :
    Matches (getState kgc (run kgc [] acts) k) (specLookup (acts.flatMap Act.lwrites) k) := by
  have := getState_matches_norm kgc acts hkeys k hk
  rwa [specLookup_local k _ hns] at this

theorem processBatch_fst (kgc : Nat) (kv : KV) (b : Batch) : (processBatch kgc kv b).1 = run kgc kv b.acts :=
  (run_append kgc kv b.firedActs b.respActs).symm

/-- everything written to the database before the state fetch of invocation `i` -/
def histBefore (bs : List Batch) (i : Nat) : List Act :=
  (bs.take i).flatMap Batch.acts ++ (bs.getD i default).firedActs

theorem histBefore_succ (b0 : Batch) (bs : List Batch) (i : Nat) :
    histBefore (b0 :: bs) (i + 1) = b0.acts ++ histBefore bs i := by
  simp only [histBefore, List.take_succ_cons, List.flatMap_cons, List.append_assoc]
  rfl

theorem runBatches_get (kgc : Nat) : ∀ (bs : List Batch) (kv : KV) (i : Nat) (b : Batch), bs[i]? = some b →
    (runBatches kgc kv bs)[i]? =
      some ((distinctKeys b.events).map (fun k => (k, getState kgc (run kgc kv (histBefore bs i)) k))) := by
  intro bs
  induction bs with
  | nil => intro kv i b h; cases h
  | cons b0 bs ih =>
    intro kv i b h
    cases i with
    | zero => cases h; rfl
    | succ i =>
      refine List.getElem?_cons_succ.trans ?_
      rw [ih _ i b h, processBatch_fst, ← run_append, histBefore_succ]

theorem flatMap_lwrites_eq_nil {α : Type} (f : α → Act) (h : ∀ x, (f x).lwrites = []) (l : List α) :
    (l.map f).flatMap Act.lwrites = [] :=
  List.flatMap_eq_nil_iff.mpr (fun a ha => by obtain ⟨x, _, rfl⟩ := List.mem_map.mp ha; exact h x)

theorem firedActs_lwrites (b : Batch) : b.firedActs.flatMap Act.lwrites = [] :=
  flatMap_lwrites_eq_nil _ (fun _ => rfl) b.fired

/-- the state mutations of one key result, in application order -/
def KeyResult.lwrites (kr : KeyResult) : List LWrite := kr.muts.flatMap (nsWrites kr.key)

theorem keyResult_acts_lwrites (kr : KeyResult) : kr.acts.flatMap Act.lwrites = kr.lwrites := by
  rw [KeyResult.acts, List.flatMap_append, flatMap_lwrites_eq_nil _ (fun _ => rfl), List.nil_append,
    List.flatMap_singleton]
  rfl

theorem batch_acts_lwrites (b : Batch) : b.acts.flatMap Act.lwrites = b.resp.flatMap KeyResult.lwrites := by
  rw [Batch.acts, List.flatMap_append, firedActs_lwrites, List.nil_append, Batch.respActs, List.flatMap_assoc]
  simp only [keyResult_acts_lwrites]

theorem before_lwrites (bs : List Batch) (b : Batch) :
    (bs.flatMap Batch.acts ++ b.firedActs).flatMap Act.lwrites =
      bs.flatMap (fun b => b.resp.flatMap KeyResult.lwrites) := by
  rw [List.flatMap_append, firedActs_lwrites, List.append_nil, List.flatMap_assoc]
  simp only [batch_acts_lwrites]

theorem before_all {P : LWrite → Prop} {bs : List Batch} (h : ∀ b ∈ bs, ∀ kr ∈ b.resp, ∀ w ∈ kr.lwrites, P w)
    (b : Batch) : ∀ a ∈ bs.flatMap Batch.acts ++ b.firedActs, ∀ w ∈ a.lwrites, P w := by
  refine List.forall_mem_flatMap.mp ?_
  rw [before_lwrites]
  exact List.forall_mem_flatMap.mpr (fun b' hb' => List.forall_mem_flatMap.mpr (h b' hb'))

theorem before_keysOK (bs : List Batch) (h : ∀ b ∈ bs, ∀ kr ∈ b.resp, kr.key.length < 4294967296) (b : Batch) :
    ∀ a ∈ bs.flatMap Batch.acts ++ b.firedActs, a.KeysOK := by
  refine before_all (fun b' hb' kr hkr w hw => ?_) b
  obtain ⟨nm, _, m, _, rfl⟩ := (mem_apply_lwrites (s := kr.key)).mp hw
  exact h b' hb' kr hkr

/-- all state mutations returned by the invocations before `i`, in invocation order and result order -/
def mutsBefore (bs : List Batch) (i : Nat) : List LWrite :=
  (bs.take i).flatMap (fun b => b.resp.flatMap KeyResult.lwrites)

theorem histBefore_lwrites (bs : List Batch) (i : Nat) : (histBefore bs i).flatMap Act.lwrites = mutsBefore bs i :=
  before_lwrites (bs.take i) _

theorem histBefore_keysOK (bs : List Batch) (i : Nat) (h : ∀ b ∈ bs.take i, ∀ kr ∈ b.resp, kr.key.length < 4294967296) :
    ∀ a ∈ histBefore bs i, a.KeysOK :=
  before_keysOK (bs.take i) h _

theorem distinctKeys_mem (l : List Bytes) (k : Bytes) : k ∈ distinctKeys l ↔ k ∈ l := by
  induction l with
  | nil => exact Iff.rfl
  | cons x xs ih =>
    show k ∈ x :: (distinctKeys xs).filter (· ≠ x) ↔ _
    rw [List.mem_cons, List.mem_cons, List.mem_filter, ih]
    by_cases hx : k = x
    · exact ⟨fun _ => Or.inl hx, fun _ => Or.inl hx⟩
    · exact or_congr_right (and_iff_left (decide_eq_true hx))

theorem distinctKeys_nodup (l : List Bytes) : (distinctKeys l).Nodup := by
  induction l with
  | nil => exact List.nodup_nil
  | cons x xs ih =>
    exact List.nodup_cons.mpr ⟨fun h => of_decide_eq_true (List.mem_filter.mp h).2 rfl, ih.filter _⟩

/-- the states fetched for `events` after the batches `bs` and the timer deletions of `b0`: what both forms of the
batch rule end in -/
theorem keyStates_spec (kgc : Nat) (bs : List Batch) (hres : ∀ b ∈ bs, ∀ kr ∈ b.resp, kr.key.length < 4294967296)
    (b0 : Batch) (events : List Bytes) (hev : ∀ k ∈ events, k.length < 4294967296) :
    ((distinctKeys events).map
      (fun k => (k, getState kgc (run kgc [] (bs.flatMap Batch.acts ++ b0.firedActs)) k))).map (·.1) = distinctKeys events ∧
    ∀ k st, (k, st) ∈ (distinctKeys events).map
        (fun k => (k, getState kgc (run kgc [] (bs.flatMap Batch.acts ++ b0.firedActs)) k)) →
      Matches st (specLookup ((bs.flatMap (fun b => b.resp.flatMap KeyResult.lwrites)).map normW) k) := by
  refine ⟨by rw [List.map_map]; exact List.map_id' _, fun k st hmem => ?_⟩
  obtain ⟨k', hk', e⟩ := List.mem_map.mp hmem
  cases e
  rw [← before_lwrites bs b0]
  exact getState_matches_norm kgc _ (before_keysOK bs hres b0) k (hev k ((distinctKeys_mem _ _).mp hk'))

theorem batch_keyStates (kgc : Nat) (bs : List Batch) (i : Nat) (b : Batch) (hb : bs[i]? = some b)
    (hres : ∀ b' ∈ bs.take i, ∀ kr ∈ b'.resp, kr.key.length < 4294967296)
    (hev : ∀ k ∈ b.events, k.length < 4294967296) :
    ∃ obs, (runBatches kgc [] bs)[i]? = some obs ∧ obs.map (·.1) = distinctKeys b.events ∧
      ∀ k st, (k, st) ∈ obs → Matches st (specLookup ((mutsBefore bs i).map normW) k) :=
  ⟨_, runBatches_get kgc bs [] i b hb, keyStates_spec kgc (bs.take i) hres (bs.getD i default) b.events hev⟩

/-- the database and every retained checkpoint are the replays of their effective invocations -/
def opOf (kgc : Nat) (e : Eff) : OpState :=
  { kv := run kgc [] (e.1.flatMap Batch.acts), saved := e.2.map (fun p => (p.1, run kgc [] (p.2.flatMap Batch.acts))) }

theorem lookupCkpt_map {α β : Type} (f : α → β) (l : List (Nat × α)) (id : Nat) :
    lookupCkpt (l.map (fun p => (p.1, f p.2))) id = (lookupCkpt l id).map f := by
  simp only [lookupCkpt, List.find?_map, Option.map_map]
  rfl

theorem lookupCkpt_mem {α : Type} {l : List (Nat × α)} {id : Nat} {a : α} (h : lookupCkpt l id = some a) :
    ∃ p ∈ l, p.2 = a := by
  simp only [lookupCkpt, Option.map_eq_some_iff] at h
  obtain ⟨p, hp, e⟩ := h
  exact ⟨p, List.mem_of_find?_eq_some hp, e⟩

theorem keepOnly_map {α β : Type} (f : α → β) (l : List (Nat × α)) (id : Nat) :
    keepOnly (l.map (fun p => (p.1, f p.2))) id = (keepOnly l id).map (fun p => (p.1, f p.2)) := by
  simp only [keepOnly, List.filter_map]
  rfl

theorem opStep_opOf (kgc : Nat) (e : Eff) (x : OpStep) : (opStep kgc (opOf kgc e) x).1 = opOf kgc (effStep e x) := by
  cases x with
  | batch b =>
    have h : (processBatch kgc (opOf kgc e).kv b).1 = run kgc [] ((e.1 ++ [b]).flatMap Batch.acts) := by
      rw [processBatch_fst, List.flatMap_append, run_append, List.flatMap_singleton]; rfl
    exact congrArg (fun kv => ({ kv := kv, saved := (opOf kgc e).saved } : OpState)) h
  | ckpt id => rfl
  | restore id =>
    -- a checkpoint never taken gives the empty database on both sides: the replay of no invocations
    show OpState.mk ((lookupCkpt (opOf kgc e).saved id).getD []) (keepOnly (opOf kgc e).saved id) = _
    rw [opOf, lookupCkpt_map (fun bs : List Batch => run kgc [] (bs.flatMap Batch.acts)),
      keepOnly_map (fun bs : List Batch => run kgc [] (bs.flatMap Batch.acts))]
    exact congrArg (OpState.mk · _) (Option.getD_map (fun bs : List Batch => run kgc [] (bs.flatMap Batch.acts)) [] _)

theorem runOps_get (kgc : Nat) : ∀ (steps : List OpStep) (e : Eff) (i : Nat) (b : Batch),
    steps[i]? = some (.batch b) →
    (runOps kgc (opOf kgc e) steps)[i]? = some (some ((distinctKeys b.events).map (fun k =>
      (k, getState kgc (run kgc [] (((steps.take i).foldl effStep e).1.flatMap Batch.acts ++ b.firedActs)) k)))) := by
  intro steps
  induction steps with
  | nil => intro e i b h; cases h
  | cons x xs ih =>
    intro e i b h
    cases i with
    | zero =>
      cases h
      rw [run_append]
      rfl
    | succ i =>
      refine List.getElem?_cons_succ.trans ?_
      rw [opStep_opOf, List.take_succ_cons, List.foldl_cons]
      exact ih _ i b h

theorem restore_keyStates (kgc : Nat) (steps : List OpStep) (i : Nat) (b : Batch) (hb : steps[i]? = some (.batch b))
    (hres : ∀ b' ∈ (effective (steps.take i)).1, ∀ kr ∈ b'.resp, kr.key.length < 4294967296)
    (hev : ∀ k ∈ b.events, k.length < 4294967296) :
    ∃ obs, (runOps kgc {} steps)[i]? = some (some obs) ∧ obs.map (·.1) = distinctKeys b.events ∧
      ∀ k st, (k, st) ∈ obs → Matches st (specLookup
        (((effective (steps.take i)).1.flatMap (fun b => b.resp.flatMap KeyResult.lwrites)).map normW) k) :=
  ⟨_, runOps_get kgc steps ([], []) i b hb, keyStates_spec kgc _ hres b b.events hev⟩

def EffAll (P : Batch → Prop) (e : Eff) : Prop := (∀ b ∈ e.1, P b) ∧ ∀ p ∈ e.2, ∀ b ∈ p.2, P b

theorem effStep_all {P : Batch → Prop} {e : Eff} (h : EffAll P e) (x : OpStep) (hx : ∀ b, x = .batch b → P b) :
    EffAll P (effStep e x) := by
  cases x with
  | batch b0 =>
    refine ⟨fun b hb => ?_, h.2⟩
    rcases List.mem_append.mp hb with hb | hb
    · exact h.1 b hb
    · rw [List.mem_singleton.mp hb]; exact hx b0 rfl
  | ckpt id => exact ⟨h.1, List.forall_mem_cons.mpr ⟨h.1, h.2⟩⟩
  | restore id =>
    refine ⟨fun b hb => ?_, fun p hp => h.2 p (List.mem_filter.mp hp).1⟩
    cases he : lookupCkpt e.2 id with
    | none => rw [effStep, he] at hb; cases hb
    | some bs =>
      obtain ⟨p, hp, e2⟩ := lookupCkpt_mem he
      rw [effStep, he, ← e2] at hb
      exact h.2 p hp b hb

theorem eff_all (P : Batch → Prop) (steps : List OpStep) (e : Eff) (h : EffAll P e)
    (hs : ∀ b, OpStep.batch b ∈ steps → P b) : ∀ b ∈ (steps.foldl effStep e).1, P b :=
  (List.foldlRecOn (motive := EffAll P) steps effStep h
    (fun _ he x hx => effStep_all he x (fun b hb => hs b (hb ▸ hx)))).1

/-! `WF` asks more than the theorems above do (`KeysOK` of the history, `NsOKFor k` for the key that is read): the
namespace bound on every key's mutations. It is what a concrete history is checked against. -/

/-- the lengths the encoders can represent: subject keys below 2^32 bytes, namespaces at most 255 bytes -/
def LWrite.WF (w : LWrite) : Prop := w.1.length < 4294967296 ∧ w.2.1.length ≤ 255

def Act.WF (a : Act) : Prop := ∀ w ∈ a.lwrites, LWrite.WF w

theorem apply_wf {s : Bytes} {nss : List NsMuts} (hs : s.length < 4294967296) (hn : ∀ nm ∈ nss, nm.1.length ≤ 255) :
    (Act.apply s nss).WF := by
  intro w hw
  obtain ⟨nm, hnm, m, _, rfl⟩ := mem_apply_lwrites.mp hw
  exact ⟨hs, hn nm hnm⟩

theorem keysOK_nsOK_of_wf {acts : List Act} (h : ∀ a ∈ acts, a.WF) (k : Bytes) :
    (∀ a ∈ acts, a.KeysOK) ∧ NsOKFor k (acts.flatMap Act.lwrites) :=
  ⟨fun a ha w hw => (h a ha w hw).1, fun w hw _ => (List.forall_mem_flatMap.mpr h w hw).2⟩

def Batch.WF (b : Batch) : Prop :=
  (∀ k ∈ b.events, k.length < 4294967296) ∧ ∀ kr ∈ b.resp, ∀ w ∈ kr.lwrites, LWrite.WF w

theorem histBefore_wf (bs : List Batch) (hwf : ∀ b ∈ bs, b.WF) (i : Nat) : ∀ a ∈ histBefore bs i, a.WF :=
  before_all (fun b hb => (hwf b (List.mem_of_mem_take hb)).2) _
end Rxn.KeyedState
