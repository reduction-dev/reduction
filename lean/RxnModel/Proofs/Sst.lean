import RxnModel.Model.Sst
import RxnModel.Base.BytesOrder
/-!
Proofs about `Model/Sst.lean` (C17). `Get` is handled by seeing the table as blocks that start at the index samples:
the binary search picks one block, the bounded scan reads only it. The fuelled loop of `WriteRun` follows the fuel-free
relation `Chunks`, from which non-empty tables and the size bounds are read off.
-/
namespace Rxn.Sst
open Rxn

theorem leBytes_length (w n : Nat) : (leBytes w n).length = w := by
  induction w generalizing n with
  | zero => rfl
  | succ w ih => simp [leBytes, ih]

theorem leVal_leBytes (w n : Nat) (h : n < 256 ^ w) : leVal (leBytes w n) = n := by
  induction w generalizing n with
  | zero => simp at h; simp [leBytes, leVal, h]
  | succ w ih =>
    have h2 : n / 256 < 256 ^ w := by
      rw [Nat.div_lt_iff_lt_mul (by decide)]; rw [Nat.pow_succ] at h; exact h
    simp only [leBytes, leVal, ih _ h2]
    have : (UInt8.ofNat (n % 256)).toNat = n % 256 := by
      simp [UInt8.toNat_ofNat']
    rw [this]; omega

theorem readN_append (b rest : Bytes) : readN b.length (b ++ rest) = some (b, rest) := by
  simp [readN]

theorem readNat_leBytes (w n : Nat) (h : n < 256 ^ w) (rest : Bytes) :
    readNat w (leBytes w n ++ rest) = some (n, rest) := by
  have := readN_append (leBytes w n) rest
  rw [leBytes_length] at this
  simp [readNat, this, leVal_leBytes w n h]

theorem readVar_encVar (b rest : Bytes) (h : b.length < 256 ^ lenW) :
    readVar (encVar b ++ rest) = some (b, rest) := by
  unfold readVar
  simp only [encVar, List.append_assoc, readNat_leBytes lenW _ h, readN_append]

theorem tombW_pos : 0 < tombW := by decide

theorem tombMark_ne_zero : tombMark ≠ 0 := by decide

theorem tombVal_lt (d : Bool) : (if d then tombMark else 0) < 256 ^ tombW := by
  cases d with
  | false => decide
  | true => decide

theorem readNat_encTomb (d : Bool) (rest : Bytes) :
    readNat tombW (encTomb d ++ rest) = some ((if d then tombMark else 0), rest) :=
  readNat_leBytes tombW _ (tombVal_lt d) rest

theorem readNats_encNats (w : Nat) (xs : List Nat) (h : ∀ x ∈ xs, x < 256 ^ w) (rest : Bytes) :
    readNats w xs.length (encNats w xs ++ rest) = some (xs, rest) := by
  induction xs with
  | nil => rfl
  | cons x xs ih =>
    have hx := h x (by simp)
    have hxs : ∀ y ∈ xs, y < 256 ^ w := fun y hy => h y (by simp [hy])
    have ih' := ih hxs
    simp only [encNats] at ih'
    rw [readNats.eq_def]
    simp only [encNats, List.flatMap_cons, List.length_cons, List.append_assoc, readNat_leBytes w x hx, ih']

theorem decEntry_encEntry (e : Entry) (h : e.WF) (rest : Bytes) :
    decEntry (encEntry e ++ rest) = some (e, rest) := by
  obtain ⟨k, s, d, v⟩ := e
  obtain ⟨hk, hv, hs, ht⟩ := h
  simp only at hk hv hs ht
  cases d with
  | true =>
    obtain rfl : v = [] := ht rfl
    unfold decEntry
    simp only [encEntry, List.append_assoc, readVar_encVar _ _ hk, readNat_leBytes u64W _ hs, readNat_encTomb,
      if_true, List.nil_append]
  | false =>
    unfold decEntry
    simp only [encEntry, List.append_assoc, readVar_encVar _ _ hk, readNat_leBytes u64W _ hs, readNat_encTomb,
      Bool.false_eq_true, if_false, if_neg tombMark_ne_zero.symm, readVar_encVar _ _ hv]

theorem encEntry_length_pos (e : Entry) : 0 < (encEntry e).length := by
  have := tombW_pos
  simp only [encEntry, encTomb, List.length_append, leBytes_length]
  omega

theorem entry_overhead_eq : Facts.sstEntryOverhead = lenW + u64W + tombW + lenW := by decide

/-- the bound is `flushSize` before its reduction to `Facts.sstFlushSizeBits` bits; puts attain it -/
theorem encEntry_length_le (e : Entry) : (encEntry e).length ≤ Facts.sstEntryOverhead + e.key.length + e.val.length := by
  rw [entry_overhead_eq]
  simp only [encEntry, encVar, encTomb, List.length_append, leBytes_length]
  cases e.del with
  | true => simp only [if_true, List.length_nil]; omega
  | false => simp only [Bool.false_eq_true, if_false, List.length_append, leBytes_length]; omega

theorem encEntries_append (a b : List Entry) : encEntries (a ++ b) = encEntries a ++ encEntries b := by
  induction a with
  | nil => rfl
  | cons e a ih => simp [encEntries, ih]

theorem length_le_encEntries (es : List Entry) : es.length ≤ (encEntries es).length := by
  induction es with
  | nil => simp
  | cons e es ih =>
    have := encEntry_length_pos e
    rw [encEntries, List.length_append, List.length_cons]
    omega

theorem isEmpty_append_of_pos {a : Bytes} (h : 0 < a.length) (b : Bytes) : (a ++ b).isEmpty = false := by
  cases a with
  | nil => cases h
  | cons _ _ => rfl

theorem scanAll_encEntries (es : List Entry) (h : ∀ e ∈ es, e.WF) (fuel : Nat) (hf : es.length < fuel) :
    scanAll fuel (encEntries es) = some es := by
  induction es generalizing fuel with
  | nil => cases fuel with
    | zero => omega
    | succ f => rfl
  | cons e es ih =>
    cases fuel with
    | zero => omega
    | succ f =>
      have hne := isEmpty_append_of_pos (encEntry_length_pos e) (encEntries es)
      have he := h e (by simp)
      have ih' := ih (fun x hx => h x (by simp [hx])) f (by simp at hf; omega)
      rw [scanAll.eq_def]
      simp only [encEntries, hne, decEntry_encEntry e he, ih']
      simp

/-- The bounded scan of `Get` started at an entry boundary `off` over the rows `B ++ C`, with the stop offset at the boundary
between `B` and `C` (or no stop offset and no `C`): it looks at the rows of `B` only. -/
theorem scanGet_rows (key : Bytes) (B C : List Entry) (hwf : ∀ e ∈ B ++ C, e.WF) (stop : Option Nat) (off : Nat)
    (hstop : stop = some (off + (encEntries B).length) ∨ (stop = none ∧ C = []))
    (fuel : Nat) (hf : (B ++ C).length < fuel) :
    scanGet key stop fuel (encEntries (B ++ C)) off = GetRes.ofOption (B.find? (fun e => e.key = key)) := by
  obtain ⟨f, rfl⟩ : ∃ f, fuel = f + 1 := ⟨fuel - 1, by omega⟩
  induction B generalizing off f with
  | nil =>
    rw [scanGet.eq_def]
    rcases hstop with rfl | ⟨rfl, rfl⟩
    · simp [beforeStop, encEntries, GetRes.ofOption]
    · simp [beforeStop, encEntries, GetRes.ofOption]
  | cons e B ih =>
    have hpos := encEntry_length_pos e
    rw [encEntries, List.length_append] at hstop
    have hb : beforeStop stop off = true := by
      rcases hstop with rfl | ⟨rfl, _⟩
      · simp only [beforeStop, decide_eq_true_eq]; omega
      · rfl
    obtain ⟨f, rfl⟩ : ∃ g, f = g + 1 := ⟨f - 1, by simp at hf; omega⟩
    have ih' := ih (fun x hx => hwf x (List.mem_cons_of_mem _ hx)) (off + (encEntry e).length)
      (hstop.imp (fun h => by rw [h, Nat.add_assoc]) id) f (by simp at hf ⊢; omega)
    have hlen : (encEntry e ++ encEntries (B ++ C)).length - (encEntries (B ++ C)).length = (encEntry e).length := by simp
    rw [scanGet.eq_def]
    simp only [List.cons_append, encEntries, hb, if_true, isEmpty_append_of_pos hpos,
      decEntry_encEntry e (hwf e (List.mem_cons_self ..)), hlen, ih', List.find?_cons]
    by_cases hk : e.key = key <;> simp [hk, GetRes.ofOption]

theorem bsLoop_probe (cmpAt : Nat → Outcome Ordering) (fuel lo hi : Nat) (bad : Bool) {o : Ordering} (hlt : lo < hi)
    (hc : cmpAt ((lo + hi) / 2) = .ok o) :
    bsLoop cmpAt (fuel + 1) lo hi bad =
      if o = .lt then bsLoop cmpAt fuel ((lo + hi) / 2 + 1) hi bad else bsLoop cmpAt fuel lo ((lo + hi) / 2) bad := by
  show (if lo < hi then _ else _) = _
  rw [if_pos hlt, hc]
  cases o <;> rfl

theorem bsLoop_done (cmpAt : Nat → Outcome Ordering) (fuel lo hi : Nat) (bad : Bool) (h : ¬ lo < hi) :
    bsLoop cmpAt fuel lo hi bad = .ok (lo, bad) := by
  cases fuel with
  | zero => rfl
  | succ f => exact if_neg h

theorem bsLoop_spec (cmpAt : Nat → Outcome Ordering) (g : Nat → Ordering) (n : Nat)
    (hg : ∀ j, j < n → cmpAt j = .ok (g j))
    (mono : ∀ a b, a ≤ b → b < n → g b = .lt → g a = .lt)
    (fuel lo hi : Nat) (hlo : ∀ j, j < lo → g j = .lt) (hhi : ∀ j, hi ≤ j → j < n → g j ≠ .lt)
    (hle : lo ≤ hi) (hhin : hi ≤ n) (hf : hi - lo ≤ fuel) (bad : Bool) :
    ∃ i, bsLoop cmpAt fuel lo hi bad = .ok (i, bad) ∧ i ≤ hi ∧ (∀ j, j < i → g j = .lt) ∧
      (∀ j, i ≤ j → j < n → g j ≠ .lt) := by
  induction fuel generalizing lo hi with
  | zero =>
    obtain rfl : lo = hi := by omega
    exact ⟨lo, rfl, Nat.le_refl _, hlo, hhi⟩
  | succ f ih =>
    by_cases hlt : lo < hi
    · have hm : lo ≤ (lo + hi) / 2 ∧ (lo + hi) / 2 < hi := by omega
      rw [bsLoop_probe cmpAt f lo hi bad hlt (hg _ (Nat.lt_of_lt_of_le hm.2 hhin))]
      generalize (lo + hi) / 2 = m at hm ⊢
      have hmn : m < n := Nat.lt_of_lt_of_le hm.2 hhin
      by_cases hc : g m = .lt
      · rw [if_pos hc]
        exact ih (m + 1) hi (fun j hj => mono j m (Nat.le_of_lt_succ hj) hmn hc) hhi hm.2 hhin (by omega)
      · rw [if_neg hc]
        obtain ⟨i, h1, h2, h3⟩ := ih lo m hlo (fun j hj hjn hjl => hc (mono m j hj hjn hjl)) hm.1
          (Nat.le_trans (Nat.le_of_lt hm.2) hhin) (by omega)
        exact ⟨i, h1, Nat.le_trans h2 (Nat.le_of_lt hm.2), h3⟩
    · obtain rfl : lo = hi := by omega
      exact ⟨lo, bsLoop_done cmpAt _ lo lo bad hlt, Nat.le_refl _, hlo, hhi⟩

theorem search_exact (offs : List Nat) (readKey : Nat → Outcome Bytes) (target : Bytes) (hne : offs ≠ []) {i : Nat}
    (hbs : bsLoop (fun i => cmpKey target (readKey (offs.getD i 0))) offs.length 0 offs.length false = .ok (i, false))
    (hprobe : (if i < offs.length then cmpKey target (readKey (offs.getD i 0)) else .ok .lt) = .ok .eq) :
    search offs readKey target =
      .range (offs.getD i 0) (if i + 1 = offs.length then none else some (offs.getD (i + 1) 0)) := by
  unfold search
  rw [if_neg (by simpa using hne)]
  simp only [hbs, hprobe, Bool.false_eq_true, if_false, if_true]

/-- the clamp of D19, `if 0 < i then i - 1 else i`, is `i - 1` in `Nat` -/
theorem search_inexact (offs : List Nat) (readKey : Nat → Outcome Bytes) (target : Bytes) (hne : offs ≠ [])
    {i : Nat} {o : Ordering} (ho : o ≠ .eq)
    (hbs : bsLoop (fun i => cmpKey target (readKey (offs.getD i 0))) offs.length 0 offs.length false = .ok (i, false))
    (hprobe : (if i < offs.length then cmpKey target (readKey (offs.getD i 0)) else .ok .lt) = .ok o) :
    search offs readKey target =
      .range (offs.getD (i - 1) 0) (if i - 1 + 1 = offs.length then none else some (offs.getD (i - 1 + 1) 0)) := by
  have hfound : (if 0 < i then i - 1 else i) = i - 1 := by
    split
    · rfl
    · omega
  unfold search
  rw [if_neg (by simpa using hne)]
  simp only [hbs, hprobe, Bool.false_eq_true, if_false, if_neg ho, hfound]

/-- `Search` on an index whose `n` sampled keys `k 0 < k 1 < …` are strictly ascending: the chosen block `f` is the
last one whose first key is `≤ target` (block 0 if there is none); every later block starts above the target. -/
theorem search_spec (n : Nat) (k : Nat → Bytes) (offs : List Nat) (readKey : Nat → Outcome Bytes) (target : Bytes)
    (hlen : offs.length = n) (hpos : 0 < n)
    (hread : ∀ j, j < n → readKey (offs.getD j 0) = .ok (k j))
    (hs : ∀ a b, a < b → b < n → Bytes.cmp (k a) (k b) = .lt) :
    ∃ f, f < n ∧
      search offs readKey target = .range (offs.getD f 0) (if f + 1 = offs.length then none else some (offs.getD (f + 1) 0)) ∧
      (f = 0 ∨ Bytes.cmp (k f) target ≠ .gt) ∧
      (∀ j, f < j → j < n → Bytes.cmp (k j) target = .gt) := by
  let g : Nat → Ordering := fun j => Bytes.cmp (k j) target
  let cmpAt : Nat → Outcome Ordering := fun i => cmpKey target (readKey (offs.getD i 0))
  have hg : ∀ j, j < n → cmpAt j = .ok (g j) := by
    intro j hj; show cmpKey target (readKey (offs.getD j 0)) = _; rw [hread j hj]; rfl
  have gt_of : ∀ a b, a < b → b < n → g a ≠ .lt → g b = .gt := by
    intro a b hab hb hna
    have h1 := hs a b hab hb
    cases hgb : g b with
    | gt => rfl
    | lt => exact absurd (Bytes.cmp_lt_trans h1 hgb) hna
    | eq => rw [Bytes.cmp_eq_iff.mp hgb] at h1; exact absurd h1 hna
  have mono : ∀ a b, a ≤ b → b < n → g b = .lt → g a = .lt := by
    intro a b hab hb hlt
    rcases Nat.eq_or_lt_of_le hab with rfl | hab
    · exact hlt
    · exact Decidable.by_contra fun hna => by rw [gt_of a b hab hb hna] at hlt; cases hlt
  have hne : offs ≠ [] := by rintro rfl; exact Nat.ne_of_gt hpos hlen.symm
  obtain ⟨i, hbs, hin, hbelow, habove⟩ := bsLoop_spec cmpAt g n hg mono n 0 n
    (fun j hj => absurd hj (Nat.not_lt_zero j)) (fun j h1 h2 => absurd h2 (Nat.not_lt.mpr h1)) (Nat.zero_le _)
    (Nat.le_refl _) (Nat.sub_le _ _) false
  rw [← hlen] at hbs
  by_cases hex : i < n ∧ g i = .eq
  · have hprobe : (if i < offs.length then cmpAt i else .ok .lt) = .ok .eq := by rw [hlen, if_pos hex.1, hg i hex.1, hex.2]
    refine ⟨i, hex.1, search_exact offs readKey target hne hbs hprobe,
      Or.inr (by show g i ≠ .gt; rw [hex.2]; decide), ?_⟩
    intro j hj hjn; exact gt_of i j hj hjn (by rw [hex.2]; decide)
  · -- the block before `i` is taken: its first key is below the target, all keys from `i` on are above
    obtain ⟨o, hprobe, ho⟩ : ∃ o, (if i < offs.length then cmpAt i else .ok .lt) = .ok o ∧ o ≠ .eq := by
      by_cases hi : i < n
      · exact ⟨g i, by rw [hlen, if_pos hi, hg i hi], fun h => hex ⟨hi, h⟩⟩
      · exact ⟨.lt, by rw [hlen, if_neg hi], by decide⟩
    have hgt : ∀ j, i ≤ j → j < n → g j = .gt := by
      intro j hij hj
      have hi : i < n := by omega
      have hgi : g i = .gt := by
        cases h : g i with
        | lt => exact absurd h (habove i (Nat.le_refl _) hi)
        | eq => exact absurd ⟨hi, h⟩ hex
        | gt => rfl
      rcases Nat.eq_or_lt_of_le hij with rfl | hij
      · exact hgi
      · exact gt_of i j hij hj (by rw [hgi]; decide)
    refine ⟨i - 1, by omega, search_inexact offs readKey target hne ho hbs hprobe, ?_,
      fun j hj hjn => hgt j (by omega) hjn⟩
    rcases Nat.eq_zero_or_pos (i - 1) with h0 | h0
    · exact Or.inl h0
    · exact Or.inr (by show g (i - 1) ≠ .gt; rw [hbelow (i - 1) (by omega)]; decide)

theorem sorted_lt_of_append {A B : List Entry} (h : SortedKeys (A ++ B)) {a b : Entry} (ha : a ∈ A) (hb : b ∈ B) :
    Bytes.cmp a.key b.key = .lt :=
  Bytes.lt_iff_cmp.mp ((List.pairwise_append.mp h).2.2 a ha b hb)

theorem key_ne_before {X T : List Entry} {x : Entry} (hs : SortedKeys (X ++ x :: T)) {key : Bytes}
    (h : Bytes.cmp x.key key ≠ .gt) : ∀ e ∈ X, e.key ≠ key := by
  intro e he hek
  have hlt := sorted_lt_of_append hs he (b := x) (by simp)
  rw [hek] at hlt
  exact h (Bytes.cmp_lt_iff_gt.mp hlt)

theorem key_ne_from {X T : List Entry} {x : Entry} (hs : SortedKeys (X ++ x :: T)) {key : Bytes}
    (h : Bytes.cmp x.key key = .gt) : ∀ e ∈ x :: T, e.key ≠ key := by
  intro e he hek
  rcases List.mem_cons.mp he with rfl | he
  · exact Bytes.ne_of_cmp_gt h hek
  · have hlt := Bytes.lt_iff_cmp.mp ((List.pairwise_cons.mp (List.pairwise_append.mp hs).2.1).1 e he)
    rw [hek, h] at hlt; cases hlt

theorem find?_middle (A B C : List Entry) (key : Bytes)
    (hA : ∀ e ∈ A, e.key ≠ key) (hC : ∀ e ∈ C, e.key ≠ key) :
    (A ++ (B ++ C)).find? (fun e => e.key = key) = B.find? (fun e => e.key = key) := by
  have h1 : A.find? (fun e => decide (e.key = key)) = none := by
    rw [List.find?_eq_none]; intro e he; simpa using hA e he
  have h2 : C.find? (fun e => decide (e.key = key)) = none := by
    rw [List.find?_eq_none]; intro e he; simpa using hC e he
  simp [List.find?_append, h1, h2]

theorem readKeyAt_entry (A : List Entry) (e : Entry) (R : List Entry) (he : e.key.length < 256 ^ lenW) :
    readKeyAt (encEntries (A ++ e :: R)) (encEntries (A ++ e :: R)).length (encEntries A).length = .ok e.key := by
  unfold readKeyAt
  rw [encEntries_append, if_neg (by rw [List.length_append]; omega), List.drop_left]
  simp only [encEntries, encEntry, List.append_assoc, readVar_encVar _ _ he]

/-! ### index blocks: the entries between two consecutive index samples -/

structure Block where
  head : Entry
  tail : List Entry

def Block.ents (b : Block) : List Entry := b.head :: b.tail

abbrev blocksFlat (bs : List Block) : List Entry := bs.flatMap Block.ents

def blockOffsets : Nat → List Block → List Nat
  | _, [] => []
  | off, b :: bs => off :: blockOffsets (off + (encEntries b.ents).length) bs

theorem blocksFlat_split (bs : List Block) (j : Nat) (hj : j < bs.length) :
    blocksFlat bs = blocksFlat (bs.take j) ++ ((bs[j]).ents ++ blocksFlat (bs.drop (j + 1))) := by
  conv => lhs; rw [← List.take_append_drop j bs, List.drop_eq_getElem_cons hj]
  exact List.flatMap_append

theorem blocksFlat_take_succ (bs : List Block) (j : Nat) (hj : j < bs.length) :
    blocksFlat (bs.take (j + 1)) = blocksFlat (bs.take j) ++ (bs[j]).ents := by
  rw [List.take_succ_eq_append_getElem hj]
  show (bs.take j ++ [bs[j]]).flatMap Block.ents = _
  rw [List.flatMap_append, List.flatMap_singleton]

theorem blockOffsets_length (off : Nat) (bs : List Block) : (blockOffsets off bs).length = bs.length := by
  induction bs generalizing off with
  | nil => rfl
  | cons b bs ih => simp [blockOffsets, ih]

theorem blockOffsets_getD (off : Nat) (bs : List Block) (j : Nat) (hj : j < bs.length) :
    (blockOffsets off bs).getD j 0 = off + (encEntries (blocksFlat (bs.take j))).length := by
  induction bs generalizing off j with
  | nil => simp at hj
  | cons b bs ih =>
    cases j with
    | zero => simp [blockOffsets, blocksFlat, encEntries]
    | succ j =>
      have := ih (off + (encEntries b.ents).length) j (by simpa using hj)
      simp only [blockOffsets, List.getD_cons_succ, this, List.take_succ_cons, List.flatMap_cons, encEntries_append,
        List.length_append]
      exact Nat.add_assoc _ _ _

/-- the offsets written by `IndexOffset` are the start offsets of a decomposition into non-empty blocks -/
theorem indexOffsets_blocks (es : List Entry) (items off : Nat) (hsz : off + (encEntries es).length < offMod) :
    ∃ pre bs, es = pre ++ blocksFlat bs ∧
      indexOffsets items off es = blockOffsets (off + (encEntries pre).length) bs ∧
      (items % spacing = 0 → pre = []) := by
  induction es generalizing items off with
  | nil => exact ⟨[], [], rfl, rfl, fun _ => rfl⟩
  | cons e es ih =>
    simp only [encEntries, List.length_append] at hsz
    obtain ⟨pre, bs, h1, h2, h3⟩ := ih (items + 1) (off + (encEntry e).length) (by omega)
    by_cases hi : items % spacing = 0
    · refine ⟨[], ⟨e, pre⟩ :: bs, ?_, ?_, fun _ => rfl⟩
      · simp [blocksFlat, Block.ents, h1]
      · have hoff : off % offMod = off := Nat.mod_eq_of_lt (by omega)
        simp only [indexOffsets, hi, if_true, hoff, h2, blockOffsets, Block.ents, encEntries, List.length_nil,
          Nat.add_zero, List.length_append, List.singleton_append]
        congr 2; omega
    · refine ⟨e :: pre, bs, ?_, ?_, fun h => absurd h hi⟩
      · simp [h1]
      · simp only [indexOffsets, hi, if_false, h2, encEntries, List.length_append, List.nil_append]
        congr 1; omega

theorem headKeys_sorted (bs : List Block) (hs : SortedKeys (blocksFlat bs)) (a b : Nat) (hab : a < b) (hb : b < bs.length) :
    Bytes.cmp (bs[a]'(by omega)).head.key (bs[b]).head.key = .lt := by
  rw [blocksFlat_split bs b hb] at hs
  apply sorted_lt_of_append hs
  · exact List.mem_flatMap_of_mem (List.mem_take_iff_getElem.mpr ⟨a, by omega, rfl⟩) List.mem_cons_self
  · simp [Block.ents]

theorem search_blocks (bs : List Block) (hne : bs ≠ []) (hwf : ∀ e ∈ blocksFlat bs, e.WF)
    (hs : SortedKeys (blocksFlat bs)) (key : Bytes) :
    ∃ f, ∃ hf : f < bs.length,
      search (blockOffsets 0 bs) (readKeyAt (encEntries (blocksFlat bs)) (encEntries (blocksFlat bs)).length) key
        = .range (encEntries (blocksFlat (bs.take f))).length
            (if f + 1 = bs.length then none else some (encEntries (blocksFlat (bs.take (f + 1)))).length) ∧
      (f = 0 ∨ Bytes.cmp (bs[f]).head.key key ≠ .gt) ∧
      (∀ j (hj : j < bs.length), f < j → Bytes.cmp (bs[j]).head.key key = .gt) := by
  have hoffs : ∀ j, j < bs.length → (blockOffsets 0 bs).getD j 0 = (encEntries (blocksFlat (bs.take j))).length := by
    intro j hj; rw [blockOffsets_getD 0 bs j hj, Nat.zero_add]
  let k : Nat → Bytes := fun j => if h : j < bs.length then (bs[j]).head.key else []
  have hk : ∀ j (hj : j < bs.length), k j = (bs[j]).head.key := fun j hj => dif_pos hj
  obtain ⟨f, hf, hsearch, hle, hgt⟩ := search_spec bs.length k (blockOffsets 0 bs)
    (readKeyAt (encEntries (blocksFlat bs)) (encEntries (blocksFlat bs)).length) key
    (blockOffsets_length 0 bs) (List.length_pos_iff.mpr hne)
    (by
      intro j hj
      have hkey := (hwf _ (List.mem_flatMap_of_mem (List.getElem_mem hj) List.mem_cons_self)).key
      rw [hoffs j hj, hk j hj, blocksFlat_split bs j hj]
      exact readKeyAt_entry _ _ _ hkey)
    (by
      intro a b hab hb
      rw [hk a (by omega), hk b hb]
      exact headKeys_sorted bs hs a b hab hb)
  refine ⟨f, hf, ?_, ?_, ?_⟩
  · rw [hsearch, hoffs f hf, blockOffsets_length]
    by_cases hlast : f + 1 = bs.length
    · rw [if_pos hlast, if_pos hlast]
    · rw [if_neg hlast, if_neg hlast, hoffs (f + 1) (by omega)]
  · rw [← hk f hf]; exact hle
  · intro j hj hfj
    rw [← hk j hj]; exact hgt j hfj hj

theorem searchScan_blocks (bs : List Block) (hne : bs ≠ []) (hwf : ∀ e ∈ blocksFlat bs, e.WF)
    (hs : SortedKeys (blocksFlat bs)) (key : Bytes) :
    (match search (blockOffsets 0 bs)
        (readKeyAt (encEntries (blocksFlat bs)) (encEntries (blocksFlat bs)).length) key with
      | .err => GetRes.err
      | .panic => GetRes.panic
      | .range start stop =>
        if (encEntries (blocksFlat bs)).length < start then GetRes.panic
        else scanGet key stop (((encEntries (blocksFlat bs)).drop start).length + 1)
          ((encEntries (blocksFlat bs)).drop start) start)
      = GetRes.ofOption (lookup (blocksFlat bs) key) := by
  obtain ⟨f, hf, hsearch, hle, hgt⟩ := search_blocks bs hne hwf hs key
  rw [hsearch]
  -- the table is `A ++ (B ++ C)` with `B` the chosen block
  have hsplit := blocksFlat_split bs f hf
  have hsf : SortedKeys (blocksFlat (bs.take f) ++ ((bs[f]).ents ++ blocksFlat (bs.drop (f + 1)))) := hsplit ▸ hs
  rw [hsplit] at hwf ⊢
  simp only []
  rw [if_neg (by rw [encEntries_append, List.length_append]; omega)]
  -- the scan sees block `f` only: it stops at the offset of block `f + 1`
  rw [encEntries_append, List.drop_left, scanGet_rows key _ _ (fun e he => hwf e (List.mem_append_right _ he))]
  · -- and so does the lookup: the keys before `B` are below the first key of `B`, which is `≤ key`; the keys of `C`
    -- are at least the first key of block `f + 1`, which is above `key`
    unfold lookup
    rw [find?_middle]
    · rcases hle with rfl | hle
      · intro e he; simp [blocksFlat] at he
      · exact key_ne_before hsf hle
    · by_cases hlast : f + 1 < bs.length
      · have hs' := blocksFlat_split bs (f + 1) hlast ▸ hs
        rw [List.drop_eq_getElem_cons hlast]
        exact key_ne_from hs' (hgt (f + 1) hlast (Nat.lt_succ_self f))
      · rw [List.drop_eq_nil_of_le (by omega)]
        intro e he; simp [blocksFlat] at he
  · by_cases hlast : f + 1 = bs.length
    · exact Or.inr ⟨if_pos hlast, by rw [List.drop_eq_nil_of_le (by omega)]; rfl⟩
    · rw [if_neg hlast, blocksFlat_take_succ bs f hf, encEntries_append, List.length_append]
      exact Or.inl rfl
  · exact Nat.lt_succ_of_le (length_le_encEntries _)

namespace Bloom

theorem and_two_pow_ne_zero (a i : Nat) : (a &&& 2 ^ i != 0) = a.testBit i := by
  cases h : a.testBit i with
  | true =>
    have : (a &&& 2 ^ i).testBit i = true := by simp [Nat.testBit_and, h, Nat.testBit_two_pow_self]
    have hne : a &&& 2 ^ i ≠ 0 := by
      intro h0; rw [h0] at this; simp at this
    simp [hne]
  | false =>
    have : a &&& 2 ^ i = 0 := by
      apply Nat.eq_of_testBit_eq
      intro j
      simp only [Nat.testBit_and, Nat.testBit_two_pow, Nat.zero_testBit]
      by_cases hj : i = j
      · subst hj; simp [h]
      · simp [hj]
    simp [this]

theorem getBit_eq (ws : List Nat) (pos : Nat) :
    getBit ws pos = (ws.getD (pos / wordBits) 0).testBit (pos % wordBits) := by
  unfold getBit
  rw [Nat.one_shiftLeft, and_two_pow_ne_zero]

theorem setBit_length (ws : List Nat) (pos : Nat) : (setBit ws pos).length = ws.length := by
  simp [setBit]

theorem getBit_setBit_self (ws : List Nat) (pos : Nat) (h : pos / wordBits < ws.length) :
    getBit (setBit ws pos) pos = true := by
  rw [getBit_eq]
  simp only [setBit, List.getD_eq_getElem?_getD, List.getElem?_set_self h, Option.getD_some,
    Nat.one_shiftLeft, Nat.testBit_or, Nat.testBit_two_pow_self, Bool.or_true]

theorem getBit_setBit_of_getBit (ws : List Nat) (pos q : Nat) (h : getBit ws q = true) :
    getBit (setBit ws pos) q = true := by
  rw [getBit_eq] at h ⊢
  simp only [setBit, List.getD_eq_getElem?_getD] at h ⊢
  by_cases hi : pos / wordBits = q / wordBits
  · by_cases hl : pos / wordBits < ws.length
    · rw [← hi, List.getElem?_set_self hl]
      simp only [Option.getD_some, Nat.testBit_or]
      rw [hi, h]; rfl
    · rw [List.set_eq_of_length_le (by omega)]; exact h
  · rw [List.getElem?_set_ne hi]; exact h

theorem hasAll_setBit (size : Nat) (ws : List Nat) (data : Bytes) (pos n : Nat)
    (h : hasAll size ws data n = true) : hasAll size (setBit ws pos) data n = true := by
  induction n with
  | zero => rfl
  | succ n ih =>
    simp only [hasAll, Bool.and_eq_true] at h ⊢
    exact ⟨ih h.1, getBit_setBit_of_getBit _ _ _ h.2⟩

theorem addWords_length (size : Nat) (data : Bytes) (n : Nat) (ws : List Nat) :
    (addWords size data n ws).length = ws.length := by
  induction n with
  | zero => rfl
  | succ n ih => simp [addWords, setBit_length, ih]

theorem hasAll_addWords_of_hasAll (size : Nat) (ws : List Nat) (data other : Bytes) (m n : Nat)
    (h : hasAll size ws data n = true) : hasAll size (addWords size other m ws) data n = true := by
  induction m with
  | zero => exact h
  | succ m ih => exact hasAll_setBit _ _ _ _ _ ih

theorem wordBits_pos : 0 < wordBits := by decide

theorem hasAll_addWords (size : Nat) (ws : List Nat) (data : Bytes) (m : Nat)
    (hsz : 0 < size) (hlen : size ≤ ws.length * wordBits) :
    hasAll size (addWords size data m ws) data m = true := by
  induction m with
  | zero => rfl
  | succ m ih =>
    simp only [hasAll, addWords, Bool.and_eq_true]
    refine ⟨hasAll_setBit _ _ _ _ _ ih, getBit_setBit_self _ _ ?_⟩
    rw [addWords_length]
    have : index size data m < size := Nat.mod_lt _ hsz
    rw [Nat.div_lt_iff_lt_mul wordBits_pos]
    omega

def Addressable (b : Bloom) : Prop := 0 < b.size ∧ b.size ≤ b.words.length * wordBits

theorem le_ceilDiv_mul (n : Nat) {w : Nat} (hw : 0 < w) : n ≤ (n + (w - 1)) / w * w := by
  have := Nat.div_add_mod (n + (w - 1)) w
  have := Nat.mod_lt (n + (w - 1)) hw
  rw [Nat.mul_comm]
  omega

theorem new_addressable (size hashes : Nat) (h : 0 < size) : (Bloom.new size hashes).Addressable := by
  refine ⟨h, ?_⟩
  simp only [Bloom.new, List.length_replicate]
  exact le_ceilDiv_mul size wordBits_pos

theorem add_addressable (b : Bloom) (k : Bytes) (h : b.Addressable) : (b.add k).Addressable := by
  simpa [Addressable, add, addWords_length] using h

theorem add_mightHave_self (b : Bloom) (k : Bytes) (h : b.Addressable) : (b.add k).mightHave k = true :=
  hasAll_addWords b.size b.words k b.hashes h.1 h.2

theorem add_mightHave_mono (b : Bloom) (k other : Bytes) (h : b.mightHave k = true) :
    (b.add other).mightHave k = true :=
  hasAll_addWords_of_hasAll b.size b.words k other b.hashes b.hashes h

theorem addAll_mightHave_mono (b : Bloom) (ks : List Bytes) (k : Bytes) (h : b.mightHave k = true) :
    (b.addAll ks).mightHave k = true := by
  induction ks generalizing b with
  | nil => exact h
  | cons x ks ih => exact ih _ (add_mightHave_mono b k x h)

theorem addAll_no_false_negative (b : Bloom) (hb : b.Addressable) (ks : List Bytes) (k : Bytes) (hk : k ∈ ks) :
    (b.addAll ks).mightHave k = true := by
  induction ks generalizing b with
  | nil => simp at hk
  | cons x ks ih =>
    simp only [List.mem_cons] at hk
    rcases hk with rfl | hk
    · exact addAll_mightHave_mono (b.add k) ks k (add_mightHave_self b k hb)
    · exact ih _ (add_addressable b x hb) hk

/-- every word fits a `uint64` and the array has the length `NewFilter` allocates -/
def Shape (b : Bloom) : Prop :=
  (∀ w ∈ b.words, w < 2 ^ wordBits) ∧ b.words.length = (b.size + (wordBits - 1)) / wordBits

theorem setBit_lt (ws : List Nat) (pos : Nat) (h : ∀ w ∈ ws, w < 2 ^ wordBits) :
    ∀ w ∈ setBit ws pos, w < 2 ^ wordBits := by
  intro w hw
  rcases List.mem_or_eq_of_mem_set hw with hw | rfl
  · exact h w hw
  · apply Nat.or_lt_two_pow
    · by_cases hl : pos / wordBits < ws.length
      · rw [List.getD_eq_getElem?_getD, List.getElem?_eq_getElem hl]; exact h _ (List.getElem_mem hl)
      · rw [List.getD_eq_getElem?_getD, List.getElem?_eq_none (by omega)]; exact Nat.two_pow_pos _
    · rw [Nat.one_shiftLeft]
      exact Nat.pow_lt_pow_right (by decide) (Nat.mod_lt _ wordBits_pos)

theorem addWords_lt (size : Nat) (data : Bytes) (n : Nat) (ws : List Nat) (h : ∀ w ∈ ws, w < 2 ^ wordBits) :
    ∀ w ∈ addWords size data n ws, w < 2 ^ wordBits := by
  induction n with
  | zero => exact h
  | succ n ih => exact setBit_lt _ _ ih

theorem new_shape (size hashes : Nat) : (Bloom.new size hashes).Shape := by
  refine ⟨?_, by simp [Bloom.new]⟩
  intro w hw
  simp only [Bloom.new, List.mem_replicate] at hw
  rw [hw.2]; exact Nat.two_pow_pos _

theorem add_shape (b : Bloom) (k : Bytes) (h : b.Shape) : (b.add k).Shape :=
  ⟨addWords_lt _ _ _ _ h.1, by simpa [add, addWords_length] using h.2⟩

theorem addAll_shape (b : Bloom) (ks : List Bytes) (h : b.Shape) : (b.addAll ks).Shape := by
  induction ks generalizing b with
  | nil => exact h
  | cons k ks ih => exact ih _ (add_shape b k h)

theorem addAll_size (b : Bloom) (ks : List Bytes) : (b.addAll ks).size = b.size ∧ (b.addAll ks).hashes = b.hashes := by
  induction ks generalizing b with
  | nil => exact ⟨rfl, rfl⟩
  | cons k ks ih => exact ih (b.add k)

theorem two_pow_wordBits_le_u64 : 2 ^ wordBits ≤ 256 ^ u64W := by decide

theorem decode_encode (b : Bloom) (hs : b.Shape) (h1 : b.size < 256 ^ u32W) (h2 : b.hashes < 256 ^ u32W) (rest : Bytes) :
    decode (b.encode ++ rest) = some (b, rest) := by
  have hw : ∀ w ∈ b.words, w < 256 ^ u64W := fun w hw => Nat.lt_of_lt_of_le (hs.1 w hw) two_pow_wordBits_le_u64
  have := readNats_encNats u64W b.words hw rest
  rw [hs.2] at this
  unfold decode
  simp only [encode, List.append_assoc, readNat_leBytes u32W _ h1, readNat_leBytes u32W _ h2, this]

end Bloom

theorem offMod_pos : 0 < offMod := by decide

theorem indexOffsets_lt (es : List Entry) (items off : Nat) : ∀ o ∈ indexOffsets items off es, o < offMod := by
  induction es generalizing items off with
  | nil => simp [indexOffsets]
  | cons e es ih =>
    intro o ho
    simp only [indexOffsets, List.mem_append] at ho
    rcases ho with ho | ho
    · split at ho
      · simp only [List.mem_singleton] at ho; rw [ho]; exact Nat.mod_lt _ offMod_pos
      · simp at ho
    · exact ih _ _ o ho

theorem indexOffsets_length_le (es : List Entry) (items off : Nat) : (indexOffsets items off es).length ≤ es.length := by
  induction es generalizing items off with
  | nil => simp [indexOffsets]
  | cons e es ih =>
    have := ih (items + 1) (off + (encEntry e).length)
    simp only [indexOffsets, List.length_append, List.length_cons]
    split
    · rw [List.length_singleton]; omega
    · rw [List.length_nil]; omega

theorem decIndex_encIndex (offs : List Nat) (h : ∀ o ∈ offs, o < 256 ^ u32W) (hl : offs.length < 256 ^ u32W) (rest : Bytes) :
    decIndex (encIndex offs ++ rest) = some (offs, rest) := by
  unfold decIndex
  simp only [encIndex, List.append_assoc, readNat_leBytes u32W _ hl, readNats_encNats u32W offs h rest]

theorem offMod_le_u32 : offMod ≤ 256 ^ u32W := by decide
theorem offMod_le_u64 : offMod ≤ 256 ^ u64W := by decide
theorem footerLen_eq : u64W + u32W = Facts.sstFooterLen := by decide
theorem bloomParams_fit : 0 < Facts.bloomBits ∧ Facts.bloomBits < 256 ^ u32W ∧ Facts.bloomHashes < 256 ^ u32W := by decide

theorem bloomOf_shape (es : List Entry) : (bloomOf es).Shape ∧ (bloomOf es).size = Facts.bloomBits ∧ (bloomOf es).hashes = Facts.bloomHashes := by
  refine ⟨Bloom.addAll_shape _ _ (Bloom.new_shape _ _), ?_⟩
  have := Bloom.addAll_size (Bloom.new Facts.bloomBits Facts.bloomHashes) (keysOf es)
  simpa [bloomOf, Bloom.new] using this

theorem loadFooter_encTable (es : List Entry) (hsz : (encEntries es).length < offMod) :
    loadFooter (encTable es).length (encTable es) = some (metaOf es) := by
  obtain ⟨hshape, hsize, hhash⟩ := bloomOf_shape es
  have hb1 : (bloomOf es).size < 256 ^ u32W := by rw [hsize]; exact bloomParams_fit.2.1
  have hb2 : (bloomOf es).hashes < 256 ^ u32W := by rw [hhash]; exact bloomParams_fit.2.2
  have hoff : ∀ o ∈ indexOffsets 0 0 es, o < 256 ^ u32W := fun o ho => Nat.lt_of_lt_of_le (indexOffsets_lt es 0 0 o ho) offMod_le_u32
  have hlen : (indexOffsets 0 0 es).length < 256 ^ u32W := by
    have := indexOffsets_length_le es 0 0
    have := length_le_encEntries es
    have := offMod_le_u32
    omega
  have htail : (encTable es).drop ((encTable es).length - Facts.sstFooterLen) =
      leBytes u64W (encEntries es).length ++ leBytes u32W Facts.sstVersion := by
    have : encTable es = (encEntries es ++ ((bloomOf es).encode ++ encIndex (indexOffsets 0 0 es))) ++
        (leBytes u64W (encEntries es).length ++ leBytes u32W Facts.sstVersion) := by
      simp only [encTable, encFooter, metaOf, List.append_assoc]
    rw [this]
    apply List.drop_left'
    simp only [List.length_append, leBytes_length, ← footerLen_eq]
    omega
  have hmeta : (encTable es).drop (encEntries es).length = encFooter (metaOf es) (encEntries es).length := by
    simp only [encTable]; exact List.drop_left' rfl
  unfold loadFooter
  rw [htail, readNat_leBytes u64W _ (Nat.lt_of_lt_of_le hsz offMod_le_u64)]
  simp only []
  rw [hmeta]
  simp only [encFooter, metaOf, Bloom.decode_encode _ hshape hb1 hb2, decIndex_encIndex _ hoff hlen]

theorem take_encTable_entries (es : List Entry) : (encTable es).take (encEntries es).length = encEntries es := by
  simp only [encTable]; exact List.take_left' rfl

theorem bloomOf_no_false_negative (es : List Entry) (e : Entry) (he : e ∈ es) : (bloomOf es).mightHave e.key = true := by
  apply Bloom.addAll_no_false_negative _ (Bloom.new_addressable _ _ bloomParams_fit.1)
  exact List.mem_map_of_mem he

theorem lookup_none_of_bloom (es : List Entry) (key : Bytes) (h : (bloomOf es).mightHave key = false) :
    lookup es key = none := by
  unfold lookup
  rw [List.find?_eq_none]
  intro e he hk
  simp only [decide_eq_true_eq] at hk
  have := bloomOf_no_false_negative es e he
  rw [hk, h] at this; cases this

/-- `Get` with ANY bloom filter in place of the writer's: a filter may only say "no" for absent keys to be
harmless; whenever it says "yes" (true positives and false positives alike) search + scan decide -/
theorem get_any_bloom (b : Bloom) (es : List Entry) (hwf : ∀ e ∈ es, e.WF) (hs : SortedKeys es)
    (hsz : (encEntries es).length < offMod) (key : Bytes) :
    get ⟨b, (metaOf es).offsets⟩ (encEntries es).length (encTable es) key
      = if b.mightHave key then GetRes.ofOption (lookup es key) else GetRes.notFound := by
  unfold get
  by_cases hb : b.mightHave key = true
  · simp only [metaOf, hb, Bool.not_true, Bool.false_eq_true, if_false, if_true, take_encTable_entries]
    obtain ⟨pre, bs, h1, h2, h3⟩ := indexOffsets_blocks es 0 0 (by omega)
    obtain rfl : pre = [] := h3 (Nat.zero_mod _)
    simp only [List.nil_append, encEntries, List.length_nil, Nat.add_zero] at h1 h2
    rw [h2]
    subst h1
    by_cases hne : bs = []
    · -- the empty table: the empty index gives the range from 0 without a stop, and there is nothing to scan
      subst hne
      rfl
    · exact searchScan_blocks bs hne hwf hs key
  · simp [hb]

/-- with the writer's own filter a "no" is always right -/
theorem get_encTable (es : List Entry) (hwf : ∀ e ∈ es, e.WF) (hs : SortedKeys es)
    (hsz : (encEntries es).length < offMod) (key : Bytes) :
    get (metaOf es) (encEntries es).length (encTable es) key = GetRes.ofOption (lookup es key) := by
  rw [show metaOf es = ⟨bloomOf es, (metaOf es).offsets⟩ from rfl, get_any_bloom _ es hwf hs hsz]
  cases hb : (bloomOf es).mightHave key
  · rw [lookup_none_of_bloom es key hb]; rfl
  · rfl

theorem scanPrefix_encTable (es : List Entry) (hwf : ∀ e ∈ es, e.WF) (pfx : Bytes) :
    scanPrefix (encEntries es).length (encTable es) pfx = some (es.filter (fun e => e.key.hasPrefix pfx)) := by
  unfold scanPrefix
  rw [take_encTable_entries, scanAll_encEntries es hwf _ (by have := length_le_encEntries es; omega)]

theorem runLoop_none_succ (target maxSz fuel : Nat) (buf : List Entry) (size : Nat) (have_ : Bool) (input : List Entry) :
    runLoop target maxSz (fuel + 1) none buf size have_ input =
      if size < target then
        match input with
        | [] => if buf.isEmpty && have_ then [] else [buf]
        | e :: rest => runLoop target maxSz fuel none (buf ++ [e]) (size + flushSize e) have_ rest
      else runLoop target maxSz fuel (some (buf, size)) [] size have_ input := by
  rfl

theorem runLoop_some_succ (target maxSz fuel : Nat) (chunk : List Entry) (chunkSize : Nat) (buf : List Entry) (size : Nat)
    (have_ : Bool) (input : List Entry) :
    runLoop target maxSz (fuel + 1) (some (chunk, chunkSize)) buf size have_ input =
      if size < maxSz then
        match input with
        | [] => [chunk ++ buf]
        | e :: rest => runLoop target maxSz fuel (some (chunk, chunkSize)) (buf ++ [e]) (size + flushSize e) have_ rest
      else chunk :: runLoop target maxSz fuel none buf (size - chunkSize) true input := by
  rfl

theorem runLoop_flatten (target maxSz fuel : Nat) (cut : Option (List Entry × Nat)) (buf : List Entry)
    (size : Nat) (have_ : Bool) (input : List Entry) :
    (runLoop target maxSz fuel cut buf size have_ input).flatten = (cut.map (·.1)).getD [] ++ buf ++ input := by
  fun_induction runLoop target maxSz fuel cut buf size have_ input with
  | case1 cut buf _ _ input h => simpa using h
  | case2 cut buf _ _ input h => simp
  | case3 _ buf size have_ hlt hb =>
    have hnil : buf = [] := List.isEmpty_iff.mp (Bool.and_eq_true_iff.mp hb).1
    simp [hnil]
  | case4 _ buf size have_ hlt hb => simp
  | case5 fuel buf size have_ hlt e rest ih => simp [ih]
  | case6 fuel buf size have_ input hge ih => simp [ih]
  | case7 fuel chunk chunkSize buf size have_ hlt => simp
  | case8 fuel chunk chunkSize buf size have_ hlt e rest ih => simp [ih]
  | case9 fuel chunk chunkSize buf size have_ input hge ih => simp [ih]

theorem writeRun_flatten (target : Nat) (es : List Entry) : (writeRun target es).flatten = es := by
  simp [writeRun, runLoop_flatten]

theorem forall_mem_writeRun {target : Nat} {es c : List Entry} (hc : c ∈ writeRun target es) {P : Entry → Prop}
    (h : ∀ e ∈ es, P e) : ∀ e ∈ c, P e := by
  intro e he
  exact h e (by rw [← writeRun_flatten target es]; exact List.mem_flatten.mpr ⟨c, hc, he⟩)

def sumSize (l : List Entry) : Nat := (l.map flushSize).sum

theorem sumSize_append (a b : List Entry) : sumSize (a ++ b) = sumSize a + sumSize b := by
  simp [sumSize]

theorem sumSize_snoc (a : List Entry) (e : Entry) : sumSize (a ++ [e]) = sumSize a + flushSize e := by
  simp [sumSize]

/-- The loop of `WriteRun` without fuel and without the counters (they are sums of flush sizes), one rule per branch of
`runLoop`: from the look-ahead chunk (if any), the buffer `buf` behind it and `have_` = a table was already written, `input`
is written as the tables `R`. -/
inductive Chunks (target maxSz : Nat) : Option (List Entry) → List Entry → Bool → List Entry → List (List Entry) → Prop
  | fillEnd {buf have_} : sumSize buf < target → Chunks target maxSz none buf have_ [] (if buf.isEmpty && have_ then [] else [buf])
  | fill {buf have_ e rest R} : sumSize buf < target → Chunks target maxSz none (buf ++ [e]) have_ rest R →
      Chunks target maxSz none buf have_ (e :: rest) R
  | cut {buf have_ input R} : target ≤ sumSize buf → Chunks target maxSz (some buf) [] have_ input R →
      Chunks target maxSz none buf have_ input R
  | aheadEnd {chunk buf have_} : sumSize chunk + sumSize buf < maxSz → Chunks target maxSz (some chunk) buf have_ [] [chunk ++ buf]
  | ahead {chunk buf have_ e rest R} : sumSize chunk + sumSize buf < maxSz →
      Chunks target maxSz (some chunk) (buf ++ [e]) have_ rest R → Chunks target maxSz (some chunk) buf have_ (e :: rest) R
  | flush {chunk buf have_ input R} : maxSz ≤ sumSize chunk + sumSize buf → Chunks target maxSz none buf true input R →
      Chunks target maxSz (some chunk) buf have_ input (chunk :: R)

/-- a measure that every iteration of the `WriteRun` loop decreases: consuming an entry (−3+2), cutting (−1),
flushing a non-empty chunk (≤ −2+1) -/
def loopMeasure (cut : Option (List Entry × Nat)) (buf input : List Entry) : Nat :=
  3 * input.length + 2 * (((cut.map (·.1)).getD []).length + buf.length) + (if cut.isNone then 1 else 0)

def Counters (cut : Option (List Entry × Nat)) (buf : List Entry) (size : Nat) : Prop :=
  match cut with
  | none => size = sumSize buf
  | some (chunk, chunkSize) => chunkSize = sumSize chunk ∧ size = sumSize chunk + sumSize buf ∧ chunk ≠ []

theorem measure_take (cut : Option (List Entry × Nat)) (buf : List Entry) (e : Entry) (rest : List Entry) :
    loopMeasure cut (buf ++ [e]) rest + 1 = loopMeasure cut buf (e :: rest) := by
  simp only [loopMeasure, List.length_append, List.length_cons, List.length_nil]; omega

theorem measure_cut (buf : List Entry) (size : Nat) (input : List Entry) :
    loopMeasure (some (buf, size)) [] input + 1 = loopMeasure none buf input := by
  simp [loopMeasure]

theorem measure_flush {chunk : List Entry} (h : chunk ≠ []) (chunkSize : Nat) (buf input : List Entry) :
    loopMeasure none buf input < loopMeasure (some (chunk, chunkSize)) buf input := by
  have := List.length_pos_iff.mpr h
  simp [loopMeasure]
  omega

theorem runLoop_chunks (target maxSz : Nat) (ht : 0 < target) (fuel : Nat) (cut : Option (List Entry × Nat))
    (buf : List Entry) (size : Nat) (have_ : Bool) (input : List Entry) (hc : Counters cut buf size)
    (hμ : loopMeasure cut buf input < fuel) :
    Chunks target maxSz (cut.map (·.1)) buf have_ input (runLoop target maxSz fuel cut buf size have_ input) := by
  fun_induction runLoop target maxSz fuel cut buf size have_ input with
  | case1 | case2 => exact absurd hμ (Nat.not_lt_zero _)
  | case3 _ buf size have_ hlt hb =>
    have := Chunks.fillEnd (maxSz := maxSz) (have_ := have_) (show sumSize buf < target from hc ▸ hlt)
    rwa [if_pos hb] at this
  | case4 _ buf size have_ hlt hb =>
    have := Chunks.fillEnd (maxSz := maxSz) (have_ := have_) (show sumSize buf < target from hc ▸ hlt)
    rwa [if_neg hb] at this
  | case5 fuel buf size have_ hlt e rest ih =>
    have hc : size = sumSize buf := hc
    have := measure_take none buf e rest
    exact .fill (hc ▸ hlt) (ih (by rw [hc]; exact (sumSize_snoc buf e).symm) (by omega))
  | case6 fuel buf size have_ input hge ih =>
    have hc : size = sumSize buf := hc
    have hne : buf ≠ [] := by rintro rfl; exact hge (hc ▸ ht)
    have := measure_cut buf size input
    exact .cut (hc ▸ Nat.le_of_not_lt hge) (ih ⟨hc, by rw [hc]; rfl, hne⟩ (by omega))
  | case7 fuel chunk chunkSize buf size have_ hlt => exact .aheadEnd (hc.2.1 ▸ hlt)
  | case8 fuel chunk chunkSize buf size have_ hlt e rest ih =>
    have := measure_take (some (chunk, chunkSize)) buf e rest
    exact .ahead (hc.2.1 ▸ hlt) (ih ⟨hc.1, by rw [hc.2.1, sumSize_snoc, Nat.add_assoc], hc.2.2⟩ (by omega))
  | case9 fuel chunk chunkSize buf size have_ input hge ih =>
    have := measure_flush hc.2.2 chunkSize buf input
    exact .flush (hc.2.1 ▸ Nat.le_of_not_lt hge)
      (ih (show size - chunkSize = sumSize buf by rw [hc.2.1, hc.1, Nat.add_sub_cancel_left]) (by omega))

theorem chunks_unique {target maxSz : Nat} {c : Option (List Entry)} {buf : List Entry} {have_ : Bool} {input : List Entry}
    {R R' : List (List Entry)} (h : Chunks target maxSz c buf have_ input R) (h' : Chunks target maxSz c buf have_ input R') :
    R = R' := by
  induction h generalizing R' with
  | fillEnd h => cases h' with
    | fillEnd => rfl
    | cut g => omega
  | fill h _ ih => cases h' with
    | fill _ g' => exact ih g'
    | cut g => omega
  | cut h _ ih => cases h' with
    | fillEnd g => omega
    | fill g => omega
    | cut _ g' => exact ih g'
  | aheadEnd h => cases h' with
    | aheadEnd => rfl
    | flush g => omega
  | ahead h _ ih => cases h' with
    | ahead _ g' => exact ih g'
    | flush g => omega
  | flush h _ ih => cases h' with
    | aheadEnd g => omega
    | ahead g => omega
    | flush _ g' => rw [ih g']

/-- D31: no table is empty, except the single table of an empty run -/
theorem chunks_nonempty {target maxSz : Nat} (ht : 0 < target) {c : Option (List Entry)} {buf : List Entry} {have_ : Bool}
    {input : List Entry} {R : List (List Entry)} (h : Chunks target maxSz c buf have_ input R)
    (hc : c ≠ some []) (hne : have_ = false → c = none → buf ++ input ≠ []) : ∀ x ∈ R, x ≠ [] := by
  induction h with
  | @fillEnd buf have_ _ =>
    intro x hx
    split at hx
    · cases hx
    · rename_i hb
      rw [List.mem_singleton] at hx
      subst hx
      rintro rfl
      cases have_
      · exact hne rfl rfl rfl
      · exact hb rfl
  | fill _ _ ih => exact ih hc (fun _ _ => by simp)
  | cut h _ ih =>
    refine ih ?_ (fun _ g => by cases g)
    rintro ⟨rfl⟩
    have h0 : sumSize [] = 0 := rfl
    omega
  | aheadEnd =>
    intro x hx
    rw [List.mem_singleton] at hx
    subst hx
    intro h0
    exact hc (by rw [(List.append_eq_nil_iff.mp h0).1])
  | ahead _ _ ih => exact ih hc (fun _ g => by cases g)
  | flush _ _ ih =>
    intro x hx
    rcases List.mem_cons.mp hx with rfl | hx
    · exact fun h0 => hc (by rw [h0])
    · exact ih (by simp) (fun g => by cases g) x hx

theorem writeRun_chunks (target : Nat) (ht : 0 < target) (es : List Entry) (k : Nat) :
    Chunks target (maxBuffer target) none [] false es
      (runLoop target (maxBuffer target) (3 * es.length + 3 + k) none [] 0 false es) :=
  runLoop_chunks target _ ht _ none [] 0 false es rfl (by simp [loopMeasure]; omega)

theorem writeRun_nil (target : Nat) (ht : 0 < target) : writeRun target [] = [[]] := by
  unfold writeRun
  rw [List.length_nil, Nat.mul_zero, Nat.zero_add, runLoop_none_succ, if_pos ht]
  rfl

theorem writeRun_nonempty (target : Nat) (ht : 0 < target) (es : List Entry) (hes : es ≠ []) :
    ∀ c ∈ writeRun target es, c ≠ [] :=
  chunks_nonempty ht (writeRun_chunks target ht es 0) (by simp) (fun _ _ => by simpa using hes)

theorem writeRun_fuel_independent (target : Nat) (ht : 0 < target) (es : List Entry) (k : Nat) :
    runLoop target (maxBuffer target) (3 * es.length + 3 + k) none [] 0 false es = writeRun target es :=
  chunks_unique (writeRun_chunks target ht es k) (writeRun_chunks target ht es 0)

theorem writeRun_pairwise (target : Nat) (es : List Entry) (hs : SortedKeys es) :
    (writeRun target es).Pairwise (fun c d => ∀ a ∈ c, ∀ b ∈ d, Bytes.lt a.key b.key = true) ∧
    ∀ c ∈ writeRun target es, SortedKeys c := by
  have h : SortedKeys (writeRun target es).flatten := by rw [writeRun_flatten]; exact hs
  have := List.pairwise_flatten.mp h
  exact ⟨this.2, this.1⟩

theorem writeRun_docs_ordered (target : Nat) (ht : 0 < target) (es : List Entry) (hs : SortedKeys es) :
    (writeRun target es).Pairwise (fun c d => Bytes.lt (docOf c).endKey (docOf d).startKey = true) := by
  by_cases hes : es = []
  · rw [hes, writeRun_nil target ht]; exact List.pairwise_singleton _ _
  have hne := writeRun_nonempty target ht es hes
  refine List.Pairwise.imp_of_mem ?_ (writeRun_pairwise target es hs).1
  intro c d hc hd h
  -- the tables are non-empty (D31), so `endKey` / `startKey` are the last key of `c` and the first key of `d`
  simp only [docOf, List.getLast?_eq_some_getLast (hne c hc), List.head?_eq_some_head (hne d hd), Option.map_some,
    Option.getD_some]
  exact h _ (List.getLast_mem _) _ (List.head_mem _)

/-! "`P` for all but the last, `Q` for the last", in the form `dropLast` / `getLast?` of the size theorem -/

theorem butLast_single {α : Type} {P Q : α → Prop} {c : α} (hQ : Q c) :
    (∀ x ∈ [c].dropLast, P x) ∧ ∀ x, [c].getLast? = some x → Q x :=
  ⟨fun _ hx => (nomatch hx), fun x hx => by cases hx; exact hQ⟩

theorem butLast_cons {α : Type} {P Q : α → Prop} {c : α} {R : List α} (hP : P c) (hQ : Q c)
    (h : (∀ x ∈ R.dropLast, P x) ∧ ∀ x, R.getLast? = some x → Q x) :
    (∀ x ∈ (c :: R).dropLast, P x) ∧ ∀ x, (c :: R).getLast? = some x → Q x := by
  cases R with
  | nil => exact butLast_single hQ
  | cons d rest =>
    rw [List.dropLast_cons_cons, List.getLast?_cons_cons]
    exact ⟨List.forall_mem_cons.mpr ⟨hP, h.1⟩, h.2⟩

theorem of_butLast {α : Type} {P : α → Prop} {R : List α}
    (h1 : ∀ x ∈ R.dropLast, P x) (h2 : ∀ x, R.getLast? = some x → P x) : ∀ x ∈ R, P x := by
  intro c hc
  have hne : R ≠ [] := List.ne_nil_of_mem hc
  rw [← List.dropLast_concat_getLast hne, List.mem_append, List.mem_singleton] at hc
  rcases hc with hc | rfl
  · exact h1 c hc
  · exact h2 _ (List.getLast?_eq_some_getLast hne)

/-- `M` bounds the flush size of one entry: a chunk is cut with the entry that reaches `target` and flushed with the
one that reaches `maxSz`, so what is then left in the buffer is below `maxSz + M − target` -/
theorem chunks_sizes {target maxSz M : Nat} (h1 : target ≤ maxSz) (h2 : maxSz ≤ 2 * target) {c : Option (List Entry)}
    {buf : List Entry} {have_ : Bool} {input : List Entry} {R : List (List Entry)} (h : Chunks target maxSz c buf have_ input R)
    (hM : ∀ e ∈ input, flushSize e ≤ M)
    (hs : match c with
      | none => sumSize buf < target + M
      | some chunk => target ≤ sumSize chunk ∧ sumSize chunk < target + M ∧ sumSize chunk + sumSize buf < maxSz + M) :
    (∀ x ∈ R.dropLast, target ≤ sumSize x ∧ sumSize x < target + M) ∧ ∀ x, R.getLast? = some x → sumSize x < maxSz + M := by
  induction h with
  | fillEnd h =>
    split
    · exact ⟨fun _ hx => (nomatch hx), fun _ hx => (nomatch hx)⟩
    · exact butLast_single (show sumSize _ < _ by omega)
  | @fill buf _ e _ _ h _ ih =>
    have := hM e (by simp)
    exact ih (fun x hx => hM x (by simp [hx])) (show sumSize (buf ++ [e]) < _ by rw [sumSize_snoc]; omega)
  | cut h _ ih => exact ih hM ⟨h, hs, show _ + 0 < _ by omega⟩
  | @aheadEnd chunk buf _ h => exact butLast_single (by rw [sumSize_append]; omega)
  | @ahead chunk buf _ e _ _ h _ ih =>
    have := hM e (by simp)
    exact ih (fun x hx => hM x (by simp [hx])) ⟨hs.1, hs.2.1, show _ + sumSize (buf ++ [e]) < _ by rw [sumSize_snoc]; omega⟩
  | flush h _ ih =>
    obtain ⟨ha, hb, hc⟩ := hs
    exact butLast_cons ⟨ha, hb⟩ (by omega) (ih hM (show _ < _ by omega))

theorem maxFactor_bounds : Facts.sstMaxFactorDen ≤ Facts.sstMaxFactorNum ∧
    Facts.sstMaxFactorNum ≤ 2 * Facts.sstMaxFactorDen ∧ 0 < Facts.sstMaxFactorDen := by decide

theorem maxBuffer_bounds (target : Nat) : target ≤ maxBuffer target ∧ maxBuffer target ≤ 2 * target := by
  obtain ⟨h1, h2, h3⟩ := maxFactor_bounds
  unfold maxBuffer
  constructor
  · rw [Nat.le_div_iff_mul_le h3]; exact Nat.mul_le_mul_left _ h1
  · apply Nat.div_le_of_le_mul
    calc target * Facts.sstMaxFactorNum ≤ target * (2 * Facts.sstMaxFactorDen) := Nat.mul_le_mul_left _ h2
      _ = Facts.sstMaxFactorDen * (2 * target) := by
        rw [Nat.mul_left_comm, Nat.mul_comm target]
        exact Nat.mul_left_comm _ _ _

theorem writeRun_chunk_sizes (target : Nat) (ht : 0 < target) (es : List Entry) (M : Nat) (hM : ∀ e ∈ es, flushSize e ≤ M) :
    (∀ c ∈ (writeRun target es).dropLast, target ≤ sumSize c ∧ sumSize c < target + M) ∧
    ∀ c, (writeRun target es).getLast? = some c → sumSize c < maxBuffer target + M :=
  chunks_sizes (maxBuffer_bounds target).1 (maxBuffer_bounds target).2 (writeRun_chunks target ht es 0) hM
    (show 0 < target + M by omega)

theorem offMod_le_flushMod : offMod ≤ 2 ^ Facts.sstFlushSizeBits := by decide

theorem encEntries_le_sumSize (c : List Entry)
    (h : ∀ e ∈ c, Facts.sstEntryOverhead + e.key.length + e.val.length < 2 ^ Facts.sstFlushSizeBits) :
    (encEntries c).length ≤ sumSize c := by
  induction c with
  | nil => simp [encEntries, sumSize]
  | cons e c ih =>
    have he := h e (by simp)
    have := ih (fun x hx => h x (by simp [hx]))
    have hle := encEntry_length_le e
    simp only [encEntries, List.length_append, sumSize, List.map_cons, List.sum_cons, flushSize,
      Nat.mod_eq_of_lt he] at this ⊢
    omega

/-- every table of `WriteRun` stays below the `uint32` offset limit as soon as one maximal table does:
`floor(1.5·target)` plus one entry -/
theorem writeRun_table_bytes (target : Nat) (ht : 0 < target) (es : List Entry) (M : Nat)
    (hM : ∀ e ∈ es, Facts.sstEntryOverhead + e.key.length + e.val.length ≤ M)
    (hfit : maxBuffer target + M ≤ offMod) :
    ∀ c ∈ writeRun target es, (encEntries c).length < offMod := by
  intro c hc
  have hMlt : M < 2 ^ Facts.sstFlushSizeBits := by
    have := offMod_le_flushMod
    have := (maxBuffer_bounds target).1
    omega
  have hraw : ∀ e ∈ es, Facts.sstEntryOverhead + e.key.length + e.val.length < 2 ^ Facts.sstFlushSizeBits :=
    fun e he => Nat.lt_of_le_of_lt (hM e he) hMlt
  have hfs : ∀ e ∈ es, flushSize e ≤ M := by
    intro e he
    simp only [flushSize, Nat.mod_eq_of_lt (hraw e he)]; exact hM e he
  obtain ⟨h1, h2⟩ := writeRun_chunk_sizes target ht es M hfs
  have := of_butLast (fun x hx => Nat.lt_of_lt_of_le (h1 x hx).2 (Nat.add_le_add_right (maxBuffer_bounds target).1 M)) h2 c hc
  have := encEntries_le_sumSize c (forall_mem_writeRun hc hraw)
  omega

end Rxn.Sst
