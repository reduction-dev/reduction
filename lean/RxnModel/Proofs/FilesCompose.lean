import RxnModel.Proofs.Files
/-!
`InvC`, the invariant behind the global theorems of C09. Its scope is the composed one (`runC`): operator lineages side
by side, each of which may crash and be restarted from one of its own retained checkpoints (`runL`, one operator, is the
case of one running instance at a time; an operator opened empty again, when the job retains nothing, gets a new lineage
label there too). Table names are globally fresh, so the tables an instance ever held (ghost set `made`) are
disjoint between lineages (`disj`); every retained handle is backed by a checkpoint of its writer (`own`); one running
instance per lineage, which is its newest (`onealive`, `newest`); loaded objects are pinned by the restored checkpoint
until the job drops it (`InstC.src`), and then no handle of an earlier instance of the lineage is left (`old`); a table
object a running instance created is listed only by handles that instance wrote (`mine`); WAL files lie in directories
of the instance's lineage (`InstC.wd`), and a retained handle's WAL names occur only under its checkpoint id (`winvx`).
The concurrent scope (`runN`: no restarts, but the garbage of a dead instance may be collected) keeps the same
invariant, because there every instance is all there is of its lineage (`OwnLin`, `runN_invC`).
-/
namespace Rxn.Files
open Rxn

structure InstC (s : State) (i : Nat) (x : Inst) : Prop where
  dir : x.dir = i
  norel : x.life ≠ .released
  linle : x.lin ≤ i
  wuniq : ∀ c ∈ x.ckpts, ∀ c' ∈ x.ckpts, ∀ w ∈ c.wals, ∀ w' ∈ c'.wals, w.same w' = true → c.id = c'.id
  wd : ∀ c ∈ x.ckpts, ∀ w ∈ c.wals, w.dir ≤ i ∧ (w.dir = i → w.num < x.walNext) ∧
    ∃ y : Inst, s.insts[w.dir]? = some y ∧ y.lin = x.lin
  rcur : ∀ t ∈ x.current, t.uri ∈ x.made
  rck : ∀ c ∈ x.ckpts, ∀ t ∈ c.tables, t.uri ∈ x.made
  rcr : ∀ u ∈ x.created, u ∈ x.made
  lsub : ∀ t ∈ x.loaded, t.uri ∈ x.made
  mused : ∀ u ∈ x.made, u ∈ s.used
  src : ∀ t ∈ x.loaded, (∃ c ∈ x.ckpts, c.fromDoc = true ∧ t ∈ c.tables) ∨ ∃ n, x.src = some n ∧ n ≤ s.floor
  srcid : ∀ c ∈ x.ckpts, c.fromDoc = true → x.src = some c.id

structure InvC (s : State) : Prop where
  inst : ∀ (i : Nat) (x : Inst), s.insts[i]? = some x → InstC s i x
  safe : Safe s
  own : ∀ h ∈ s.retained, s.floor < h.id ∧ ∃ x : Inst, s.insts[h.writer]? = some x ∧
    (∃ c ∈ x.ckpts, c.id = h.id) ∧ ∀ c ∈ x.ckpts, c.id = h.id → c.tables = h.tables ∧ c.wals = h.wals
  disj : ∀ (i j : Nat) (x y : Inst), x.lin ≠ y.lin → s.insts[i]? = some x → s.insts[j]? = some y →
    ∀ u ∈ x.made, u ∉ y.made
  onealive : ∀ (i j : Nat) (x y : Inst), s.insts[i]? = some x → s.insts[j]? = some y → x.life = .alive →
    y.life = .alive → x.lin = y.lin → i = j
  newest : ∀ (i j : Nat) (x y : Inst), s.insts[i]? = some x → s.insts[j]? = some y → x.life = .alive →
    y.lin = x.lin → j ≤ i
  old : ∀ h ∈ s.retained, ∀ (i : Nat) (x y : Inst), s.insts[i]? = some x → x.life = .alive →
    s.insts[h.writer]? = some y → y.lin = x.lin → h.writer ≠ i → ∃ n, x.src = some n ∧ h.id ≤ n
  mine : ∀ (i : Nat) (x : Inst), s.insts[i]? = some x → x.life = .alive → ∀ u ∈ x.created, ∀ h ∈ s.retained,
    u ∈ uris h.tables → h.writer = i
  winvx : ∀ h ∈ s.retained, ∀ (j : Nat) (y : Inst), s.insts[j]? = some y → ∀ c ∈ y.ckpts, ∀ w ∈ h.wals,
    ∀ w' ∈ c.wals, w.same w' = true → c.id = h.id

theorem invC_init : InvC {} where
  inst := by intro i x h; simp at h
  safe := by intro f hf; simp [needed, liveTables] at hf
  own := by intro h hh; simp at hh
  disj := by intro i j x y _ h; simp at h
  onealive := by intro i j x y h; simp at h
  newest := by intro i j x y h; simp at h
  old := by intro h hh; simp at hh
  mine := by intro i x h; simp at h
  winvx := by intro h hh; simp at hh

theorem instC_frame {s s' : State} {j : Nat} {x : Inst} (ok : InstC s j x)
    (hlin : ∀ (k : Nat) (z : Inst), s.insts[k]? = some z → ∃ z' : Inst, s'.insts[k]? = some z' ∧ z'.lin = z.lin)
    (hused : ∀ u ∈ s.used, u ∈ s'.used) (hfloor : s.floor ≤ s'.floor) : InstC s' j x :=
  { ok with
    wd := by
      intro c hc w hw
      obtain ⟨h1, h2, y, hy, hl⟩ := ok.wd c hc w hw
      obtain ⟨y', hy', hl'⟩ := hlin _ y hy
      exact ⟨h1, h2, y', hy', hl'.trans hl⟩
    mused := fun u hu => hused u (ok.mused u hu)
    src := by
      intro t ht
      rcases ok.src t ht with h1 | ⟨n, hn, hle⟩
      · exact Or.inl h1
      · exact Or.inr ⟨n, hn, Nat.le_trans hle hfloor⟩ }

theorem madeC_of_handle {s : State} (inv : InvC s) {h : Handle} (hh : h ∈ s.retained) {t : Tbl} (ht : t ∈ h.tables) :
    ∃ x : Inst, s.insts[h.writer]? = some x ∧ t.uri ∈ x.made ∧ ∃ c ∈ x.ckpts, t ∈ c.tables := by
  obtain ⟨_, x, hx, ⟨c, hc, hid⟩, hall⟩ := inv.own h hh
  have htab := (hall c hc hid).1
  exact ⟨x, hx, (inv.inst _ x hx).rck c hc t (htab ▸ ht), c, hc, htab ▸ ht⟩

theorem same_lin {s : State} (inv : InvC s) {i j : Nat} {x y : Inst} (hx : s.insts[i]? = some x)
    (hy : s.insts[j]? = some y) {u : Path} (hu : u ∈ x.made) (hv : u ∈ y.made) : x.lin = y.lin :=
  Decidable.of_not_not fun h => inv.disj i j x y h hx hy u hu hv

theorem InvC.own_at {s : State} (inv : InvC s) {i : Nat} {xi : Inst} (hi : s.insts[i]? = some xi) {h : Handle}
    (hh : h ∈ s.retained) (hw : h.writer = i) :
    (∃ c ∈ xi.ckpts, c.id = h.id) ∧ ∀ c ∈ xi.ckpts, c.id = h.id → c.tables = h.tables ∧ c.wals = h.wals := by
  obtain ⟨_, x, hx, h2⟩ := inv.own h hh
  rw [hw, hi] at hx
  cases hx
  exact h2

theorem InvC.listed {s : State} (inv : InvC s) : ∀ hd ∈ s.retained, ∃ d, s.insts[hd.writer]? = some d ∧
    ∃ c ∈ d.ckpts, c.id = hd.id ∧ c.tables = hd.tables ∧ c.wals = hd.wals := by
  intro hd hh
  obtain ⟨_, d, hd', ⟨c, hc, hid⟩, hall⟩ := inv.own hd hh
  exact ⟨d, hd', c, hc, hid, hall c hc hid⟩

theorem set_lin {l : List Inst} {i : Nat} {xi y : Inst} (hi : l[i]? = some xi) (hl : y.lin = xi.lin)
    (k : Nat) (z : Inst) (hk : l[k]? = some z) : ∃ z' : Inst, (l.set i y)[k]? = some z' ∧ z'.lin = z.lin := by
  by_cases hik : i = k
  · subst hik
    rw [hi] at hk; injection hk with hk; subst hk
    exact ⟨y, get_set_self hi, hl⟩
  · exact ⟨z, by rw [get_set_other hik]; exact hk, rfl⟩

/-- the facts of `y` are built from those of the old record `xi` read in the new state, where the slot does not hold
`xi` -/
theorem invC_update {s : State} {i : Nat} {xi y : Inst} {F : List File} {U : List Path} {W : List Wal} {N : Nat}
    {D : List Nat} (inv : InvC s) (hi : s.insts[i]? = some xi) (hused : ∀ u ∈ s.used, u ∈ U)
    (hlin : y.lin = xi.lin) (hlife : y.life = .alive → xi.life = .alive) (hsrc : y.src = xi.src)
    (hmade : ∀ u ∈ y.made, u ∈ xi.made ∨ u ∉ s.used)
    (hcr : ∀ u ∈ y.created, u ∈ xi.created ∨ u ∉ s.used)
    (hown : ∀ h ∈ s.retained, h.writer = i →
      (∃ c ∈ y.ckpts, c.id = h.id) ∧ ∀ c ∈ y.ckpts, c.id = h.id → c.tables = h.tables ∧ c.wals = h.wals)
    (hwinv : ∀ h ∈ s.retained, ∀ c ∈ y.ckpts, ∀ w ∈ h.wals, ∀ w' ∈ c.wals, w.same w' = true → c.id = h.id) :
    let s' : State := { s with insts := s.insts.set i y, files := F, used := U, usedW := W, nextId := N, docs := D }
    (InstC s' i xi → InstC s' i y) → Safe s' → InvC s' := by
  intro s' hy hsafe
  exact {
    inst := by
      intro k z' hk
      have hold := fun {k z} (ok : InstC s k z) =>
        instC_frame (s' := s') ok (set_lin hi hlin) hused (Nat.le_refl _)
      rcases get_set_inv hi hk with ⟨rfl, rfl⟩ | ⟨_, hk'⟩
      · exact hy (hold (inv.inst _ xi hi))
      · exact hold (inv.inst k z' hk')
    safe := hsafe
    own := by
      intro h hh
      obtain ⟨h1, x, hx, h2⟩ := inv.own h hh
      refine ⟨h1, ?_⟩
      by_cases hw : h.writer = i
      · exact ⟨y, hw ▸ get_set_self hi, hown h hh hw⟩
      · exact ⟨x, (get_set_other fun e => hw e.symm).trans hx, h2⟩
    disj := by
      intro a b xa xb hne ha hb u hu hv
      rcases get_set_inv hi ha with ⟨rfl, rfl⟩ | ⟨hai, ha'⟩
      · rcases get_set_inv hi hb with ⟨_, rfl⟩ | ⟨_, hb'⟩
        · exact hne rfl
        · rcases hmade u hu with h1 | h1
          · exact inv.disj _ b xi xb (hlin ▸ hne) hi hb' u h1 hv
          · exact h1 ((inv.inst b xb hb').mused u hv)
      · rcases get_set_inv hi hb with ⟨rfl, rfl⟩ | ⟨_, hb'⟩
        · rcases hmade u hv with h1 | h1
          · exact inv.disj a _ xa xi (hlin ▸ hne) ha' hi u hu h1
          · exact h1 ((inv.inst a xa ha').mused u hu)
        · exact inv.disj a b xa xb hne ha' hb' u hu hv
    onealive := by
      intro a b xa xb ha hb hla hlb hl
      rcases get_set_inv hi ha with ⟨rfl, rfl⟩ | ⟨hai, ha'⟩
      · rcases get_set_inv hi hb with ⟨h1, _⟩ | ⟨_, hb'⟩
        · exact h1
        · exact inv.onealive _ b xi xb hi hb' (hlife hla) hlb (hlin ▸ hl)
      · rcases get_set_inv hi hb with ⟨rfl, rfl⟩ | ⟨_, hb'⟩
        · exact inv.onealive a _ xa xi ha' hi hla (hlife hlb) (hl.trans hlin)
        · exact inv.onealive a b xa xb ha' hb' hla hlb hl
    newest := by
      intro a b xa xb ha hb hla hl
      rcases get_set_inv hi ha with ⟨rfl, rfl⟩ | ⟨hai, ha'⟩
      · rcases get_set_inv hi hb with ⟨h1, _⟩ | ⟨_, hb'⟩
        · exact Nat.le_of_eq h1.symm
        · exact inv.newest _ b xi xb hi hb' (hlife hla) (hl.trans hlin)
      · rcases get_set_inv hi hb with ⟨rfl, rfl⟩ | ⟨_, hb'⟩
        · exact inv.newest a _ xa xi ha' hi hla (hlin ▸ hl)
        · exact inv.newest a b xa xb ha' hb' hla hl
    old := by
      intro h hh a xa yw ha hla hw hl hne
      obtain ⟨yw0, hw0, hl0⟩ : ∃ yw0 : Inst, s.insts[h.writer]? = some yw0 ∧ yw0.lin = yw.lin := by
        rcases get_set_inv hi hw with ⟨hwi, rfl⟩ | ⟨_, hw'⟩
        · exact ⟨xi, hwi ▸ hi, hlin.symm⟩
        · exact ⟨yw, hw', rfl⟩
      rcases get_set_inv hi ha with ⟨rfl, rfl⟩ | ⟨_, ha'⟩
      · obtain ⟨n, hn, hle⟩ := inv.old h hh _ xi yw0 hi (hlife hla) hw0 (by rw [hl0, hl, hlin]) hne
        exact ⟨n, by rw [hsrc]; exact hn, hle⟩
      · exact inv.old h hh a xa yw0 ha' hla hw0 (hl0.trans hl) hne
    mine := by
      intro a xa ha hla u hu h hh hm
      rcases get_set_inv hi ha with ⟨rfl, rfl⟩ | ⟨_, ha'⟩
      · rcases hcr u hu with h1 | h1
        · exact inv.mine _ xi hi (hlife hla) u h1 h hh hm
        · -- a fresh name is not the name of a table some retained handle lists
          obtain ⟨t, ht, rfl⟩ := List.mem_map.mp hm
          obtain ⟨x, hx, hmade, _⟩ := madeC_of_handle inv hh ht
          exact absurd ((inv.inst _ x hx).mused _ hmade) h1
      · exact inv.mine a xa ha' hla u hu h hh hm
    winvx := by
      intro h hh j yj hj c hc w hw w' hw' hsm
      rcases get_set_inv hi hj with ⟨rfl, rfl⟩ | ⟨_, hj'⟩
      · exact hwinv h hh c hc w hw w' hw' hsm
      · exact inv.winvx h hh j yj hj' c hc w hw w' hw' hsm }

/-- covers `flush` and `compact`, and with `add = []` the steps that change only snapshots and life (`snap`, `unsnap`,
`crash`) -/
theorem invC_addTables {s : State} {i : Nat} {xi : Inst} {add cur : List Tbl} {sn : List (List Tbl)} {l : Life}
    (inv : InvC s) (hi : s.insts[i]? = some xi) (hrel : l ≠ .released) (hlife : l = .alive → xi.life = .alive)
    (hfresh : ∀ u ∈ uris add, u ∉ s.used) (hcur : ∀ t ∈ cur, t ∈ xi.current ∨ t ∈ add) :
    InvC { s with insts := s.insts.set i { xi with current := cur, created := uris add ++ xi.created,
                                                   made := uris add ++ xi.made, snaps := sn, life := l },
                  files := (uris add).map File.sst ++ s.files, used := uris add ++ s.used } := by
  have ok := inv.inst _ xi hi
  refine invC_update inv hi (fun u hu => List.mem_append_right _ hu) rfl hlife rfl
    (fun u hu => (List.mem_append.mp hu).symm.imp_right (hfresh u))
    (fun u hu => (List.mem_append.mp hu).symm.imp_right (hfresh u))
    (fun h hh hw => inv.own_at hi hh hw) (fun h hh c hc => inv.winvx h hh i xi hi c hc)
    (fun okf => { okf with
      norel := hrel
      rcur := fun t ht => (hcur t ht).elim (fun h => List.mem_append_right _ (ok.rcur t h))
        fun h => List.mem_append_left _ (List.mem_map.mpr ⟨t, h, rfl⟩)
      rck := fun c hc t ht => List.mem_append_right _ (ok.rck c hc t ht)
      rcr := fun u hu => List.mem_append.mpr ((List.mem_append.mp hu).imp_right (ok.rcr u))
      lsub := fun t ht => List.mem_append_right _ (ok.lsub t ht)
      mused := fun u hu => List.mem_append.mpr ((List.mem_append.mp hu).imp_right (ok.mused u)) })
    (safe_set_tables inv.safe hi hlife (fun f hf => List.mem_append_right _ hf) fun t ht => (hcur t ht).imp_right
      fun h => List.mem_append_left _ (List.mem_map.mpr ⟨t.uri, List.mem_map.mpr ⟨t, h, rfl⟩, rfl⟩))

theorem invC_dropHandles {s : State} {p : Handle → Bool} {fl : Nat} (inv : InvC s) (hle : s.floor ≤ fl)
    (hfl : ∀ h ∈ s.retained.filter p, s.floor < h.id → fl < h.id) :
    InvC { s with retained := s.retained.filter p, floor := fl } where
  inst := fun i x hx => instC_frame (inv.inst i x hx) (fun k z hk => ⟨z, hk, rfl⟩) (fun u hu => hu) hle
  safe := fun f hf => inv.safe f (needed_mono hf (fun j x hj hl t ht => needed_live hj hl ht)
    fun _ hh => (List.mem_filter.mp hh).1)
  own := by
    intro h hh
    obtain ⟨h1, rest⟩ := inv.own h (List.mem_filter.mp hh).1
    exact ⟨hfl h hh h1, rest⟩
  disj := inv.disj
  onealive := inv.onealive
  newest := inv.newest
  old := fun h hh => inv.old h (List.mem_filter.mp hh).1
  mine := fun i x hx hl u hu h hh => inv.mine i x hx hl u hu h (List.mem_filter.mp hh).1
  winvx := fun h hh => inv.winvx h (List.mem_filter.mp hh).1

theorem invC_append {s : State} {y : Inst} (inv : InvC s)
    (hy : InstC { s with insts := s.insts ++ [y] } s.insts.length y) (hcr : y.created = [])
    (hquiet : ∀ (j : Nat) (x : Inst), s.insts[j]? = some x → x.life = .alive → x.lin ≠ y.lin)
    (hmade : ∀ u ∈ y.made, ∃ (k : Nat) (z : Inst), s.insts[k]? = some z ∧ z.lin = y.lin ∧ u ∈ z.made)
    (hcur : ∀ t ∈ y.current, File.sst t.uri ∈ needed s)
    (hold : ∀ h ∈ s.retained, ∀ z : Inst, s.insts[h.writer]? = some z → z.lin = y.lin →
      ∃ n, y.src = some n ∧ h.id ≤ n)
    (hw : ∀ h ∈ s.retained, ∀ c ∈ y.ckpts, ∀ w ∈ h.wals, ∀ w' ∈ c.wals, w.same w' = true → c.id = h.id) :
    InvC { s with insts := s.insts ++ [y] } where
  inst := by
    intro j x hj
    rcases get_append_new hj with h1 | ⟨rfl, rfl⟩
    · exact instC_frame (inv.inst j x h1) (fun k z hk => ⟨z, get_append_old hk, rfl⟩) (fun u hu => hu)
        (Nat.le_refl _)
    · exact hy
  safe := by
    refine fun f hf => inv.safe f (needed_mono hf (fun j x hj hl t ht => ?_) (fun _ hh => hh))
    rcases get_append_new hj with h1 | ⟨_, rfl⟩
    · exact needed_live h1 hl ht
    · exact hcur t ht
  own := by
    intro h hh
    obtain ⟨h1, x, hx, rest⟩ := inv.own h hh
    exact ⟨h1, x, get_append_old hx, rest⟩
  disj := by
    intro a b xa xb hne ha hb u hu hv
    rcases get_append_new ha with h1 | ⟨_, rfl⟩
    · rcases get_append_new hb with h2 | ⟨_, rfl⟩
      · exact inv.disj a b xa xb hne h1 h2 u hu hv
      · obtain ⟨k, z, hz, hl, hm⟩ := hmade u hv
        exact inv.disj a k xa z (hl ▸ hne) h1 hz u hu hm
    · rcases get_append_new hb with h2 | ⟨_, rfl⟩
      · obtain ⟨k, z, hz, hl, hm⟩ := hmade u hu
        exact inv.disj k b z xb (hl ▸ hne) hz h2 u hm hv
      · exact hne rfl
  onealive := by
    intro a b xa xb ha hb hla hlb hl
    rcases get_append_new ha with h1 | ⟨rfl, rfl⟩
    · rcases get_append_new hb with h2 | ⟨rfl, rfl⟩
      · exact inv.onealive a b xa xb h1 h2 hla hlb hl
      · exact absurd hl (hquiet a xa h1 hla)
    · rcases get_append_new hb with h2 | ⟨h2, _⟩
      · exact absurd hl.symm (hquiet b xb h2 hlb)
      · exact h2.symm
  newest := by
    intro a b xa xb ha hb hla hl
    rcases get_append_new ha with h1 | ⟨rfl, rfl⟩
    · rcases get_append_new hb with h2 | ⟨_, rfl⟩
      · exact inv.newest a b xa xb h1 h2 hla hl
      · exact absurd hl.symm (hquiet a xa h1 hla)
    · rcases get_append_new hb with h2 | ⟨h2, _⟩
      · exact Nat.le_of_lt (getElem?_lt_of_some h2)
      · exact Nat.le_of_eq h2
  old := by
    intro h hh a xa yw ha hla hyw hl hne
    -- the writer of a retained handle is one of the instances there were
    obtain ⟨_, xw, hxw, _⟩ := inv.own h hh
    have hyw' : s.insts[h.writer]? = some yw := by
      rw [← hyw]
      exact (List.getElem?_append_left (getElem?_lt_of_some hxw)).symm
    rcases get_append_new ha with h1 | ⟨_, rfl⟩
    · exact inv.old h hh a xa yw h1 hla hyw' hl hne
    · exact hold h hh yw hyw' hl
  mine := by
    intro a xa ha hla u hu h hh hm
    rcases get_append_new ha with h1 | ⟨_, rfl⟩
    · exact inv.mine a xa h1 hla u hu h hh hm
    · rw [hcr] at hu; cases hu
  winvx := by
    intro h hh j yj hj c hc
    rcases get_append_new hj with h1 | ⟨_, rfl⟩
    · exact inv.winvx h hh j yj h1 c hc
    · exact hw h hh c hc

theorem step_invC_openFresh {s s' : State} {r : KGRange} {g : Nat} {n : List KGRange} {dir : Nat} (inv : InvC s)
    (hdir : dir = s.insts.length) (hstep : step s (.openFresh r g n dir) = some s') : InvC s' := by
  rw [step_openFresh hstep]
  -- the new instance starts a lineage of its own: its label is its index, larger than every existing label
  have hnewlin : ∀ (j : Nat) (x : Inst), s.insts[j]? = some x → x.lin ≠ s.insts.length := by
    intro j x hj he
    exact Nat.lt_irrefl _ (Nat.lt_of_le_of_lt (he ▸ (inv.inst j x hj).linle) (getElem?_lt_of_some hj))
  refine invC_append (y := freshInst r g n dir s.insts.length) inv ?_ rfl (fun j x hj _ => hnewlin j x hj)
    (fun u hu => by cases hu) (fun t ht => by cases ht) (fun h _ z hz hl => absurd hl (hnewlin _ z hz))
    (fun h _ c hc => by cases hc)
  exact {
    dir := hdir
    norel := by simp
    linle := Nat.le_refl _
    wuniq := by intro c hc; cases hc
    wd := by intro c hc; cases hc
    rcur := by intro t ht; cases ht
    rck := by intro c hc; cases hc
    rcr := by intro u hu; cases hu
    lsub := by intro t ht; cases ht
    mused := by intro u hu; cases hu
    src := by intro t ht; cases ht
    srcid := by intro c hc; cases hc }

theorem step_invC_retain {s s' : State} {i : Nat} {ids : List Nat} (inv : InvC s) (hsc : retainOk s i ids = true)
    (hstep : step s (.retain i ids) = some s') : InvC s' := by
  obtain ⟨xi, hi, _, rfl⟩ := step_retain hstep
  have ok := inv.inst _ xi hi
  have hok := (retainOk_iff hi).mp hsc
  refine invC_update (y := { xi with ckpts := keptOf xi.ckpts ids }) inv hi (fun u hu => hu) rfl id rfl
    (fun u hu => Or.inl hu) (fun u hu => Or.inl hu) ?_
    (fun h hh c hc => inv.winvx h hh i xi hi c (mem_keptOf.mp hc).1) (fun okf => ?_) ?_
  · intro h hh hw
    obtain ⟨⟨c, hc, hcid⟩, h2⟩ := inv.own_at hi hh hw
    exact ⟨⟨c, kept_of_above hok hc (hcid ▸ (inv.own h hh).1), hcid⟩, fun c' hc' => h2 c' (mem_keptOf.mp hc').1⟩
  · exact { okf with
      wuniq := fun c hc c' hc' => okf.wuniq c (mem_keptOf.mp hc).1 c' (mem_keptOf.mp hc').1
      wd := fun c hc => okf.wd c (mem_keptOf.mp hc).1
      rck := fun c hc => okf.rck c (mem_keptOf.mp hc).1
      src := by
        intro t ht
        rcases ok.src t ht with ⟨c, hc, hfd, htc⟩ | h2
        · by_cases hin : keeps ids c = true
          · exact Or.inl ⟨c, mem_keptOf.mpr ⟨hc, hin⟩, hfd, htc⟩
          · have hle := hok c (mem_droppedOf.mpr ⟨hc, by simpa using hin⟩)
            exact Or.inr ⟨c.id, ok.srcid c hc hfd, hle⟩
        · exact Or.inr h2
      srcid := fun c hc => okf.srcid c (mem_keptOf.mp hc).1 }
  · refine fun f hf => needed_rmWals inv.safe (fun h hh w hw w' hw' => ?_) f
      (needed_of_set hf hi rfl id rfl (fun _ hh => hh))
    obtain ⟨c', hc', hwc'⟩ := mem_walsOf.mp hw'
    have hd := mem_droppedOf.mp hc'
    cases hsm : w'.same w with
    | false => rfl
    | true =>
      -- a dropped checkpoint whose WAL name a retained handle uses has the handle's id: not dropped by the job
      rw [same_comm] at hsm
      have hid : c'.id = h.id := inv.winvx h hh i xi hi c' hd.1 w hw w' hwc' hsm
      have hdropped : c'.id ≤ s.floor := hok c' hc'
      exact absurd (hid ▸ hdropped) (Nat.not_le.mpr (inv.own h hh).1)

theorem invC_collected {s : State} {i : Nat} {xi : Inst} {cr : List Path} {ld : List Tbl} {u : Path} {del : Bool}
    (inv : InvC s) (hi : s.insts[i]? = some xi) (hcr : ∀ v ∈ cr, v ∈ xi.created) (hld : ∀ t ∈ ld, t ∈ xi.loaded)
    (hnone : File.sst u ∉ needed s) :
    InvC { setInst s i { xi with created := cr, loaded := ld } with
           files := if del then rmFile s.files (.sst u) else s.files } := by
  refine invC_update inv hi (fun u hu => hu) rfl id rfl (fun u hu => Or.inl hu) (fun v hv => Or.inl (hcr v hv))
    (fun h hh hw => inv.own_at hi hh hw) (fun h hh c hc => inv.winvx h hh i xi hi c hc)
    (fun okf => { okf with
      rcr := fun v hv => okf.rcr v (hcr v hv)
      lsub := fun t ht => okf.lsub t (hld t ht)
      src := fun t ht => okf.src t (hld t ht) })
    fun f hf => ?_
  have hf' : f ∈ needed s := needed_of_set hf hi rfl id rfl (fun _ hh => hh)
  exact mem_ite_rmFile.mpr ⟨inv.safe f hf', fun _ he => hnone (he ▸ hf')⟩

theorem not_needed_of_running {s : State} (inv : InvC s) {i : Nat} {xi : Inst} (hi : s.insts[i]? = some xi)
    (hal : xi.life = .alive) {u : Path} (hobj : u ∈ xi.created ∨ ∃ t ∈ xi.loaded, t.uri = u)
    (hnr : xi.refs u = false) : File.sst u ∉ needed s := by
  have ok := inv.inst _ xi hi
  have hnolive : u ∈ xi.made → ∀ (j : Nat) (x : Inst), s.insts[j]? = some x → x.life = .alive →
      ∀ t ∈ x.current, t.uri ≠ u := by
    intro humade j x hj hl t ht he
    subst he
    have hlin := same_lin inv hi hj humade ((inv.inst j x hj).rcur t ht)
    cases inv.onealive i j xi x hi hj hal hl hlin
    cases hi.symm.trans hj
    rw [refs_of_current ht] at hnr; cases hnr
  rcases hobj with hcr | ⟨t, htl, htu⟩
  · refine sst_not_needed (hnolive (ok.rcr u hcr)) fun h hh t ht he => ?_
    subst he
    have hw := inv.mine i xi hi hal _ hcr h hh (List.mem_map.mpr ⟨t, ht, rfl⟩)
    obtain ⟨x, hx, _, c, hc, htc⟩ := madeC_of_handle inv hh ht
    rw [hw, hi] at hx
    cases hx
    rw [refs_of_ckpt hc htc] at hnr; cases hnr
  · have humade : u ∈ xi.made := htu ▸ ok.lsub t htl
    -- the restored checkpoint no longer pins the object, so the job has dropped the checkpoint restored from
    have hsrc : ∃ n, xi.src = some n ∧ n ≤ s.floor := by
      rcases ok.src t htl with ⟨c, hc, _, htc⟩ | h2
      · rw [← htu, refs_of_ckpt hc htc] at hnr; cases hnr
      · exact h2
    refine sst_not_needed (hnolive humade) fun h hh t' ht' he => ?_
    subst he
    obtain ⟨x, hx, hm, c, hc, htc⟩ := madeC_of_handle inv hh ht'
    have hlin := same_lin inv hx hi hm humade
    by_cases hw : h.writer = i
    · rw [hw, hi] at hx
      cases hx
      rw [refs_of_ckpt hc htc] at hnr; cases hnr
    · -- a handle of an earlier instance of the lineage is not newer than what this one restored from
      obtain ⟨n, hn, hle⟩ := hsrc
      obtain ⟨n', hn', hle'⟩ := inv.old h hh i xi x hi hal hx hlin hw
      cases hn.symm.trans hn'
      exact absurd (inv.own h hh).1 (Nat.not_lt.mpr (Nat.le_trans hle' hle))

/-- whoever needs a table has it in `made`, so belongs to the lineage, so is the instance itself -/
theorem not_needed_of_alone {s : State} (inv : InvC s) {i : Nat} {xi : Inst} (hi : s.insts[i]? = some xi)
    (halone : ∀ (j : Nat) (y : Inst), s.insts[j]? = some y → y.lin = xi.lin → j = i)
    {u : Path} (humade : u ∈ xi.made) (hnr : xi.refs u = false) : File.sst u ∉ needed s := by
  refine sst_not_needed (fun j x hj _ t ht he => ?_) (fun h hh t ht he => ?_)
  · subst he
    cases halone j x hj (same_lin inv hj hi ((inv.inst j x hj).rcur t ht) humade)
    cases hi.symm.trans hj
    rw [refs_of_current ht] at hnr; cases hnr
  · subst he
    obtain ⟨x, hx, hm, c, hc, htc⟩ := madeC_of_handle inv hh ht
    cases halone _ x hx (same_lin inv hx hi hm humade)
    cases hi.symm.trans hx
    rw [refs_of_ckpt hc htc] at hnr; cases hnr

theorem step_invC_collect {s s' : State} {i : Nat} {u : Path} {answers : List Ans} (inv : InvC s)
    (hsc : ∀ xi, s.insts[i]? = some xi →
      xi.life = .alive ∨ ∀ (j : Nat) (y : Inst), s.insts[j]? = some y → y.lin = xi.lin → j = i)
    (hstep : step s (.collect i u answers) = some s') : InvC s' := by
  obtain ⟨xi, hi, hun, cr, ld, del, rfl, hy⟩ := step_collect hstep
  have ok := inv.inst _ xi hi
  have hnr := refs_of_unreachable ok.norel hun
  have hobj : u ∈ xi.created ∨ ∃ t ∈ xi.loaded, t.uri = u := hy.imp And.left fun ⟨t, htl, htu, _⟩ => ⟨t, htl, htu⟩
  have hnone : File.sst u ∉ needed s := by
    rcases hsc xi hi with hal | halone
    · exact not_needed_of_running inv hi hal hobj hnr
    · refine not_needed_of_alone inv hi halone ?_ hnr
      rcases hobj with hcr | ⟨t, htl, htu⟩
      · exact ok.rcr u hcr
      · exact htu ▸ ok.lsub t htl
  rcases hy with ⟨_, rfl, rfl, _⟩ | ⟨t, _, _, rfl, rfl, _⟩
  · exact invC_collected inv hi (fun v hv => List.mem_of_mem_erase hv) (fun t ht => ht) hnone
  · exact invC_collected inv hi (fun v hv => hv) (fun t' ht' => List.mem_of_mem_erase ht') hnone

theorem invC_addHandle {s : State} (inv : InvC s) (h0 : Handle) {x : Inst}
    (hfiles : ∀ f ∈ handleFiles h0, f ∈ s.files) (hfl : s.floor < h0.id)
    (hx : s.insts[h0.writer]? = some x) (hal : x.life = .alive)
    (hex : ∃ c ∈ x.ckpts, c.id = h0.id)
    (huniq : ∀ c ∈ x.ckpts, c.id = h0.id → c.tables = h0.tables ∧ c.wals = h0.wals)
    (hmade : ∀ t ∈ h0.tables, t.uri ∈ x.made)
    (hw : ∀ (j : Nat) (yj : Inst), s.insts[j]? = some yj → ∀ c ∈ yj.ckpts, ∀ w ∈ h0.wals, ∀ w' ∈ c.wals,
      w.same w' = true → c.id = h0.id) :
    InvC { s with retained := h0 :: s.retained } where
  inst := fun i y hy => instC_frame (inv.inst i y hy) (fun k z hk => ⟨z, hk, rfl⟩) (fun u hu => hu) (Nat.le_refl _)
  safe := by
    intro f hf
    rcases mem_needed.mp hf with hl | ⟨h, hh, hr⟩
    · exact inv.safe _ (mem_needed.mpr (Or.inl hl))
    · rcases List.mem_cons.mp hh with rfl | hh
      · apply hfiles
        rcases hr with ⟨t, ht, rfl⟩ | ⟨w, hw, rfl⟩
        · exact List.mem_append_left _ (List.mem_map.mpr ⟨t.uri, List.mem_map.mpr ⟨t, ht, rfl⟩, rfl⟩)
        · exact List.mem_append_right _ (List.mem_map.mpr ⟨w, hw, rfl⟩)
      · exact inv.safe _ (mem_needed.mpr (Or.inr ⟨h, hh, hr⟩))
  own := by
    intro h hh
    rcases List.mem_cons.mp hh with rfl | hh
    · exact ⟨hfl, x, hx, hex, huniq⟩
    · exact inv.own h hh
  disj := inv.disj
  onealive := inv.onealive
  newest := inv.newest
  old := by
    intro h hh a xa yw ha hla hyw hl hne
    rcases List.mem_cons.mp hh with rfl | hh
    · -- the writer is running, and it is the only running instance of its lineage
      rw [hx] at hyw; injection hyw with hyw; subst hyw
      exact absurd (inv.onealive _ a _ xa hx ha hal hla hl) hne
    · exact inv.old h hh a xa yw ha hla hyw hl hne
  mine := by
    intro a xa ha hla u hu h hh hm
    rcases List.mem_cons.mp hh with rfl | hh
    · obtain ⟨t, ht, rfl⟩ := List.mem_map.mp hm
      have hlin := same_lin inv hx ha (hmade t ht) ((inv.inst a xa ha).rcr _ hu)
      exact inv.onealive _ a _ xa hx ha hal hla hlin
    · exact inv.mine a xa ha hla u hu h hh hm
  winvx := by
    intro h hh j yj hj c hc w hw1 w' hw' hsm
    rcases List.mem_cons.mp hh with rfl | hh
    · exact hw j yj hj c hc w hw1 w' hw' hsm
    · exact inv.winvx h hh j yj hj c hc w hw1 w' hw' hsm

/-- a reference from a later directory would be held by a later instance of its lineage, but the running instance is
the newest of its lineage -/
theorem next_wal_unusedC {s : State} (inv : InvC s) {i : Nat} {xi : Inst} (hi : s.insts[i]? = some xi)
    (hal : xi.life = .alive) {wal : Wal} (hd : wal.dir = i) (hn : wal.num = xi.walNext) {j : Nat} {xj : Inst}
    (hj : s.insts[j]? = some xj) : ∀ c ∈ xj.ckpts, ∀ v ∈ c.wals, wal.same v = false := by
  intro c hc v hv
  obtain ⟨h1, h2, y, hy, hl⟩ := (inv.inst j xj hj).wd c hc v hv
  cases hsm : wal.same v with
  | false => rfl
  | true =>
    obtain ⟨hdir, hnm⟩ := same_num hsm
    have hvd : v.dir = i := hdir.symm.trans hd
    rw [hvd, hi] at hy
    cases hy
    have hji : j = i := Nat.le_antisymm (inv.newest i j _ xj hi hj hal hl.symm) (hvd ▸ h1)
    subst hji
    cases hi.symm.trans hj
    have hlt : v.num < xi.walNext := h2 hvd
    omega

theorem step_invC_ckpt {s s' : State} {i id : Nat} {wal : Wal} (inv : InvC s)
    (hstep : step s (.ckpt i id wal) = some s') : InvC s' := by
  obtain ⟨xi, hi, hal, hfl, hidne, hwdir, hwnum, rfl⟩ := step_ckpt hstep
  have ok := inv.inst _ xi hi
  have hwd : wal.dir = i := hwdir.trans ok.dir
  have hnew := fun (j : Nat) (xj : Inst) (hj : s.insts[j]? = some xj) => next_wal_unusedC inv hi hal hwd hwnum hj
  have hnewH : ∀ h ∈ s.retained, ∀ w ∈ h.wals, wal.same w = false := by
    intro h hh w hw
    obtain ⟨_, x, hx, ⟨c, hcm, hcid⟩, hall⟩ := inv.own h hh
    exact hnew _ x hx c hcm w ((hall c hcm hcid).2 ▸ hw)
  -- first the instance's own step (list entry, WAL file), then the job's new handle
  let s1 : State := { setInst s i (ckptInst xi id wal) with
    files := .wal wal :: clobber s.files wal, usedW := wal :: s.usedW, nextId := max s.nextId (id + 1),
    docs := saveDoc s i xi.dir }
  have hy1 : s1.insts[i]? = some (ckptInst xi id wal) := get_set_self hi
  have inv1 : InvC s1 := by
    refine invC_update (y := ckptInst xi id wal) inv hi (fun u hu => hu) rfl (fun h => h) rfl (fun u hu => Or.inl hu)
      (fun u hu => Or.inl hu) ?_ ?_ (fun okf => ?_) ?_
    · intro h hh hw
      obtain ⟨⟨c, hcm, hcid⟩, hall⟩ := inv.own_at hi hh hw
      refine ⟨⟨c, List.mem_append_left _ hcm, hcid⟩, fun c' hc' hid' => ?_⟩
      rcases mem_ckptInst hc' with h1 | rfl
      · exact hall c' h1 hid'
      · exact absurd (hcid.trans hid'.symm) (hidne c hcm)
    · intro h hh c hc w hw w' hw' hsm
      rcases mem_ckptInst hc with h1 | rfl
      · exact inv.winvx h hh i xi hi c h1 w hw w' hw' hsm
      · cases List.mem_singleton.mp hw'
        rw [same_comm, hnewH h hh w hw] at hsm; cases hsm
    · exact { okf with
        wuniq := wuniq_ckptInst ok.wuniq (hnew i xi hi)
        wd := by
          intro c hc w hw
          show w.dir ≤ i ∧ (w.dir = i → w.num < xi.walNext + 1) ∧ _
          rcases mem_ckptInst hc with h1 | rfl
          · obtain ⟨a1, a2, a3⟩ := okf.wd c h1 w hw
            exact ⟨a1, fun h => Nat.lt_succ_of_lt (a2 h), a3⟩
          · cases List.mem_singleton.mp hw
            exact ⟨Nat.le_of_eq hwd, fun _ => by omega, ckptInst xi id wal, by rw [hwd]; exact hy1, rfl⟩
        rck := by
          intro c hc t ht
          rcases mem_ckptInst hc with h1 | rfl
          · exact ok.rck c h1 t ht
          · exact ok.rcur t ht
        src := by
          intro t ht
          rcases ok.src t ht with ⟨c, hc, h1, h2⟩ | h2
          · exact Or.inl ⟨c, List.mem_append_left _ hc, h1, h2⟩
          · exact Or.inr h2
        srcid := by
          intro c hc hfd
          rcases mem_ckptInst hc with h1 | rfl
          · exact ok.srcid c h1 hfd
          · cases hfd }
    · exact fun f hf => List.mem_cons_of_mem _
        (needed_clobber inv.safe hnewH f (needed_of_set hf hi rfl (fun h => h) rfl (fun _ hh => hh)))
  refine invC_addHandle (s := s1) inv1 ⟨i, id, xi.current, [wal]⟩ (x := ckptInst xi id wal) ?_ hfl hy1 hal
    ⟨⟨id, xi.current, [wal], false⟩, by simp, rfl⟩ ?_ (fun t ht => ok.rcur t ht) ?_
  · intro f hf
    show f ∈ File.wal wal :: clobber s.files wal
    rcases List.mem_append.mp hf with h1 | h1
    · obtain ⟨u, hu, rfl⟩ := List.mem_map.mp h1
      obtain ⟨t, ht, rfl⟩ := List.mem_map.mp hu
      exact List.mem_cons_of_mem _ (needed_clobber inv.safe hnewH _ (needed_live hi hal ht))
    · obtain ⟨w, hw, rfl⟩ := List.mem_map.mp h1
      cases List.mem_singleton.mp hw
      exact List.mem_cons_self ..
  · intro c hc hcid
    rcases mem_ckptInst hc with h1 | rfl
    · exact absurd hcid (hidne c h1)
    · exact ⟨rfl, rfl⟩
  · intro j yj hj c hc w hw w' hw' hsm
    cases List.mem_singleton.mp hw
    rcases get_set_inv hi hj with ⟨rfl, rfl⟩ | ⟨_, hj'⟩
    · rcases mem_ckptInst hc with h1 | rfl
      · rw [hnew _ xi hi c h1 w' hw'] at hsm; cases hsm
      · rfl
    · rw [hnew j yj hj' c hc w' hw'] at hsm; cases hsm

theorem step_invC_openFrom {s s' : State} {r : KGRange} {g : Nat} {n : List KGRange} {w id dir : Nat} (inv : InvC s)
    (hdir : dir = s.insts.length) (hret : ∃ h0 ∈ s.retained, h0.writer = w ∧ h0.id = id)
    (hquiet : ∀ y ∈ s.insts, ¬ (y.life = .alive ∧ y.lin = linOf s [w]))
    (hnewest : ∀ h ∈ s.retained, ∀ y : Inst, s.insts[h.writer]? = some y → y.lin = linOf s [w] → h.id ≤ id)
    (hstep : step s (.openFrom r g n [w] id dir) = some s') : InvC s' := by
  obtain ⟨h0, hh0, hw0, hid0⟩ := hret
  obtain ⟨_, wi, hwi, _, hall0⟩ := inv.own h0 hh0
  rw [hw0] at hwi
  have hlinof : linOf s [w] = wi.lin := by simp [linOf, hwi]
  rw [hlinof] at hquiet hnewest
  have hwlt : w < s.insts.length := getElem?_lt_of_some hwi
  have okw := inv.inst w wi hwi
  -- the document entry the restore reads is the one backing the handle
  obtain ⟨ts, wl, _, hg, rfl⟩ := step_openFrom hstep
  obtain ⟨c, hde, rfl, rfl⟩ := gather_single hg
  obtain ⟨wi', hwi', hcm, hcid⟩ := docEntry_some hde
  cases hwi.symm.trans hwi'
  obtain ⟨htab, hwal⟩ := hall0 c hcm (hcid.trans hid0.symm)
  rw [hlinof]
  have hnewmem : ∀ c', c' ∈ (restoredInst r g n c.tables c.wals id dir wi.lin).ckpts →
      c' = ⟨id, c.tables, c.wals, true⟩ := by
    intro c' hc'; simpa using hc'
  have hcmade : ∀ u ∈ uris c.tables, u ∈ wi.made := by
    intro u hu
    obtain ⟨t, ht, rfl⟩ := List.mem_map.mp hu
    exact okw.rck c hcm t ht
  refine invC_append (y := restoredInst r g n c.tables c.wals id dir wi.lin) inv ?_ rfl
    (fun j y hj hl he => hquiet y (List.mem_of_getElem? hj) ⟨hl, he⟩)
    (fun u hu => ⟨w, wi, hwi, rfl, hcmade u hu⟩)
    (fun t ht => mem_needed.mpr (Or.inr ⟨h0, hh0, Or.inl ⟨t, htab ▸ ht, rfl⟩⟩))
    -- the restarted instance was restored from the newest checkpoint the job retains of its lineage
    (fun h hh z hz hl => ⟨id, rfl, hnewest h hh z hz hl⟩) ?_
  · exact {
      dir := hdir
      norel := by simp
      linle := Nat.le_of_lt (Nat.lt_of_le_of_lt okw.linle hwlt)
      wuniq := by
        intro c1 hc1 c2 hc2 _ _ _ _ _
        rw [hnewmem c1 hc1, hnewmem c2 hc2]
      wd := by
        intro c1 hc1 v hv
        rw [hnewmem c1 hc1] at hv
        obtain ⟨a1, _, y, hy, hl⟩ := okw.wd c hcm v hv
        -- the WAL lies in a directory not above the writer's, hence below the new one
        exact ⟨Nat.le_of_lt (Nat.lt_of_le_of_lt a1 hwlt), fun h => absurd (h ▸ a1) (Nat.not_le.mpr hwlt), y,
          get_append_old hy, hl⟩
      rcur := fun t ht => List.mem_map.mpr ⟨t, ht, rfl⟩
      rck := by
        intro c1 hc1 t ht
        rw [hnewmem c1 hc1] at ht
        exact List.mem_map.mpr ⟨t, ht, rfl⟩
      rcr := by intro u hu; cases hu
      lsub := fun t ht => List.mem_map.mpr ⟨t, ht, rfl⟩
      mused := fun u hu => okw.mused u (hcmade u hu)
      src := fun t ht => Or.inl ⟨⟨id, c.tables, c.wals, true⟩, by simp, rfl, ht⟩
      srcid := by
        intro c1 hc1 _
        rw [hnewmem c1 hc1] }
  · -- a WAL name of the restored checkpoint is a WAL name of the writer's checkpoint with the same id
    intro h hh c1 hc1 w1 hw1 w2 hw2 hsm
    rw [hnewmem c1 hc1] at hw2 ⊢
    exact hcid.symm.trans (inv.winvx h hh w wi hwi c hcm w1 hw1 w2 hw2 hsm)

theorem step_invC {s s' : State} {a : Act} (inv : InvC s) (hsc : inScopeC s a = true)
    (hstep : step s a = some s') : InvC s' := by
  cases a with
  | openFresh r g n dir =>
    rw [inScopeC_openFresh, beq_iff_eq] at hsc
    exact step_invC_openFresh inv hsc hstep
  | openFrom r g n ws id dir =>
    obtain ⟨w, rfl⟩ := inScopeC_openFrom_single hsc
    simp only [inScopeC_openFrom_one, Bool.and_eq_true, beq_iff_eq, List.any_eq_true, List.all_eq_true] at hsc
    obtain ⟨hd, ⟨⟨h0, hh0, hw0, hid0⟩, hn⟩, hq⟩ := hsc
    refine step_invC_openFrom inv hd ⟨h0, hh0, hw0, hid0⟩ ?_ ?_ hstep
    · intro y hy ⟨hl, he⟩
      have := hq y hy
      simp [hl, he] at this
    · intro h hh y hy hl
      have := List.all_eq_true.mp hn h hh
      simpa [hy, hl] using this
  | release i => cases hsc
  | lateWrite i t => cases hsc
  | flush i t =>
    obtain ⟨xi, hi, _, hfresh, rfl⟩ := step_flush hstep
    exact invC_addTables (add := [t]) inv hi (inv.inst _ xi hi).norel id
      (fun u hu => List.mem_singleton.mp hu ▸ hfresh) fun t' ht' => (List.mem_cons.mp ht').symm.imp_right List.mem_singleton.mpr
  | compact i rm add =>
    obtain ⟨xi, hi, _, hfresh, rfl⟩ := step_compact hstep
    exact invC_addTables inv hi (inv.inst _ xi hi).norel id (allFresh_not_mem hfresh)
      fun t' ht' => (List.mem_append.mp ht').imp_left mem_dropTables
  | snap i =>
    obtain ⟨xi, hi, _, rfl⟩ := step_snap hstep
    exact invC_addTables (add := []) inv hi (inv.inst _ xi hi).norel id nofun fun _ => Or.inl
  | unsnap i k =>
    obtain ⟨xi, hi, _, rfl⟩ := step_unsnap hstep
    exact invC_addTables (add := []) inv hi (inv.inst _ xi hi).norel id nofun fun _ => Or.inl
  | crash i =>
    obtain ⟨xi, hi, _, rfl⟩ := step_crash hstep
    exact invC_addTables (add := []) (l := .crashed) inv hi nofun nofun nofun fun _ => Or.inl
  | redeployFailed i => obtain ⟨_, _, _, rfl⟩ := step_redeployFailed hstep; exact inv
  | jobDrop k =>
    rw [step_jobDrop hstep]
    refine invC_dropHandles inv (Nat.le_max_left ..) (fun h hh h1 => ?_)
    exact Nat.max_lt.mpr ⟨h1, by simpa using (List.mem_filter.mp hh).2⟩
  | jobAbandon id =>
    rw [step_jobAbandon hstep]
    exact invC_dropHandles (fl := s.floor) inv (Nat.le_refl _) (fun h hh h1 => h1)
  | ckpt i id wal => exact step_invC_ckpt inv hstep
  | retain i ids => exact step_invC_retain inv hsc hstep
  | collect i u answers =>
    have hal : aliveAt s i = true := hsc
    exact step_invC_collect inv (fun xi hi => Or.inl (by simpa [aliveAt, hi] using hal)) hstep

theorem runC_invC {as : List Act} : ∀ {s s' : State}, InvC s → runC s as = some s' → InvC s' := by
  induction as with
  | nil => intro s s' inv h; exact Option.some.inj h ▸ inv
  | cons a as ih =>
    intro s s' inv h
    obtain ⟨hsc, s1, hstep, h⟩ := runC_cons.mp h
    exact ih (step_invC inv hsc hstep) h

def OwnLin (s : State) : Prop := ∀ (i : Nat) (x : Inst), s.insts[i]? = some x → x.lin = i

theorem ownLin_init : OwnLin {} := by intro i x h; simp at h

theorem step_ownLin {s s' : State} {a : Act} (hl : OwnLin s) (hsc : inScopeN s a = true)
    (hstep : step s a = some s') : OwnLin s' := by
  intro j x' hj
  rcases step_length hstep with hlen | ⟨r, g, n, d, rfl⟩ | ⟨r, g, n, ws, id, d, rfl⟩
  · have hx := List.getElem?_eq_getElem (hlen ▸ getElem?_lt_of_some hj)
    obtain ⟨_, x'', hx'', hlin, _⟩ := step_frame hstep hx
    cases hj.symm.trans hx''
    exact hlin.trans (hl j _ hx)
  · rw [step_openFresh hstep] at hj
    rcases get_append_new hj with h1 | ⟨rfl, rfl⟩
    · exact hl j x' h1
    · rfl
  · cases hsc

theorem step_invC_of_scopeN {s s' : State} {a : Act} (inv : InvC s) (hl : OwnLin s) (hsc : inScopeN s a = true)
    (hstep : step s a = some s') : InvC s' := by
  rcases inScopeC_of_inScopeN hsc with hc | ⟨i, u, answers, rfl⟩
  · exact step_invC inv hc hstep
  · refine step_invC_collect inv (fun xi hi => Or.inr fun j y hj hlin => ?_) hstep
    rw [← hl j y hj, hlin, hl i xi hi]

theorem runN_invC {as : List Act} :
    ∀ {s s' : State}, InvC s → OwnLin s → runN s as = some s' → InvC s' ∧ OwnLin s' := by
  induction as with
  | nil => intro s s' inv hl h; exact Option.some.inj h ▸ ⟨inv, hl⟩
  | cons a as ih =>
    intro s s' inv hl h
    obtain ⟨hsc, s1, hstep, h⟩ := runN_cons.mp h
    exact ih (step_invC_of_scopeN inv hl hsc hstep) (step_ownLin hl hsc hstep) h

end Rxn.Files
