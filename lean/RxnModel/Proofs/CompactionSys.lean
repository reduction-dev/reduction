import RxnModel.Proofs.CompactionPick
/-!
Compaction next to flushes: a safe change set stays safe and commutes with flush change sets; the invariant of the
system `Sys` (compaction task computing on a snapshot, committing later, flushes in between).
-/
namespace Rxn.Compaction
open Rxn Rxn.Lsm

theorem applyFlush_cons (l0 : List Tbl) (D : List (List Tbl)) (ts : List Tbl) :
    applyFlush (l0 :: D) ts = (l0 ++ ts) :: D := rfl

theorem applyFlush_length (L : Levels) (ts : List Tbl) : (applyFlush L ts).length = L.length := by
  simp only [applyFlush, addAt, List.length_modify]

theorem mem_applyFlush {L : Levels} {ts : List Tbl} {t : Tbl} (h : t ∈ L.flatten) : t ∈ (applyFlush L ts).flatten := by
  cases L with
  | nil => cases h
  | cons l0 D =>
    rw [applyFlush_cons]
    simp only [List.flatten_cons, List.mem_append] at h ⊢
    exact h.imp_left Or.inl

theorem removed_after_flush {l0 ts : List Tbl} {D : List (List Tbl)} {rm : List Nat}
    (hfresh : ∀ t ∈ ts, rmP rm t = false) :
    (readOrder ((l0 ++ ts) :: D)).filter (rmP rm) = (readOrder (l0 :: D)).filter (rmP rm) := by
  have htsf : ts.reverse.filter (rmP rm) = [] := filter_rm_nil (fun t ht => hfresh t (List.mem_reverse.mp ht))
  simp only [readOrder, List.reverse_append, List.append_assoc, List.filter_append, htsf, List.nil_append]

theorem flush_commute (L : Levels) (cs : ChangeSet) (n : Nat) (ts : List Tbl) (hlvl : 1 ≤ cs.lvl)
    (hfresh : ∀ t ∈ ts, rmP cs.rm t = false) :
    applyCS (applyFlush L ts) n cs = applyFlush (applyCS L n cs) ts := by
  cases L with
  | nil => simp [applyFlush, applyCS, addAt, removeIds]
  | cons l0 D =>
    obtain ⟨m, hm⟩ : ∃ m, cs.lvl = m + 1 := ⟨cs.lvl - 1, (Nat.sub_add_cancel hlvl).symm⟩
    have hts : ts.filter (fun t => !rmP cs.rm t) = ts := filter_kept_self hfresh
    simp only [applyFlush_cons, applyCS, removeIds_eq, addAt, hm, List.map_cons, List.modify_succ_cons,
      List.filter_append, hts]

theorem safe_after_flush {L : Levels} {rm : List Nat} {lvl : Nat} {add : List Run} {ts : List Tbl}
    (hs : SafeCS L rm lvl add) (hfresh : ∀ t ∈ ts, rmP rm t = false) : SafeCS (applyFlush L ts) rm lvl add := by
  cases L with
  | nil => exact absurd hs.lvl_lt (Nat.not_lt_zero _)
  | cons l0 D =>
    obtain ⟨m, rfl⟩ : ∃ m, lvl = m + 1 := ⟨lvl - 1, (Nat.sub_add_cancel hs.lvl_pos).symm⟩
    rw [applyFlush_cons]
    refine ⟨hs.lvl_pos, hs.lvl_lt, hs.target_all, hs.below_none, ?_, ?_, hs.chunks⟩
    · have h0 := hs.no_kept_below_removed
      simp only [List.take_succ_cons, readOrder, List.reverse_append, List.append_assoc] at h0 ⊢
      exact List.pairwise_append.mpr
        ⟨List.pairwise_of_forall_mem_list fun a ha _ _ => safePair_of_kept (hfresh a (List.mem_reverse.mp ha)), h0,
          fun a ha _ _ => safePair_of_kept (hfresh a (List.mem_reverse.mp ha))⟩
    · rw [removed_after_flush hfresh]; exact hs.added

theorem rmP_fresh {rm : List Nat} {n : Nat} {runs : List Run} (hold : ∀ i ∈ rm, i < n) :
    ∀ t ∈ mkTables n runs, rmP rm t = false := by
  intro t ht
  apply Bool.eq_false_iff.mpr
  intro hr
  exact Nat.lt_irrefl _ (Nat.lt_of_lt_of_le (hold t.id (List.contains_iff_mem.mp hr)) (mkTables_id_mem ht).1)

/-- under ANY change set whose target level exists: old tables are dropped or stay, new tables are numbered from the counter -/
theorem idsFresh_applyCS {L : Levels} {n : Nat} (cs : ChangeSet) (h : cs.lvl < L.length) (hf : IdsFresh L n) :
    IdsFresh (applyCS L n cs) (n + cs.add.length) := by
  have hp := flatten_applyCS_perm n h
  have hsub : (L.flatten.filter (fun t => !rmP cs.rm t)).Sublist L.flatten := List.filter_sublist
  refine ⟨(hp.map _).nodup_iff.mpr ?_, fun t ht => ?_⟩
  · rw [List.map_append, mkTables_ids]
    refine List.nodup_append.mpr ⟨(hsub.map _).nodup hf.1, List.nodup_range' 1, ?_⟩
    intro a ha b hb hab
    obtain ⟨x, hx, rfl⟩ := List.mem_map.mp ha
    exact Nat.lt_irrefl _ (Nat.lt_of_lt_of_le (hab ▸ hf.2 x (hsub.subset hx)) (List.mem_range'_1.mp hb).1)
  · rcases List.mem_append.mp (hp.mem_iff.mp ht) with ht | ht
    · exact Nat.lt_add_right _ (hf.2 t (hsub.subset ht))
    · exact (mkTables_id_mem ht).2

theorem applyFlush_eq_applyCS (L : Levels) (n : Nat) (runs : List Run) :
    applyFlush L (mkTables n runs) = applyCS L n ⟨[], 0, runs⟩ := by
  have h : removeIds [] L = L := removeIds_self (fun _ _ => rfl)
  rw [applyCS, h]
  rfl

theorem idsFresh_flush {L : Levels} {n : Nat} (runs : List Run) (h : 0 < L.length) (hf : IdsFresh L n) :
    IdsFresh (applyFlush L (mkTables n runs)) (n + runs.length) :=
  applyFlush_eq_applyCS L n runs ▸ idsFresh_applyCS ⟨[], 0, runs⟩ h hf

theorem age_mem {t : Tbl} (h : t.run ≠ []) : ∃ e ∈ t.run, age t = e.seq := by
  unfold age
  cases hrun : t.run with
  | nil => exact absurd hrun h
  | cons x xs => exact ⟨x, List.mem_cons_self, rfl⟩

theorem age_lt_of_sep {a b : Tbl} (hsep : ∀ e ∈ a.run, ∀ e' ∈ b.run, e.seq < e'.seq)
    (hnd : ¬ DisjointKeys a.run b.run) : age a < age b := by
  have ha : a.run ≠ [] := fun h => hnd (fun ea hea => by rw [h] at hea; cases hea)
  have hb : b.run ≠ [] := fun h => hnd (fun _ _ eb heb => by rw [h] at heb; cases heb)
  obtain ⟨x, hx, hax⟩ := age_mem ha
  obtain ⟨y, hy, hby⟩ := age_mem hb
  rw [hax, hby]
  exact hsep x hx y hy

theorem mkTables_pairwise {R : Run → Run → Prop} {runs : List Run} (n : Nat) (h : runs.Pairwise R) :
    (mkTables n runs).Pairwise (fun a b => R a.run b.run) :=
  List.pairwise_map.mp (by rw [mkTables_map_run]; exact h)

theorem layoutValid_flush {L : Levels} {runs : List Run} (n : Nat) (hv : LayoutValid L) (hok : FlushOK L runs) :
    LayoutValid (applyFlush L (mkTables n runs)) := by
  cases L with
  | nil => exact hv
  | cons l0 D =>
    obtain ⟨hruns, hpw, hnewer, _⟩ := hok
    refine ⟨?_, hv.ordered, ?_⟩
    · intro t ht
      rcases mem_addAt _ _ 0 t ht with ht | ht
      · exact hv.sorted t ht
      · exact (hruns _ (mkTables_run_mem ht)).2
    · simp only [applyFlush_cons, readOrder, List.reverse_append, List.append_assoc]
      refine List.pairwise_append.mpr ⟨?_, hv.newer, ?_⟩
      · rw [List.pairwise_reverse]
        exact (mkTables_pairwise n hpw).imp (fun hab eb heb ea hea _ => hab eb heb ea hea)
      · intro a ha b hb
        exact hnewer _ (mkTables_run_mem (List.mem_reverse.mp ha)) b ((readOrder_mem _ b).mp hb)

theorem keyAge_flush {L : Levels} {runs : List Run} (n : Nat) (hage : L0KeyAgeOrdered L) (hok : FlushOK L runs) :
    L0KeyAgeOrdered (applyFlush L (mkTables n runs)) := by
  cases L with
  | nil => exact hage
  | cons l0 D =>
    obtain ⟨hruns, hpw, _, hageNew⟩ := hok
    show (l0 ++ mkTables n runs).Pairwise (fun a b => ¬ DisjointKeys a.run b.run → age a < age b)
    refine List.pairwise_append.mpr ⟨hage,
      (mkTables_pairwise n hpw).imp (fun hab => age_lt_of_sep (fun e he e' he' => hab e' he' e he)), ?_⟩
    intro a ha b hb _
    obtain ⟨eb, heb, hage_b⟩ := age_mem (hruns _ (mkTables_run_mem hb)).1
    rw [hage_b]
    exact hageNew _ (mkTables_run_mem hb) a ha eb heb

theorem keyAge_applyCS {L : Levels} (n : Nat) {cs : ChangeSet} (h : 1 ≤ cs.lvl) (ha : L0KeyAgeOrdered L) :
    L0KeyAgeOrdered (applyCS L n cs) := by
  unfold L0KeyAgeOrdered
  rw [applyCS_headD L n h]
  exact List.Pairwise.filter _ ha

theorem keyAge_of_lt {l : List Tbl} (h : l.Pairwise (fun a b => age a < age b)) :
    l.Pairwise (fun a b => ¬ DisjointKeys a.run b.run → age a < age b) :=
  h.imp (by intro a b hab _; exact hab)

theorem sys_step_compactBegin {s s' : Sys} {o : Oracle} (h : s.step (.compactBegin o) = some s') :
    s.pending = none ∧ s' = { s with c := (compact s.c s.L o).2, pending := (compact s.c s.L o).1 } := by
  simp only [Sys.step] at h
  split at h
  · cases h
  · rename_i hp; exact ⟨hp, (Option.some.inj h).symm⟩

theorem sys_step_compactCommit {s s' : Sys} (h : s.step .compactCommit = some s') :
    ∃ cs, s.pending = some cs ∧
      s' = { s with L := applyCS s.L s.nextId cs, nextId := s.nextId + cs.add.length, pending := none } := by
  simp only [Sys.step] at h
  split at h
  · cases h
  · rename_i cs hp; exact ⟨cs, hp, (Option.some.inj h).symm⟩

theorem sys_step_flush {s s' : Sys} {runs : List Run} (h : s.step (.flush runs) = some s') :
    s' = { s with L := applyFlush s.L (mkTables s.nextId runs), nextId := s.nextId + runs.length } :=
  (Option.some.inj h).symm

structure SysInv (s : Sys) : Prop where
  valid : LayoutValid s.L
  ids : IdsFresh s.L s.nextId
  age : L0KeyAgeOrdered s.L
  len : 2 ≤ s.L.length
  pendingSafe : ∀ cs, s.pending = some cs → SafeCS s.L cs.rm cs.lvl cs.add ∧ ∀ i ∈ cs.rm, i < s.nextId

theorem sysInv_step {s s' : Sys} {a : Act} (hi : SysInv s) (hok : ActOK s a) (h : s.step a = some s') : SysInv s' := by
  have hw := weakValid_of_layoutValid hi.valid
  cases a with
  | compactBegin o =>
    obtain ⟨_, rfl⟩ := sys_step_compactBegin h
    refine ⟨hi.valid, hi.ids, hi.age, hi.len, ?_⟩
    intro cs hcs
    have ⟨hst, hold, _⟩ := compact_pending hw hi.ids hi.age hi.len hcs
    exact ⟨safe_of_structOK hw hst, hold⟩
  | compactCommit =>
    obtain ⟨cs, hp, rfl⟩ := sys_step_compactCommit h
    have hs := (hi.pendingSafe cs hp).1
    exact ⟨(safe_preserves s.nextId hi.valid hs).2.2, idsFresh_applyCS cs hs.lvl_lt hi.ids,
      keyAge_applyCS _ hs.lvl_pos hi.age, (applyCS_length s.L s.nextId cs).symm ▸ hi.len, fun _ hcs' => nomatch hcs'⟩
  | flush runs =>
    obtain rfl := sys_step_flush h
    refine ⟨layoutValid_flush _ hi.valid hok, idsFresh_flush runs (Nat.zero_lt_of_lt hi.len) hi.ids, keyAge_flush _ hi.age hok,
      (applyFlush_length s.L _).symm ▸ hi.len, ?_⟩
    intro cs hcs
    have ⟨hs, hold⟩ := hi.pendingSafe cs hcs
    exact ⟨safe_after_flush hs (rmP_fresh hold), fun i hir => Nat.lt_of_lt_of_le (hold i hir) (Nat.le_add_right _ _)⟩

theorem sys_step_view {s s' : Sys} {a : Act} (hi : SysInv s) (h : s.step a = some s') (hnf : a.isFlush = false) :
    (∀ k, levelsGet s'.L k = levelsGet s.L k) ∧ (∀ p, scanView s'.L p = scanView s.L p) := by
  cases a with
  | compactBegin o =>
    obtain ⟨_, rfl⟩ := sys_step_compactBegin h
    exact ⟨fun _ => rfl, fun _ => rfl⟩
  | compactCommit =>
    obtain ⟨cs, hp, rfl⟩ := sys_step_compactCommit h
    have hpres := safe_preserves s.nextId hi.valid (hi.pendingSafe cs hp).1
    exact ⟨hpres.1, hpres.2.1⟩
  | flush runs => cases hnf

theorem reach_inv {s s' : Sys} {as : List Act} (hr : Reach s as s') (hi : SysInv s) : SysInv s' := by
  induction hr with
  | nil => exact hi
  | cons hok hstep _ ih => exact ih (sysInv_step hi hok hstep)

theorem reach_view {s s' : Sys} {as : List Act} (hr : Reach s as s') (hi : SysInv s)
    (hnf : ∀ a ∈ as, a.isFlush = false) :
    (∀ k, levelsGet s'.L k = levelsGet s.L k) ∧ (∀ p, scanView s'.L p = scanView s.L p) := by
  induction hr with
  | nil => exact ⟨fun _ => rfl, fun _ => rfl⟩
  | @cons s0 s1 s2 a0 as' hok hstep _ ih =>
    have h1 := sys_step_view hi hstep (hnf a0 List.mem_cons_self)
    have h2 := ih (sysInv_step hi hok hstep) (fun b hb => hnf b (List.mem_cons_of_mem _ hb))
    exact ⟨fun k => by rw [h2.1 k, h1.1 k], fun p => by rw [h2.2 p, h1.2 p]⟩

end Rxn.Compaction
