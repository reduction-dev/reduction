import RxnModel.Model.Align
/-!
Observation traces of the alignment model (C02). Every projection of a trace is a fold of a per-observation effect and
every checker asks one thing of each observation: the `_cons` equations say so, and the lemmas about traces rest on
them, singling out the one or two kinds of observation that matter.
-/
namespace Rxn.Align

/-- the items the consumer took, in processing order, with their sender -/
def procsOf : List Obs → List (Nat × Item)
  | [] => []
  | .aligned _ _ :: r => procsOf r
  | .busy _ :: r => procsOf r
  | .proc sr it :: r => (sr, it) :: procsOf r
  | .handler _ _ _ :: r => procsOf r
  | .fired _ _ :: r => procsOf r
  | .reg _ _ :: r => procsOf r
  | .reject _ _ _ :: r => procsOf r
  | .snap _ _ _ :: r => procsOf r
  | .ack _ :: r => procsOf r
  | .released _ :: r => procsOf r
  | .ackfail _ :: r => procsOf r
  | .completed _ :: r => procsOf r
  | .stopped :: r => procsOf r
  | .redeployed _ :: r => procsOf r

/-- the entries handed to the user handler, in order -/
def entriesOf : List Obs → List Entry
  | [] => []
  | .aligned _ _ :: r => entriesOf r
  | .busy _ :: r => entriesOf r
  | .proc _ _ :: r => entriesOf r
  | .handler es _ _ :: r => es ++ entriesOf r
  | .fired _ _ :: r => entriesOf r
  | .reg _ _ :: r => entriesOf r
  | .reject _ _ _ :: r => entriesOf r
  | .snap _ _ _ :: r => entriesOf r
  | .ack _ :: r => entriesOf r
  | .released _ :: r => entriesOf r
  | .ackfail _ :: r => entriesOf r
  | .completed _ :: r => entriesOf r
  | .stopped :: r => entriesOf r
  | .redeployed _ :: r => entriesOf r

/-- (sender, id) of the barriers accepted since the last snapshot -/
def gotOf : List (Nat × Nat) → List Obs → List (Nat × Nat)
  | g, [] => g
  | g, .aligned _ _ :: r => gotOf g r
  | g, .busy _ :: r => gotOf g r
  | g, .proc _ _ :: r => gotOf g r
  | g, .handler _ _ _ :: r => gotOf g r
  | g, .fired _ _ :: r => gotOf g r
  | g, .reg sr id :: r => gotOf ((sr, id) :: g) r
  | g, .reject _ _ _ :: r => gotOf g r
  | _, .snap _ _ _ :: r => gotOf [] r
  | g, .ack _ :: r => gotOf g r
  | g, .released _ :: r => gotOf g r
  | g, .ackfail _ :: r => gotOf g r
  | g, .completed _ :: r => gotOf g r
  | g, .stopped :: r => gotOf g r
  | g, .redeployed _ :: r => gotOf g r

/-- the timer store replayed from a trace: the handler's timer requests pass the `SetTimer` guard of the
watermark it was called with, fired timers are removed -/
def timersOf : Timers → List Obs → Timers
  | c, [] => c
  | c, .aligned _ _ :: r => timersOf c r
  | c, .busy _ :: r => timersOf c r
  | c, .proc _ _ :: r => timersOf c r
  | c, .handler es w _ :: r => timersOf (es.foldl (setTimer w) c) r
  | c, .fired key ts :: r => timersOf (c.erase (ts, key)) r
  | c, .reg _ _ :: r => timersOf c r
  | c, .reject _ _ _ :: r => timersOf c r
  | c, .snap _ _ _ :: r => timersOf c r
  | c, .ack _ :: r => timersOf c r
  | c, .released _ :: r => timersOf c r
  | c, .ackfail _ :: r => timersOf c r
  | c, .completed _ :: r => timersOf c r
  | c, .stopped :: r => timersOf c r
  | c, .redeployed _ :: r => timersOf c r

def Obs.procs : Obs → List (Nat × Item)
  | .proc sr it => [(sr, it)]
  | _ => []

def Obs.entries : Obs → List Entry
  | .handler es _ _ => es
  | _ => []

def gotStep (g : List (Nat × Nat)) : Obs → List (Nat × Nat)
  | .reg sr id => (sr, id) :: g
  | .snap _ _ _ => []
  | _ => g

def timerStep (c : Timers) : Obs → Timers
  | .handler es w _ => es.foldl (setTimer w) c
  | .fired key ts => c.erase (ts, key)
  | _ => c

theorem procsOf_cons (x : Obs) (r : List Obs) : procsOf (x :: r) = x.procs ++ procsOf r := by
  cases x <;> rfl

theorem entriesOf_cons (x : Obs) (r : List Obs) : entriesOf (x :: r) = x.entries ++ entriesOf r := by
  cases x <;> rfl

theorem gotOf_cons (g : List (Nat × Nat)) (x : Obs) (r : List Obs) : gotOf g (x :: r) = gotOf (gotStep g x) r := by
  cases x <;> rfl

theorem timersOf_cons (c : Timers) (x : Obs) (r : List Obs) : timersOf c (x :: r) = timersOf (timerStep c x) r := by
  cases x <;> rfl

theorem procsOf_append (a b : List Obs) : procsOf (a ++ b) = procsOf a ++ procsOf b := by
  induction a with
  | nil => rfl
  | cons x r ih => rw [List.cons_append, procsOf_cons, procsOf_cons, ih, List.append_assoc]

theorem entriesOf_append (a b : List Obs) : entriesOf (a ++ b) = entriesOf a ++ entriesOf b := by
  induction a with
  | nil => rfl
  | cons x r ih => rw [List.cons_append, entriesOf_cons, entriesOf_cons, ih, List.append_assoc]

theorem gotOf_append (g : List (Nat × Nat)) (a b : List Obs) : gotOf g (a ++ b) = gotOf (gotOf g a) b := by
  induction a generalizing g with
  | nil => rfl
  | cons x r ih => rw [List.cons_append, gotOf_cons, gotOf_cons, ih]

theorem timersOf_append (c : Timers) (a b : List Obs) : timersOf c (a ++ b) = timersOf (timersOf c a) b := by
  induction a generalizing c with
  | nil => rfl
  | cons x r ih => rw [List.cons_append, timersOf_cons, timersOf_cons, ih]

/-- keyed events among handler entries, with their (ghost) sender -/
def userOf : List Entry → List (Nat × Bytes × Nat × Nat)
  | [] => []
  | .user sr k p t :: r => (sr, k, p, t) :: userOf r
  | .timer _ _ _ :: r => userOf r

/-- keyed events among processed items -/
def userProcs : List (Nat × Item) → List (Nat × Bytes × Nat × Nat)
  | [] => []
  | (sr, .ev k p t) :: r => (sr, k, p, t) :: userProcs r
  | (_, .wm _) :: r => userProcs r
  | (_, .bar _) :: r => userProcs r
  | (_, .done) :: r => userProcs r

theorem userOf_append (a b : List Entry) : userOf (a ++ b) = userOf a ++ userOf b := by
  induction a with
  | nil => rfl
  | cons x r ih =>
    cases x with
    | user sr k p t => exact congrArg (List.cons (sr, k, p, t)) ih
    | timer _ _ _ => exact ih

theorem userProcs_append (a b : List (Nat × Item)) : userProcs (a ++ b) = userProcs a ++ userProcs b := by
  induction a with
  | nil => rfl
  | cons x r ih =>
    obtain ⟨sr, it⟩ := x
    cases it with
    | ev k p t => exact congrArg (List.cons (sr, k, p, t)) ih
    | _ => exact ih

theorem userProcs_concat_bar (p : List (Nat × Item)) (sr id : Nat) :
    userProcs (p ++ [(sr, .bar id)]) = userProcs p := by
  rw [userProcs_append]
  exact List.append_nil _

/-- the last item of sender `sr` the consumer took -/
def lastProc (sr : Nat) (p : List (Nat × Item)) : Option Item :=
  ((p.filter fun x => x.1 = sr).getLast?).map (·.2)

theorem lastProc_concat (sr sr' : Nat) (it : Item) (p : List (Nat × Item)) :
    lastProc sr (p ++ [(sr', it)]) = if sr' = sr then some it else lastProc sr p := by
  unfold lastProc
  by_cases h : sr' = sr
  · simp [List.filter_append, h]
  · simp [List.filter_append, h]

/-- **the cut**: what a snapshot `S` with id `id` must satisfy when, since the deployment started with keyed state
`base` and keyed events `u0` waiting in the batcher, the consumer took `p` and the handler received `a` -/
def Cut (k : Nat) (base : KVf) (u0 : List (Nat × Bytes × Nat × Nat)) (p : List (Nat × Item)) (a : List Entry)
    (id : Nat) (S : KVf) : Prop :=
  S = a.foldl applyRec base ∧ userOf a = u0 ++ userProcs p ∧ ∀ sr, sr < k → lastProc sr p = some (.bar id)

/-- trace checker: every snapshot in the trace is a consistent cut of what precedes it -/
def cutOK (k : Nat) (base : KVf) (u0 : List (Nat × Bytes × Nat × Nat)) :
    List (Nat × Item) → List Entry → List Obs → Prop
  | _, _, [] => True
  | p, a, .aligned _ _ :: r => cutOK k base u0 p a r
  | p, a, .busy _ :: r => cutOK k base u0 p a r
  | p, a, .proc sr it :: r => cutOK k base u0 (p ++ [(sr, it)]) a r
  | p, a, .handler es _ _ :: r => cutOK k base u0 p (a ++ es) r
  | p, a, .fired _ _ :: r => cutOK k base u0 p a r
  | p, a, .reg _ _ :: r => cutOK k base u0 p a r
  | p, a, .reject _ _ _ :: r => cutOK k base u0 p a r
  | p, a, .snap id S _ :: r => Cut k base u0 p a id S ∧ cutOK k base u0 p a r
  | p, a, .ack _ :: r => cutOK k base u0 p a r
  | p, a, .released _ :: r => cutOK k base u0 p a r
  | p, a, .ackfail _ :: r => cutOK k base u0 p a r
  | p, a, .completed _ :: r => cutOK k base u0 p a r
  | p, a, .stopped :: r => cutOK k base u0 p a r
  | p, a, .redeployed _ :: r => cutOK k base u0 p a r

def cutChk (k : Nat) (base : KVf) (u0 : List (Nat × Bytes × Nat × Nat)) (p : List (Nat × Item)) (a : List Entry) :
    Obs → Prop
  | .snap id S _ => Cut k base u0 p a id S
  | _ => True

theorem cutOK_cons (k : Nat) (base : KVf) (u0) (p : List (Nat × Item)) (a : List Entry) (x : Obs) (r : List Obs) :
    cutOK k base u0 p a (x :: r) ↔ cutChk k base u0 p a x ∧ cutOK k base u0 (p ++ x.procs) (a ++ x.entries) r := by
  have other : cutOK k base u0 p a r ↔ True ∧ cutOK k base u0 (p ++ []) (a ++ []) r := by
    rw [List.append_nil, List.append_nil, true_and]
  cases x with
  | snap id S T =>
    show _ ∧ _ ↔ _ ∧ cutOK k base u0 (p ++ []) (a ++ []) r
    rw [List.append_nil, List.append_nil]
    exact Iff.rfl
  | proc sr it =>
    show _ ↔ True ∧ cutOK k base u0 (p ++ [(sr, it)]) (a ++ []) r
    rw [List.append_nil, true_and]
    exact Iff.rfl
  | handler es w g =>
    show _ ↔ True ∧ cutOK k base u0 (p ++ []) (a ++ es) r
    rw [List.append_nil, true_and]
    exact Iff.rfl
  | _ => exact other

theorem cutOK_append (k : Nat) (base : KVf) (u0) (p : List (Nat × Item)) (a : List Entry) (o1 o2 : List Obs) :
    cutOK k base u0 p a (o1 ++ o2) ↔
      cutOK k base u0 p a o1 ∧ cutOK k base u0 (p ++ procsOf o1) (a ++ entriesOf o1) o2 := by
  induction o1 generalizing p a with
  | nil =>
    show _ ↔ True ∧ cutOK k base u0 (p ++ []) (a ++ []) o2
    rw [List.append_nil, List.append_nil, true_and]
    exact Iff.rfl
  | cons x r ih =>
    rw [List.cons_append, cutOK_cons, cutOK_cons, ih, procsOf_cons, entriesOf_cons, List.append_assoc,
      List.append_assoc, and_assoc]

theorem cutOK_split {k : Nat} {base : KVf} {u0} {p : List (Nat × Item)} {a : List Entry} {pre post : List Obs}
    {id : Nat} {S : KVf} {T : Timers} (h : cutOK k base u0 p a (pre ++ .snap id S T :: post)) :
    Cut k base u0 (p ++ procsOf pre) (a ++ entriesOf pre) id S := by
  rw [cutOK_append] at h
  exact h.2.1

/-- trace checker for the alignment discipline: a sender whose barrier was accepted is not served again before
the snapshot, and a snapshot `id` is only taken when every sender's barrier `id` was accepted since the previous one -/
def alignOK (k : Nat) : List (Nat × Nat) → List Obs → Prop
  | _, [] => True
  | g, .aligned _ _ :: r => alignOK k g r
  | g, .busy _ :: r => alignOK k g r
  | g, .proc sr _ :: r => (∀ i, (sr, i) ∉ g) ∧ alignOK k g r
  | g, .handler _ _ _ :: r => alignOK k g r
  | g, .fired _ _ :: r => alignOK k g r
  | g, .reg sr id :: r => (∀ i, (sr, i) ∉ g) ∧ alignOK k ((sr, id) :: g) r
  | g, .reject _ _ _ :: r => alignOK k g r
  | g, .snap id _ _ :: r => (∀ sr, sr < k → (sr, id) ∈ g) ∧ alignOK k [] r
  | g, .ack _ :: r => alignOK k g r
  | g, .released _ :: r => alignOK k g r
  | g, .ackfail _ :: r => alignOK k g r
  | g, .completed _ :: r => alignOK k g r
  | g, .stopped :: r => alignOK k g r
  | g, .redeployed _ :: r => alignOK k g r

def alignChk (k : Nat) (g : List (Nat × Nat)) : Obs → Prop
  | .proc sr _ => ∀ i, (sr, i) ∉ g
  | .reg sr _ => ∀ i, (sr, i) ∉ g
  | .snap id _ _ => ∀ sr, sr < k → (sr, id) ∈ g
  | _ => True

theorem alignOK_cons (k : Nat) (g : List (Nat × Nat)) (x : Obs) (r : List Obs) :
    alignOK k g (x :: r) ↔ alignChk k g x ∧ alignOK k (gotStep g x) r := by
  cases x with
  | proc _ _ => exact Iff.rfl
  | reg _ _ => exact Iff.rfl
  | snap _ _ _ => exact Iff.rfl
  | _ => exact ⟨fun h => ⟨trivial, h⟩, And.right⟩

theorem alignOK_append (k : Nat) (g : List (Nat × Nat)) (o1 o2 : List Obs) :
    alignOK k g (o1 ++ o2) ↔ alignOK k g o1 ∧ alignOK k (gotOf g o1) o2 := by
  induction o1 generalizing g with
  | nil => exact ⟨fun h => ⟨trivial, h⟩, And.right⟩
  | cons x r ih => rw [List.cons_append, alignOK_cons, alignOK_cons, gotOf_cons, ih, and_assoc]

def timerChk (c : Timers) : Obs → Prop
  | .snap _ _ T => T = c
  | _ => True

/-- trace checker: every snapshot holds exactly the replayed timer store -/
def timersOK : Timers → List Obs → Prop
  | _, [] => True
  | c, x :: r => timerChk c x ∧ timersOK (timerStep c x) r

theorem timersOK_cons (c : Timers) (x : Obs) (r : List Obs) :
    timersOK c (x :: r) ↔ timerChk c x ∧ timersOK (timerStep c x) r := Iff.rfl

theorem timersOK_append (c : Timers) (o1 o2 : List Obs) :
    timersOK c (o1 ++ o2) ↔ timersOK c o1 ∧ timersOK (timersOf c o1) o2 := by
  induction o1 generalizing c with
  | nil => exact ⟨fun h => ⟨trivial, h⟩, And.right⟩
  | cons x r ih => rw [List.cons_append, timersOK_cons, timersOK_cons, timersOf_cons, ih, and_assoc]

theorem timersOK_split {c : Timers} {pre post : List Obs} {id : Nat} {S : KVf} {T : Timers}
    (h : timersOK c (pre ++ .snap id S T :: post)) : T = timersOf c pre := by
  rw [timersOK_append] at h
  exact h.2.1

/-- observations that only contain handler calls and (ghost) timer firings -/
def OnlyH (o : List Obs) : Prop := ∀ x ∈ o, (∃ es w g, x = Obs.handler es w g) ∨ (∃ key ts, x = Obs.fired key ts)

/-- observations of the consumer's event functions: no call starts, no item is taken, no redeploy -/
def Quiet (o : List Obs) : Prop :=
  ∀ x ∈ o, (∀ sr b, x ≠ Obs.aligned sr b) ∧ (∀ sr it, x ≠ Obs.proc sr it) ∧ ∀ l, x ≠ Obs.redeployed l

theorem Quiet.nil : Quiet [] := List.forall_mem_nil _

/-- for a concrete `x` other than the three kinds excluded the inequalities are `nofun` -/
theorem Quiet.cons {x : Obs} {r : List Obs}
    (hx : (∀ sr b, x ≠ Obs.aligned sr b) ∧ (∀ sr it, x ≠ Obs.proc sr it) ∧ ∀ l, x ≠ Obs.redeployed l) (h : Quiet r) :
    Quiet (x :: r) :=
  List.forall_mem_cons.mpr ⟨hx, h⟩

theorem Quiet.append {a b : List Obs} (ha : Quiet a) (hb : Quiet b) : Quiet (a ++ b) :=
  List.forall_mem_append.mpr ⟨ha, hb⟩

theorem quiet_of_forall {o : List Obs}
    (h : ∀ x ∈ o, (∀ sr b, x ≠ Obs.aligned sr b) ∧ (∀ sr it, x ≠ Obs.proc sr it) ∧ ∀ l, x ≠ Obs.redeployed l) :
    Quiet o := h

theorem forall_mem_induct {α : Type} {Q : α → Prop} {P : List α → Prop} (nil : P [])
    (cons : ∀ x r, Q x → P r → P (x :: r)) : ∀ {o : List α}, (∀ x ∈ o, Q x) → P o
  | [], _ => nil
  | x :: _, h =>
    cons x _ (h x List.mem_cons_self) (forall_mem_induct nil cons fun y hy => h y (List.mem_cons_of_mem _ hy))

theorem Quiet.procsOf_eq_nil {o : List Obs} (h : Quiet o) : procsOf o = [] := by
  refine forall_mem_induct (P := fun o => procsOf o = []) rfl (fun x r hx ih => ?_) h
  cases x with
  | proc sr it => exact absurd rfl (hx.2.1 sr it)
  | _ => exact ih

theorem OnlyH.nil : OnlyH [] := List.forall_mem_nil _

theorem OnlyH.append {a b : List Obs} (ha : OnlyH a) (hb : OnlyH b) : OnlyH (a ++ b) :=
  List.forall_mem_append.mpr ⟨ha, hb⟩

theorem OnlyH.cons_handler {es w g} {r : List Obs} (h : OnlyH r) : OnlyH (Obs.handler es w g :: r) :=
  List.forall_mem_cons.mpr ⟨Or.inl ⟨_, _, _, rfl⟩, h⟩

theorem OnlyH.cons_fired {key ts} {r : List Obs} (h : OnlyH r) : OnlyH (Obs.fired key ts :: r) :=
  List.forall_mem_cons.mpr ⟨Or.inr ⟨_, _, rfl⟩, h⟩

/-- on a `handler` or `fired` observation every projection and checker of a trace computes, so the users of this
induction say what each of the two does to them and nothing else -/
theorem OnlyH.induct {P : List Obs → Prop} (nil : P []) (handler : ∀ es w g r, P r → P (.handler es w g :: r))
    (fired : ∀ key ts r, P r → P (.fired key ts :: r)) {o : List Obs} (h : OnlyH o) : P o := by
  refine forall_mem_induct nil (fun x r hx ih => ?_) h
  rcases hx with ⟨es, w, g, rfl⟩ | ⟨key, ts, rfl⟩
  · exact handler es w g r ih
  · exact fired key ts r ih

theorem OnlyH.quiet {o : List Obs} (h : OnlyH o) : Quiet o :=
  h.induct Quiet.nil (fun _ _ _ _ => Quiet.cons ⟨nofun, nofun, nofun⟩) (fun _ _ _ => Quiet.cons ⟨nofun, nofun, nofun⟩)

theorem OnlyH.procsOf_eq_nil {o : List Obs} (h : OnlyH o) : procsOf o = [] := h.quiet.procsOf_eq_nil

theorem OnlyH.gotOf_eq {o : List Obs} (h : OnlyH o) (g : List (Nat × Nat)) : gotOf g o = g :=
  h.induct (P := fun o => gotOf g o = g) rfl (fun _ _ _ _ ih => ih) (fun _ _ _ ih => ih)

theorem OnlyH.cutOK {o : List Obs} (h : OnlyH o) (k : Nat) (base : KVf) (u0) (p : List (Nat × Item))
    (a : List Entry) : cutOK k base u0 p a o :=
  h.induct (P := fun o => ∀ a, Align.cutOK k base u0 p a o) (fun _ => trivial) (fun es _ _ _ ih a => ih (a ++ es))
    (fun _ _ _ ih => ih) a

theorem OnlyH.alignOK {o : List Obs} (h : OnlyH o) (k : Nat) (g : List (Nat × Nat)) : alignOK k g o :=
  h.induct (P := Align.alignOK k g) trivial (fun _ _ _ _ ih => ih) (fun _ _ _ ih => ih)

theorem OnlyH.timersOK {o : List Obs} (h : OnlyH o) (c : Timers) : timersOK c o :=
  h.induct (P := fun o => ∀ c, Align.timersOK c o) (fun _ => trivial) (fun _ _ _ _ ih _ => ⟨trivial, ih _⟩)
    (fun _ _ _ ih _ => ⟨trivial, ih _⟩) c

theorem mem_gotOf_of_mem {y : Nat × Nat} : ∀ (o : List Obs) (g : List (Nat × Nat)),
    (∀ id S T, Obs.snap id S T ∉ o) → y ∈ g → y ∈ gotOf g o := by
  intro o
  induction o with
  | nil => intro g _ hy; exact hy
  | cons x r ih =>
    intro g hs hy
    rw [gotOf_cons]
    refine ih _ (fun id S T hm => hs id S T (List.mem_cons_of_mem _ hm)) ?_
    cases x with
    | snap id S T => exact absurd List.mem_cons_self (hs id S T)
    | reg sr id => exact List.mem_cons_of_mem _ hy
    | _ => exact hy

theorem mem_gotOf {y : Nat × Nat} : ∀ (o : List Obs) (g : List (Nat × Nat)),
    y ∈ gotOf g o → y ∈ g ∨ Obs.reg y.1 y.2 ∈ o := by
  intro o
  induction o with
  | nil => intro g h; exact Or.inl h
  | cons x r ih =>
    intro g h
    rw [gotOf_cons] at h
    rcases ih _ h with h | h
    · cases x with
      | snap id S T => cases h
      | reg sr id =>
        rcases List.mem_cons.mp h with rfl | h
        · exact Or.inr List.mem_cons_self
        · exact Or.inl h
      | _ => exact Or.inl h
    · exact Or.inr (List.mem_cons_of_mem _ h)

/-- between an accepted barrier of `sr` and the next item of `sr` the consumer takes there is a snapshot -/
theorem alignOK_blocked {k : Nat} {sr : Nat} {it : Item} : ∀ (mid : List Obs) (g : List (Nat × Nat))
    (post : List Obs), (∃ i, (sr, i) ∈ g) → alignOK k g (mid ++ .proc sr it :: post) →
    ∃ id S T, Obs.snap id S T ∈ mid := by
  intro mid g post ⟨i, hi⟩ h
  rw [alignOK_append, alignOK_cons] at h
  exact Classical.byContradiction fun hs =>
    h.2.1 i (mem_gotOf_of_mem mid g (fun id S T hm => hs ⟨id, S, T, hm⟩) hi)

/-- a snapshot `id` needs an accepted barrier `id` of every sender since the previous snapshot -/
theorem alignOK_fresh {k : Nat} {id : Nat} {S : KVf} {T : Timers} : ∀ (mid : List Obs) (g : List (Nat × Nat))
    (post : List Obs), alignOK k g (mid ++ .snap id S T :: post) →
    ∀ sr, sr < k → (sr, id) ∉ g → Obs.reg sr id ∈ mid := by
  intro mid g post h sr hsr hg
  rw [alignOK_append, alignOK_cons] at h
  exact (mem_gotOf mid g (h.2.1 sr hsr)).resolve_left hg

def UniqueKeys (g : List (Nat × Nat)) : Prop := ∀ x i j, (x, i) ∈ g → (x, j) ∈ g → i = j

theorem uniqueKeys_nil : UniqueKeys [] := by intro x i j h; cases h

theorem UniqueKeys.cons {g : List (Nat × Nat)} (h : UniqueKeys g) {x i : Nat} (hx : ∀ j, (x, j) ∉ g) :
    UniqueKeys ((x, i) :: g) := by
  intro y a b ha hb
  rcases List.mem_cons.mp ha with ha | ha
  · simp only [Prod.mk.injEq] at ha
    rcases List.mem_cons.mp hb with hb | hb
    · simp only [Prod.mk.injEq] at hb
      rw [ha.2, hb.2]
    · exact absurd hb (ha.1 ▸ hx b)
  · rcases List.mem_cons.mp hb with hb | hb
    · simp only [Prod.mk.injEq] at hb
      exact absurd ha (hb.1 ▸ hx a)
    · exact h y a b ha hb

theorem alignOK_uniqueKeys {k : Nat} : ∀ (o : List Obs) (g : List (Nat × Nat)), UniqueKeys g → alignOK k g o →
    UniqueKeys (gotOf g o) := by
  intro o
  induction o with
  | nil => intro g hu _; exact hu
  | cons x r ih =>
    intro g hu h
    rw [alignOK_cons] at h
    rw [gotOf_cons]
    refine ih _ ?_ h.2
    cases x with
    | reg x i => exact hu.cons h.1
    | snap id S T => exact uniqueKeys_nil
    | _ => exact hu

def Obs.isSnap : Obs → Bool
  | .snap _ _ _ => true
  | _ => false

/-- the first snapshot after the accepted barrier `id` of `sr` is snapshot `id` -/
theorem alignOK_blocked_id {k : Nat} {sr id : Nat} {it : Item} (hsr : sr < k) : ∀ (mid : List Obs)
    (g : List (Nat × Nat)) (post : List Obs), UniqueKeys g → (sr, id) ∈ g →
    alignOK k g (mid ++ .proc sr it :: post) →
    ∃ m1 S T m2, mid = m1 ++ Obs.snap id S T :: m2 ∧ ∀ id' S' T', Obs.snap id' S' T' ∉ m1 := by
  intro mid g post hu hg h
  obtain ⟨j, S, T, hm⟩ := alignOK_blocked mid g post ⟨id, hg⟩ h
  -- `mid` is split at its first snapshot `x`
  obtain ⟨x, hx⟩ := Option.isSome_iff_exists.mp
    (List.find?_isSome.mpr ⟨_, hm, (rfl : (Obs.snap j S T).isSnap = true)⟩)
  obtain ⟨hsnap, m1, m2, rfl, hn⟩ := List.find?_eq_some_iff_append.mp hx
  have hn' : ∀ id' S' T', Obs.snap id' S' T' ∉ m1 := fun _ _ _ hin => Bool.false_ne_true (hn _ hin)
  cases x with
  | snap id' S' T' =>
    rw [List.append_assoc, alignOK_append, List.cons_append, alignOK_cons] at h
    -- at snapshot `id'` the barrier `id` of `sr` is still accepted, and `sr` has one accepted barrier
    have hid : id' = id := alignOK_uniqueKeys m1 g hu h.1 sr id' id (h.2.1 sr hsr) (mem_gotOf_of_mem m1 g hn' hg)
    exact ⟨m1, S', T', m2, by rw [hid], hn'⟩
  | _ => cases hsnap

theorem mem_insertTimer {x y : Nat × Bytes} {l : Timers} (h : y ∈ insertTimer x l) : y = x ∨ y ∈ l := by
  induction l with
  | nil => exact Or.inl (List.mem_singleton.mp h)
  | cons z r ih =>
    have h : y ∈ if x = z then z :: r else if timerLt x z then x :: z :: r else z :: insertTimer x r := h
    split at h
    · exact Or.inr h
    · split at h
      · rcases List.mem_cons.mp h with h | h
        · exact Or.inl h
        · exact Or.inr h
      · rcases List.mem_cons.mp h with h | h
        · exact Or.inr (h ▸ List.mem_cons_self)
        · rcases ih h with h | h
          · exact Or.inl h
          · exact Or.inr (List.mem_cons_of_mem _ h)

theorem mem_setTimer_foldl {w : Nat} {y : Nat × Bytes} : ∀ (es : List Entry) (c : Timers),
    y ∈ es.foldl (setTimer w) c → y ∈ c ∨ ∃ sr p, Entry.user sr y.2 p y.1 ∈ es := by
  intro es
  induction es with
  | nil => intro c h; exact Or.inl h
  | cons e r ih =>
    intro c h
    simp only [List.foldl_cons] at h
    rcases ih _ h with h1 | ⟨sr, p, hm⟩
    · cases e with
      | user sr key p t =>
        simp only [setTimer] at h1
        split at h1
        · rcases mem_insertTimer h1 with rfl | h1
          · exact Or.inr ⟨sr, p, List.mem_cons_self⟩
          · exact Or.inl h1
        · exact Or.inl h1
      | timer sr key ts => exact Or.inl h1
    · exact Or.inr ⟨sr, p, List.mem_cons_of_mem _ hm⟩

theorem mem_timersOf {y : Nat × Bytes} : ∀ (obs : List Obs) (c : Timers),
    y ∈ timersOf c obs → y ∈ c ∨ ∃ sr p, Entry.user sr y.2 p y.1 ∈ entriesOf obs := by
  intro obs
  induction obs with
  | nil => intro c h; exact Or.inl h
  | cons x r ih =>
    intro c h
    rw [timersOf_cons] at h
    rw [entriesOf_cons]
    rcases ih _ h with h | ⟨sr, p, hm⟩
    · cases x with
      | handler es w gv =>
        rcases mem_setTimer_foldl es c h with h | ⟨sr, p, hm⟩
        · exact Or.inl h
        · exact Or.inr ⟨sr, p, List.mem_append_left _ hm⟩
      | fired key ts => exact Or.inl (List.mem_of_mem_erase h)
      | _ => exact Or.inl h
    · exact Or.inr ⟨sr, p, List.mem_append_right _ hm⟩

def awayStep (c : List Nat) : Obs → List Nat
  | .aligned sr _ => c.filter (· ≠ sr)
  | .redeployed l => l ++ c
  | _ => c

/-- senders turned away by a redeploy that have not started a new `HandleEvent` call since -/
def awayOf (c : List Nat) (o : List Obs) : List Nat := o.foldl awayStep c

def awayChk (c : List Nat) : Obs → Prop
  | .proc sr _ => sr ∉ c
  | _ => True

/-- trace checker: the consumer never takes an item of a sender that was turned away and has not called again -/
def awayOK : List Nat → List Obs → Prop
  | _, [] => True
  | c, x :: r => awayChk c x ∧ awayOK (awayStep c x) r

theorem awayOf_cons (c : List Nat) (x : Obs) (r : List Obs) : awayOf c (x :: r) = awayOf (awayStep c x) r := rfl

theorem awayOK_cons (c : List Nat) (x : Obs) (r : List Obs) :
    awayOK c (x :: r) ↔ awayChk c x ∧ awayOK (awayStep c x) r := Iff.rfl

theorem awayOf_append (c : List Nat) (a b : List Obs) : awayOf c (a ++ b) = awayOf (awayOf c a) b :=
  List.foldl_append

theorem awayOK_append (c : List Nat) (o1 o2 : List Obs) :
    awayOK c (o1 ++ o2) ↔ awayOK c o1 ∧ awayOK (awayOf c o1) o2 := by
  induction o1 generalizing c with
  | nil => exact ⟨fun h => ⟨trivial, h⟩, And.right⟩
  | cons x r ih => rw [List.cons_append, awayOK_cons, awayOK_cons, awayOf_cons, ih, and_assoc]

theorem Quiet.away {o : List Obs} (h : Quiet o) (c : List Nat) : awayOf c o = c ∧ awayOK c o := by
  refine forall_mem_induct (P := fun o => awayOf c o = c ∧ awayOK c o) ⟨rfl, trivial⟩ (fun x r ⟨h1, h2, h3⟩ ih => ?_) h
  cases x with
  | aligned sr b => exact absurd rfl (h1 sr b)
  | redeployed l => exact absurd rfl (h3 l)
  | proc sr it => exact absurd rfl (h2 sr it)
  | _ => exact ⟨ih.1, trivial, ih.2⟩

theorem mem_awayOf_of_mem {sr : Nat} : ∀ (o : List Obs) (c : List Nat), (∀ b, Obs.aligned sr b ∉ o) → sr ∈ c →
    sr ∈ awayOf c o := by
  intro o
  induction o with
  | nil => intro c _ hc; exact hc
  | cons x r ih =>
    intro c hn hc
    refine ih _ (fun b hm => hn b (List.mem_cons_of_mem _ hm)) ?_
    cases x with
    | aligned x b =>
      refine List.mem_filter.mpr ⟨hc, ?_⟩
      have : sr ≠ x := fun e => hn b (e ▸ List.mem_cons_self)
      simpa using this
    | redeployed l => exact List.mem_append_right _ hc
    | _ => exact hc

/-- after a sender was turned away by a redeploy, the consumer takes an item of it only after it started a new call -/
theorem awayOK_new_call {sr : Nat} {it : Item} : ∀ (mid : List Obs) (c : List Nat) (post : List Obs),
    sr ∈ c → awayOK c (mid ++ .proc sr it :: post) → ∃ b, Obs.aligned sr b ∈ mid := by
  intro mid c post hc h
  rw [awayOK_append] at h
  exact Classical.byContradiction fun hn =>
    h.2.1 (mem_awayOf_of_mem mid c (fun b hm => hn ⟨b, hm⟩) hc)

/-! ## the first cut of a trace, as data (for counterexamples by evaluation) -/

/-- at the first snapshot: the keyed events the handler had received, and the keyed events the consumer had taken -/
def firstCut (obs : List Obs) : Option (List (Nat × Bytes × Nat × Nat) × List (Nat × Bytes × Nat × Nat)) :=
  (obs.find? Obs.isSnap).map fun _ =>
    let pre := obs.takeWhile (!·.isSnap)
    (userOf (entriesOf pre), userProcs (procsOf pre))

theorem firstCut_spec : ∀ (obs : List Obs) (u v), firstCut obs = some (u, v) →
    ∃ pre id S T post, obs = pre ++ Obs.snap id S T :: post ∧ u = userOf (entriesOf pre) ∧
      v = userProcs (procsOf pre) := by
  intro obs u v h
  obtain ⟨x, hx, e⟩ := Option.map_eq_some_iff.mp h
  obtain ⟨hsnap, pre, post, rfl, hpre⟩ := List.find?_eq_some_iff_append.mp hx
  rw [List.takeWhile_append_of_pos hpre, List.takeWhile_cons_of_neg (by rw [hsnap]; decide), List.append_nil] at e
  cases x with
  | snap id S T => exact ⟨pre, id, S, T, post, rfl, (congrArg Prod.fst e).symm, (congrArg Prod.snd e).symm⟩
  | _ => cases hsnap

def seenStep (seen : List Nat) : Obs → List Nat
  | .aligned sr _ => sr :: seen
  | _ => seen

/-- trace checker (as data): every item the consumer takes was handed in by a call that started in this trace -/
def deliveredHere : List Nat → List Obs → Bool
  | _, [] => true
  | seen, x :: r => x.procs.all (fun y => seen.contains y.1) && deliveredHere (seenStep seen x) r

theorem deliveredHere_false : ∀ (obs : List Obs) (seen : List Nat), deliveredHere seen obs = false →
    ∃ pre sr it post, obs = pre ++ Obs.proc sr it :: post ∧ sr ∉ seen ∧ ∀ b, Obs.aligned sr b ∉ pre := by
  intro obs
  induction obs with
  | nil => intro seen h; cases h
  | cons x r ih =>
    intro seen h
    have h : (x.procs.all (fun y => seen.contains y.1) && deliveredHere (seenStep seen x) r) = false := h
    rcases Bool.and_eq_false_iff.mp h with h | h
    · cases x with
      | proc sr it => exact ⟨[], sr, it, r, rfl, by simpa [Obs.procs] using h, fun b hin => nomatch hin⟩
      | _ => cases h
    · obtain ⟨pre, sr, it, post, e, hn, hna⟩ := ih _ h
      have hsub : ∀ y ∈ seen, y ∈ seenStep seen x := by
        cases x with
        | aligned => exact fun y hy => List.mem_cons_of_mem _ hy
        | _ => exact fun y hy => hy
      refine ⟨x :: pre, sr, it, post, by rw [e]; rfl, fun hin => hn (hsub sr hin), ?_⟩
      intro b hin
      rcases List.mem_cons.mp hin with rfl | hin
      · exact hn List.mem_cons_self
      · exact hna b hin

end Rxn.Align
