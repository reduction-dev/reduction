import RxnModel.Model.Lsm
import RxnModel.Base.BytesOrder
import RxnModel.Proofs.Lists
/-! The refinement invariant of the DKV model (C07): the containers of a state (memtables and tables) in the order a
point read visits them, each a sorted run, the first hit among them being the last write. Every successful step keeps
it, so a point read, in one step or parked between its phases, returns the last write. -/
namespace Rxn.Lsm
open Rxn

namespace Run

def Sorted (r : Run) : Prop := r.Pairwise (fun a b => Bytes.lt a.key b.key = true)

theorem sorted_nil : Sorted [] := List.Pairwise.nil

theorem lookup_cons (x : Entry) (xs : Run) (k : Bytes) :
    lookup (x :: xs) k = if x.key = k then some x else lookup xs k := rfl

theorem lt_of_lt_head {x : Entry} {xs : Run} {k : Bytes} (hs : Sorted (x :: xs)) (h : Bytes.cmp k x.key = .lt) :
    ∀ e ∈ x :: xs, Bytes.lt k e.key = true := by
  have hk := Bytes.lt_iff_cmp.mpr h
  intro e he
  rcases List.mem_cons.mp he with rfl | he
  · exact hk
  · exact Bytes.lt_trans hk ((List.pairwise_cons.mp hs).1 e he)

theorem lookup_some_mem {r : Run} {k : Bytes} {e : Entry} (h : lookup r k = some e) : e ∈ r ∧ e.key = k := by
  induction r with
  | nil => cases h
  | cons x xs ih =>
    rw [lookup_cons] at h
    split at h
    · cases h; exact ⟨List.mem_cons_self, by assumption⟩
    · have := ih h; exact ⟨List.mem_cons_of_mem _ this.1, this.2⟩

theorem lookup_none_iff {r : Run} {k : Bytes} : lookup r k = none ↔ ∀ e ∈ r, e.key ≠ k := by
  induction r with
  | nil => exact ⟨fun _ e he => (nomatch he), fun _ => rfl⟩
  | cons x xs ih =>
    rw [lookup_cons, List.forall_mem_cons]
    by_cases h : x.key = k
    · rw [if_pos h]; exact ⟨nofun, fun h' => absurd h h'.1⟩
    · rw [if_neg h, ih]; exact ⟨fun h' => ⟨h, h'⟩, fun h' => h'.2⟩

theorem lookup_none_of_lt_head {x : Entry} {xs : Run} {k : Bytes} (hs : Sorted (x :: xs))
    (h : Bytes.cmp k x.key = .lt) : lookup (x :: xs) k = none :=
  lookup_none_iff.mpr fun e he => (Bytes.ne_of_lt (lt_of_lt_head hs h e he)).symm

theorem lookup_of_mem {r : Run} {e : Entry} (hs : Sorted r) (h : e ∈ r) : lookup r e.key = some e := by
  induction r with
  | nil => cases h
  | cons x xs ih =>
    rw [lookup_cons]
    rcases List.mem_cons.mp h with rfl | hmem
    · exact if_pos rfl
    · rw [if_neg (Bytes.ne_of_lt ((List.pairwise_cons.mp hs).1 e hmem))]
      exact ih (List.Pairwise.of_cons hs) hmem

theorem insert_cons (y : Entry) (ys : Run) (e : Entry) : insert (y :: ys) e =
    match Bytes.cmp e.key y.key with
    | .lt => e :: y :: ys
    | .eq => e :: ys
    | .gt => y :: insert ys e := rfl

theorem insert_mem {r : Run} {e x : Entry} : x ∈ insert r e → x = e ∨ x ∈ r := by
  induction r with
  | nil => intro h; exact Or.inl (List.mem_singleton.mp h)
  | cons y ys ih =>
    intro h
    rw [insert_cons] at h
    split at h
    · exact List.mem_cons.mp h
    · exact (List.mem_cons.mp h).imp_right (List.mem_cons_of_mem _)
    · rcases List.mem_cons.mp h with rfl | h
      · exact Or.inr List.mem_cons_self
      · exact (ih h).imp_right (List.mem_cons_of_mem _)

theorem insert_mem_self (r : Run) (e : Entry) : e ∈ insert r e := by
  induction r with
  | nil => exact List.mem_singleton_self e
  | cons y ys ih =>
    rw [insert_cons]
    split
    · exact List.mem_cons_self
    · exact List.mem_cons_self
    · exact List.mem_cons_of_mem _ ih

theorem insert_sorted {r : Run} (e : Entry) (hs : Sorted r) : Sorted (insert r e) := by
  induction r with
  | nil => exact List.pairwise_singleton _ _
  | cons y ys ih =>
    have hy := List.pairwise_cons.mp hs
    rw [insert_cons]
    split
    · next hc => exact List.pairwise_cons.mpr ⟨lt_of_lt_head hs hc, hs⟩
    · next hc => exact List.pairwise_cons.mpr ⟨fun z hz => Bytes.cmp_eq_iff.mp hc ▸ hy.1 z hz, hy.2⟩
    · next hc =>
      have hlt : Bytes.lt y.key e.key = true := Bytes.lt_iff_cmp.mpr (Bytes.cmp_gt_iff_lt.mp hc)
      refine List.pairwise_cons.mpr ⟨fun z hz => ?_, ih hy.2⟩
      rcases insert_mem hz with rfl | h
      · exact hlt
      · exact hy.1 z h

theorem lookup_insert (r : Run) (e : Entry) (k : Bytes) :
    lookup (insert r e) k = if e.key = k then some e else lookup r k := by
  induction r with
  | nil => rfl
  | cons y ys ih =>
    rw [insert_cons]
    split
    · rfl
    · next hc =>
      rw [lookup_cons, lookup_cons, ← Bytes.cmp_eq_iff.mp hc]
      by_cases hk : e.key = k
      · rw [if_pos hk, if_pos hk]
      · rw [if_neg hk, if_neg hk, if_neg hk]
    · next hc =>
      have hne : y.key ≠ e.key := fun h => by rw [h, Bytes.cmp_self] at hc; cases hc
      rw [lookup_cons, lookup_cons, ih]
      by_cases hyk : y.key = k
      · rw [if_pos hyk, if_pos hyk, if_neg fun h => hne (hyk.trans h.symm)]
      · rw [if_neg hyk, if_neg hyk]

theorem lookup_append (a b : Run) (k : Bytes) :
    (a ++ b).lookup k = match a.lookup k with
      | some e => some e
      | none => b.lookup k := by
  induction a with
  | nil => rfl
  | cons x xs ih =>
    rw [List.cons_append, lookup_cons, lookup_cons]
    split
    · rfl
    · exact ih

end Run

theorem run_sorted_ext {a b : Run} (ha : a.Sorted) (hb : b.Sorted) (h : ∀ x, x ∈ a ↔ x ∈ b) : a = b :=
  eq_of_pairwise_of_mem_iff (fun _ _ hxy hyx => Bool.false_ne_true ((Bytes.lt_asymm hxy).symm.trans hyx)) ha hb h

theorem firstSome_append {α β : Type} (f : α → Option β) (xs ys : List α) :
    firstSome f (xs ++ ys) = match firstSome f xs with
      | some y => some y
      | none => firstSome f ys := by
  induction xs with
  | nil => simp [firstSome]
  | cons x xs ih =>
    simp only [List.cons_append, firstSome]
    cases f x <;> simp [ih]

theorem firstSome_map {α β γ : Type} (g : α → β) (f : β → Option γ) (xs : List α) :
    firstSome f (xs.map g) = firstSome (fun x => f (g x)) xs := by
  induction xs with
  | nil => rfl
  | cons x xs ih => simp only [List.map_cons, firstSome, ih]

theorem firstSome_flatten {α β : Type} (f : α → Option β) (xss : List (List α)) :
    firstSome f xss.flatten = firstSome (fun xs => firstSome f xs) xss := by
  induction xss with
  | nil => rfl
  | cons xs xss ih =>
    simp only [List.flatten_cons, firstSome_append, firstSome, ih]
    cases firstSome f xs <;> rfl

theorem firstSome_congr {α β : Type} (f g : α → Option β) (xs : List α) (h : ∀ x ∈ xs, f x = g x) :
    firstSome f xs = firstSome g xs := by
  induction xs with
  | nil => rfl
  | cons x xs ih =>
    simp only [firstSome, h x List.mem_cons_self]
    rw [ih (fun y hy => h y (List.mem_cons_of_mem _ hy))]

theorem firstSome_eq_none {α β : Type} (f : α → Option β) (xs : List α) :
    firstSome f xs = none ↔ ∀ x ∈ xs, f x = none := by
  induction xs with
  | nil => simp [firstSome]
  | cons x xs ih =>
    simp only [firstSome, List.mem_cons, forall_eq_or_imp]
    cases hx : f x with
    | none => simp [ih]
    | some y => simp

theorem firstSome_some {α β : Type} {f : α → Option β} {xs : List α} {y : β} (h : firstSome f xs = some y) :
    ∃ x ∈ xs, f x = some y := by
  induction xs with
  | nil => cases h
  | cons x xs ih =>
    rw [firstSome] at h
    cases hx : f x with
    | some z => rw [hx] at h; exact ⟨x, List.mem_cons_self, hx.trans h⟩
    | none =>
      rw [hx] at h
      obtain ⟨x', hx', hy⟩ := ih h
      exact ⟨x', List.mem_cons_of_mem _ hx', hy⟩

theorem firstSome_filter {α β : Type} (f : α → Option β) (q : α → Bool) (h : ∀ x, q x = false → f x = none) :
    ∀ l : List α, firstSome f (l.filter q) = firstSome f l
  | [] => rfl
  | x :: l => by
    rw [List.filter_cons]
    cases hq : q x with
    | true => rw [if_pos rfl, firstSome, firstSome, firstSome_filter f q h l]
    | false => rw [if_neg Bool.false_ne_true, firstSome, h x hq, firstSome_filter f q h l]

/-- all runs in the order a point lookup visits them: memtables newest first, level 0 newest first, deeper levels -/
def containers (s : State) : List Run := s.mems.reverse ++ (readOrder s.levels).map (·.run)

def firstHit (cs : List Run) (k : Bytes) : Option Entry := firstSome (fun r => r.lookup k) cs

theorem firstHit_flatten (cs : List Run) (k : Bytes) : firstHit cs k = Run.lookup cs.flatten k := by
  induction cs with
  | nil => rfl
  | cons r rs ih =>
    rw [firstHit, firstSome, List.flatten_cons, Run.lookup_append]
    cases Run.lookup r k with
    | some e => rfl
    | none => exact ih

/-- a version of a key in a newer container has a larger sequence number than any in an older one -/
def NewerAbove : List Run → Prop
  | [] => True
  | r :: rs => (∀ e ∈ r, ∀ r' ∈ rs, ∀ e' ∈ r', e'.key = e.key → e'.seq < e.seq) ∧ NewerAbove rs

/-- at most one table of a (deeper) level has the key inside its range -/
def RangeUnique (l : List Tbl) : Prop :=
  l.Pairwise (fun a b => ∀ k, ¬ (a.rangeContainsKey k = true ∧ b.rangeContainsKey k = true))

/-- ascending by key range, disjoint -/
def Ordered (l : List Tbl) : Prop := l.Pairwise (fun a b => Bytes.lt a.endKey b.startKey = true)

structure Inv (s : State) (m : Spec) : Prop where
  mems_ne : s.mems ≠ []
  levels_ne : s.levels ≠ []
  sorted : ∀ r ∈ containers s, r.Sorted
  hit : ∀ k, firstHit (containers s) k = Spec.get m k
  seqBound : ∀ r ∈ containers s, ∀ e ∈ r, e.seq ≤ s.seq
  newer : NewerAbove (containers s)
  deep : ∀ l ∈ s.levels.tail, RangeUnique l

theorem newerAbove_iff_pairwise {cs : List Run} : NewerAbove cs ↔
    cs.Pairwise (fun r r' => ∀ e ∈ r, ∀ e' ∈ r', e'.key = e.key → e'.seq < e.seq) := by
  induction cs with
  | nil => exact ⟨fun _ => List.Pairwise.nil, fun _ => trivial⟩
  | cons r rs ih =>
    rw [List.pairwise_cons, NewerAbove, ih]
    exact and_congr_left' ⟨fun h r' hr' e he => h e he r' hr', fun h e he r' hr' => h r' hr' e he⟩

theorem newerAbove_append {xs ys : List Run} :
    NewerAbove (xs ++ ys) ↔ NewerAbove xs ∧ NewerAbove ys ∧
      ∀ r ∈ xs, ∀ e ∈ r, ∀ r' ∈ ys, ∀ e' ∈ r', e'.key = e.key → e'.seq < e.seq := by
  rw [newerAbove_iff_pairwise, newerAbove_iff_pairwise, newerAbove_iff_pairwise, List.pairwise_append]
  exact and_congr_right' (and_congr_right'
    ⟨fun h r hr e he r' hr' => h r hr r' hr' e he, fun h r hr r' hr' e he => h r hr e he r' hr'⟩)

theorem readOrder_mem (levels : List (List Tbl)) (t : Tbl) : t ∈ readOrder levels ↔ t ∈ levels.flatten := by
  cases levels with
  | nil => simp [readOrder]
  | cons l0 d => simp [readOrder]

theorem mem_containers_of_mem {s : State} {r : Run} (hr : r ∈ s.mems) : r ∈ containers s :=
  List.mem_append_left _ (List.mem_reverse.mpr hr)

theorem tbl_containers_of_mem {s : State} {t : Tbl} (ht : t ∈ s.levels.flatten) : t.run ∈ containers s :=
  List.mem_append_right _ (List.mem_map_of_mem ((readOrder_mem _ t).mpr ht))

theorem Inv.sorted_mems {s : State} {m : Spec} (h : Inv s m) : ∀ r ∈ s.mems, r.Sorted :=
  fun r hr => h.sorted r (mem_containers_of_mem hr)

theorem Inv.sorted_tbls {s : State} {m : Spec} (h : Inv s m) : ∀ t ∈ s.levels.flatten, t.run.Sorted :=
  fun t ht => h.sorted t.run (tbl_containers_of_mem ht)

theorem init_deep {l : List Tbl} (hl : l ∈ ({} : State).levels.tail) : l = [] :=
  List.eq_of_mem_replicate (show l ∈ List.replicate 5 [] from hl)

theorem inv_init : Inv {} [] := by
  have hc : ∀ {P : Run → Prop}, P [] → ∀ r ∈ containers {}, P r := fun h => List.forall_mem_singleton.mpr h
  refine ⟨nofun, nofun, hc Run.sorted_nil, fun k => rfl, hc nofun, ⟨nofun, trivial⟩, fun l hl => ?_⟩
  rw [init_deep hl]
  exact List.Pairwise.nil

theorem inv_write {s : State} {m : Spec} (h : Inv s m) (e : Entry) (he : e.seq = s.seq + 1)
    (active : Run) (sealedRev : List Run) (hm : s.mems.reverse = active :: sealedRev) :
    Inv { s with seq := s.seq + 1, mems := (active.insert e :: sealedRev).reverse } (e :: m) := by
  have hc : containers s = active :: (sealedRev ++ (readOrder s.levels).map (·.run)) := by
    rw [containers, hm]; rfl
  have hc' : containers { s with seq := s.seq + 1, mems := (active.insert e :: sealedRev).reverse } =
      active.insert e :: (sealedRev ++ (readOrder s.levels).map (·.run)) := by
    rw [containers, List.reverse_reverse]; rfl
  obtain ⟨hsA, hsR⟩ := List.forall_mem_cons.mp (hc ▸ h.sorted)
  obtain ⟨hbA, hbR⟩ := List.forall_mem_cons.mp (hc ▸ h.seqBound)
  obtain ⟨hnA, hnR⟩ : NewerAbove (active :: (sealedRev ++ (readOrder s.levels).map (·.run))) := hc ▸ h.newer
  refine ⟨List.reverse_ne_nil_iff.mpr (List.cons_ne_nil _ _), h.levels_ne, ?_, ?_, ?_, ?_, h.deep⟩
  · rw [hc']
    exact List.forall_mem_cons.mpr ⟨Run.insert_sorted e hsA, hsR⟩
  · intro k
    have hk := h.hit k
    rw [hc, firstHit, firstSome] at hk
    rw [hc', firstHit, firstSome, Run.lookup_insert, Spec.get, Run.lookup_cons]
    by_cases hke : e.key = k
    · rw [if_pos hke, if_pos hke]
    · rw [if_neg hke, if_neg hke]; exact hk
  · rw [hc']
    refine List.forall_mem_cons.mpr ⟨fun x hx => ?_, fun r hr x hx => Nat.le_succ_of_le (hbR r hr x hx)⟩
    rcases Run.insert_mem hx with rfl | hxa
    · exact Nat.le_of_eq he
    · exact Nat.le_succ_of_le (hbA x hxa)
  · rw [hc']
    refine ⟨fun x hx r' hr' x' hx' hk => ?_, hnR⟩
    -- the new entry is numbered above everything stored so far
    rcases Run.insert_mem hx with rfl | hxa
    · rw [he]; exact Nat.lt_succ_of_le (hbR r' hr' x' hx')
    · exact hnA x hxa r' hr' x' hx' hk

theorem inv_rotate {s : State} {m : Spec} (h : Inv s m) : Inv { s with mems := s.mems ++ [[]] } m := by
  have hc' : containers { s with mems := s.mems ++ [[]] } = [] :: containers s := by
    rw [containers, List.reverse_append]; rfl
  refine ⟨List.append_ne_nil_of_right_ne_nil _ (List.cons_ne_nil _ _), h.levels_ne, ?_, ?_, ?_, ?_, h.deep⟩
  all_goals rw [hc']
  · exact List.forall_mem_cons.mpr ⟨Run.sorted_nil, h.sorted⟩
  · exact h.hit
  · exact List.forall_mem_cons.mpr ⟨nofun, h.seqBound⟩
  · exact ⟨nofun, h.newer⟩

theorem Inv.of_containers {s s' : State} {m : Spec} (h : Inv s m) (hc : containers s' = containers s)
    (hq : s'.seq = s.seq) (hm : s'.mems ≠ []) (hl : s'.levels ≠ []) (hd : ∀ l ∈ s'.levels.tail, RangeUnique l) :
    Inv s' m :=
  ⟨hm, hl, hc ▸ h.sorted, hc ▸ h.hit, by rw [hc, hq]; exact h.seqBound, hc ▸ h.newer, hd⟩

theorem Inv.of_eq {s s' : State} {m : Spec} (h : Inv s m) (hm : s'.mems = s.mems) (hl : s'.levels = s.levels)
    (hq : s'.seq = s.seq) : Inv s' m :=
  h.of_containers (by unfold containers; rw [hm, hl]) hq (hm ▸ h.mems_ne) (hl ▸ h.levels_ne) (hl ▸ h.deep)

theorem mkTables_nil (start : Nat) : mkTables start [] = [] := rfl

theorem mkTables_cons (start : Nat) (r : Run) (rs : List Run) :
    mkTables start (r :: rs) = ⟨start, r⟩ :: mkTables (start + 1) rs := by
  have hshift : ∀ i, start + 1 + i = start + (i + 1) := fun i => by omega
  simp only [mkTables, List.length_cons, List.range_succ_eq_map, List.zipWith_cons_cons,
    List.zipWith_map_left, Nat.add_zero, hshift]

theorem mkTables_map_run (start : Nat) (runs : List Run) : (mkTables start runs).map (·.run) = runs := by
  induction runs generalizing start with
  | nil => rfl
  | cons r rs ih => rw [mkTables_cons, List.map_cons, ih]

theorem mkTables_run_mem {n : Nat} {add : List Run} {t : Tbl} (h : t ∈ mkTables n add) : t.run ∈ add := by
  have : t.run ∈ (mkTables n add).map (·.run) := List.mem_map.mpr ⟨t, h, rfl⟩
  rwa [mkTables_map_run] at this

theorem mkTables_ids (n : Nat) (runs : List Run) : (mkTables n runs).map (·.id) = List.range' n runs.length := by
  induction runs generalizing n with
  | nil => rfl
  | cons r rs ih => rw [mkTables_cons, List.map_cons, ih, List.length_cons, List.range'_succ]

theorem mkTables_id_mem {n : Nat} {runs : List Run} {t : Tbl} (ht : t ∈ mkTables n runs) :
    n ≤ t.id ∧ t.id < n + runs.length := by
  have : t.id ∈ (mkTables n runs).map (·.id) := List.mem_map.mpr ⟨t, ht, rfl⟩
  rw [mkTables_ids] at this
  exact List.mem_range'_1.mp this

theorem addAt_ne_nil {L : List (List Tbl)} (h : L ≠ []) (lvl : Nat) (ts : List Tbl) : addAt L lvl ts ≠ [] :=
  fun h' => h (List.modify_eq_nil_iff.mp h')

theorem addAt_zero_tail (L : List (List Tbl)) (ts : List Tbl) : (addAt L 0 ts).tail = L.tail := by
  cases L <;> rfl

theorem mem_addAt (ts : List Tbl) : ∀ (levels : List (List Tbl)) (lvl : Nat) (t : Tbl),
    t ∈ (addAt levels lvl ts).flatten → t ∈ levels.flatten ∨ t ∈ ts := by
  intro levels
  induction levels with
  | nil => intro lvl t ht; simp only [addAt, List.modify_nil] at ht; exact Or.inl ht
  | cons l ls ih =>
    intro lvl t ht
    cases lvl with
    | zero =>
      simp only [addAt, List.modify_zero_cons, List.flatten_cons, List.mem_append] at ht ⊢
      rcases ht with (h | h) | h
      · exact Or.inl (Or.inl h)
      · exact Or.inr h
      · exact Or.inl (Or.inr h)
    | succ n =>
      simp only [addAt, List.modify_succ_cons, List.flatten_cons, List.mem_append] at ht ⊢
      rcases ht with h | h
      · exact Or.inl (Or.inl h)
      · rcases ih n t h with h' | h'
        · exact Or.inl (Or.inr h')
        · exact Or.inr h'

theorem mem_removeIds (rm : List Nat) (levels : List (List Tbl)) (t : Tbl)
    (ht : t ∈ (removeIds rm levels).flatten) : t ∈ levels.flatten := by
  simp only [removeIds, List.mem_flatten, List.mem_map] at ht ⊢
  obtain ⟨l', ⟨l, hl, rfl⟩, htl⟩ := ht
  exact ⟨l, hl, (List.mem_filter.1 htl).1⟩

/-- the flushed memtables, the oldest, become as they are the newest tables of level 0: same place in the read order -/
theorem containers_flushCommit (s : State) (snap : List Run) (hl : s.levels ≠ [])
    (hp : s.mems.take snap.length = snap) :
    containers { s with levels := addAt s.levels 0 (mkTables s.nextId snap), nextId := s.nextId + snap.length,
                        mems := s.mems.drop snap.length, flushing := none } = containers s := by
  cases hlv : s.levels with
  | nil => exact absurd hlv hl
  | cons l0 deeper =>
    have hmems : snap ++ s.mems.drop snap.length = s.mems :=
      (congrArg (· ++ s.mems.drop snap.length) hp).symm.trans (List.take_append_drop _ _)
    show (s.mems.drop snap.length).reverse ++
        (readOrder ((l0 ++ mkTables s.nextId snap) :: deeper)).map (·.run) = containers s
    rw [containers, hlv, readOrder, readOrder, List.reverse_append, List.append_assoc, List.map_append,
      List.map_reverse, mkTables_map_run, ← List.append_assoc, ← List.reverse_append, hmems]

theorem inv_flushCommit {s : State} {m : Spec} (h : Inv s m) (snap : List Run)
    (hp : s.mems.take snap.length = snap) (hlen : snap.length < s.mems.length) :
    Inv { s with levels := addAt s.levels 0 (mkTables s.nextId snap), nextId := s.nextId + snap.length,
                 mems := s.mems.drop snap.length, flushing := none } m := by
  refine h.of_containers (containers_flushCommit s snap h.levels_ne hp) rfl ?_ (addAt_ne_nil h.levels_ne _ _) ?_
  · exact fun hd => Nat.lt_irrefl _ (Nat.lt_of_lt_of_le hlen (List.drop_eq_nil_iff.mp hd))
  · show ∀ l ∈ (addAt s.levels 0 (mkTables s.nextId snap)).tail, RangeUnique l
    rw [addAt_zero_tail]
    exact h.deep

theorem key_between_start_end {t : Tbl} (hs : t.run.Sorted) {e : Entry} (he : e ∈ t.run) :
    Bytes.cmp t.startKey e.key ≠ .gt ∧ Bytes.cmp e.key t.endKey ≠ .gt := by
  unfold Tbl.startKey Tbl.endKey
  constructor
  · cases hr : t.run with
    | nil => rw [hr] at he; cases he
    | cons x xs =>
      rw [hr] at hs he
      show Bytes.cmp x.key e.key ≠ .gt
      rcases List.mem_cons.mp he with rfl | hm
      · rw [Bytes.cmp_self]; nofun
      · rw [Bytes.lt_iff_cmp.mp ((List.pairwise_cons.mp hs).1 e hm)]; nofun
  · obtain ⟨z, hz⟩ := Option.isSome_iff_exists.mp (List.getLast?_isSome.mpr (List.ne_nil_of_mem he))
    obtain ⟨ys, hy⟩ := List.getLast?_eq_some_iff.mp hz
    rw [hz]
    show Bytes.cmp e.key z.key ≠ .gt
    rw [hy] at hs he
    rcases List.mem_append.mp he with hm | hm
    · rw [Bytes.lt_iff_cmp.mp ((List.pairwise_append.mp hs).2.2 e hm z (List.mem_singleton_self z))]; nofun
    · rw [List.mem_singleton.mp hm, Bytes.cmp_self]; nofun

theorem rangeContainsKey_iff (t : Tbl) (k : Bytes) :
    t.rangeContainsKey k = true ↔ Bytes.cmp t.startKey k ≠ .gt ∧ Bytes.cmp t.endKey k ≠ .lt := by
  simp only [Tbl.rangeContainsKey, Gen.tblRangeContainsKey, Bool.and_eq_true, decide_eq_true_eq, cmpInt_lt_one_iff,
    cmpInt_gt_neg_one_iff]

theorem ranges_exclusive {a b : Tbl} (h : Bytes.lt a.endKey b.startKey = true) (k : Bytes) :
    ¬ (a.rangeContainsKey k = true ∧ b.rangeContainsKey k = true) := by
  rintro ⟨ha, hb⟩
  have hlt : Bytes.cmp a.endKey b.startKey = .lt := Bytes.lt_iff_cmp.mp h
  -- `k` is at or above `b.startKey`, hence above `a.endKey`
  refine ((rangeContainsKey_iff a k).mp ha).2 ?_
  cases hc : Bytes.cmp b.startKey k with
  | lt => exact Bytes.cmp_lt_trans hlt hc
  | eq => rw [← Bytes.cmp_eq_iff.mp hc]; exact hlt
  | gt => exact absurd hc ((rangeContainsKey_iff b k).mp hb).1

theorem rangeUnique_of_ordered {l : List Tbl} (h : Ordered l) : RangeUnique l :=
  List.Pairwise.imp ranges_exclusive h

theorem rangeContainsKey_of_mem {t : Tbl} (hs : t.run.Sorted) {e : Entry} (he : e ∈ t.run) :
    t.rangeContainsKey e.key = true :=
  have h := key_between_start_end hs he
  (rangeContainsKey_iff _ _).mpr ⟨h.1, fun hlt => h.2 (Bytes.cmp_lt_iff_gt.mp hlt)⟩

theorem lookup_none_of_range {t : Tbl} (hs : t.run.Sorted) {k : Bytes} (hr : t.rangeContainsKey k = false) :
    t.run.lookup k = none := by
  cases hl : t.run.lookup k with
  | none => rfl
  | some e =>
    obtain ⟨hm, rfl⟩ := Run.lookup_some_mem hl
    rw [rangeContainsKey_of_mem hs hm] at hr
    cases hr

theorem tblGet_eq_lookup (t : Tbl) (hs : t.run.Sorted) (k : Bytes) : t.get k = t.run.lookup k := by
  unfold Tbl.get
  split
  · rfl
  · rename_i hr; exact (lookup_none_of_range hs (Bool.not_eq_true _ ▸ hr)).symm

theorem tblGet_none (t : Tbl) (k : Bytes) (h : t.rangeContainsKey k = false) : t.get k = none := by
  rw [Tbl.get, if_neg (by rw [h]; exact Bool.false_ne_true)]

theorem deepGet_cons (t : Tbl) (ts : List Tbl) (k : Bytes) :
    deepGet (t :: ts) k = if t.rangeContainsKey k = true then t.run.lookup k else deepGet ts k := by
  unfold deepGet
  rw [List.find?_cons]
  cases t.rangeContainsKey k <;> rfl

/-- the tables a lookup of `k` can answer from, in the order it visits them -/
def view (L : List (List Tbl)) (k : Bytes) : List Tbl := (readOrder L).filter (·.rangeContainsKey k)

theorem filter_contains_le_one {l : List Tbl} (hu : RangeUnique l) (k : Bytes) :
    (l.filter (·.rangeContainsKey k)).length ≤ 1 := by
  have hp := hu.filter (·.rangeContainsKey k)
  generalize hf : l.filter (·.rangeContainsKey k) = fl at hp
  match fl, hf, hp with
  | [], _, _ => exact Nat.zero_le _
  | [_], _, _ => exact Nat.le_refl _
  | a :: b :: _, hf, hp =>
    have hm : ∀ t ∈ a :: b :: _, t.rangeContainsKey k = true := fun t ht =>
      (List.mem_filter (p := fun x : Tbl => x.rangeContainsKey k) |>.mp (hf ▸ ht)).2
    exact absurd ⟨hm a (by simp), hm b (by simp)⟩ ((List.pairwise_cons.mp hp).1 b (by simp) k)

theorem deepGet_eq_get {l : List Tbl} (hu : RangeUnique l) (k : Bytes) : deepGet l k = firstSome (·.get k) l := by
  have h := filter_contains_le_one hu k
  unfold deepGet
  rw [← firstSome_filter _ _ (tblGet_none · k) l, ← List.head?_filter]
  generalize hf : l.filter (·.rangeContainsKey k) = fl at h ⊢
  match fl, hf, h with
  | [], _, _ => rfl
  | [t], hf, _ =>
    -- the one table containing `k` answers, whether or not it holds `k`
    have ht : t ∈ l.filter (·.rangeContainsKey k) := hf ▸ List.mem_singleton_self t
    rw [List.head?_cons, firstSome, firstSome, Tbl.get, if_pos (List.mem_filter.mp ht).2]
    show t.run.lookup k = _
    cases t.run.lookup k <;> rfl

theorem levelsGet_eq_view (L : List (List Tbl)) (hu : ∀ l ∈ L.tail, RangeUnique l) (k : Bytes) :
    levelsGet L k = firstSome (·.get k) (view L k) := by
  cases L with
  | nil => rfl
  | cons l0 D =>
    rw [view, firstSome_filter _ _ (tblGet_none · k), readOrder, firstSome_append, firstSome_flatten,
      firstSome_congr _ (fun l => deepGet l k) D fun l hl => (deepGet_eq_get (hu l hl) k).symm]
    simp only [levelsGet, l0Get]
    cases firstSome (·.get k) l0.reverse <;> rfl

theorem deepGet_eq (l : List Tbl) (hs : ∀ t ∈ l, t.run.Sorted) (hu : RangeUnique l) (k : Bytes) :
    deepGet l k = firstSome (fun t => t.run.lookup k) l := by
  rw [deepGet_eq_get hu k]
  exact firstSome_congr _ _ _ fun t ht => tblGet_eq_lookup t (hs t ht) k

/-- `LevelList.Get` visits the tables in read order -/
theorem levelsGet_eq (levels : List (List Tbl)) (hs : ∀ t ∈ levels.flatten, t.run.Sorted)
    (hu : ∀ l ∈ levels.tail, RangeUnique l) (k : Bytes) :
    levelsGet levels k = firstSome (fun t => t.run.lookup k) (readOrder levels) := by
  rw [levelsGet_eq_view levels hu k, view, firstSome_filter _ _ (tblGet_none · k)]
  exact firstSome_congr _ _ _ fun t ht => tblGet_eq_lookup t (hs t ((readOrder_mem _ t).mp ht)) k

/-- `DB.Get` visits the containers in read order -/
theorem get_eq_firstHit {s : State} {m : Spec} (h : Inv s m) (k : Bytes) : get s k = firstHit (containers s) k := by
  rw [get, memGet, firstHit, containers, firstSome_append, firstSome_map,
    levelsGet_eq s.levels h.sorted_tbls h.deep k]
  cases firstSome (fun r : Run => r.lookup k) s.mems.reverse <;> rfl

theorem get_spec {s : State} {m : Spec} (h : Inv s m) (k : Bytes) : get s k = Spec.get m k :=
  (get_eq_firstHit h k).trans (h.hit k)

/-- the part of the invariant about a read between its two phases -/
def ReadInv (s : State) (m : Spec) : Prop :=
  ∀ k r, s.reading = some (k, r) →
    (r = none → memGet s.mems k = none) ∧ (∀ e, r = some e → Spec.get m k = some e)

theorem readInv_of_none {s : State} {m : Spec} (h : s.reading = none) : ReadInv s m :=
  fun k r hr => by rw [h] at hr; cases hr

theorem readInv_init : ReadInv {} [] := readInv_of_none rfl

theorem ReadInv.mono {s s' : State} {m : Spec} (hr : ReadInv s m) (hrd : s'.reading = s.reading)
    (hm : ∀ k, memGet s.mems k = none → memGet s'.mems k = none) : ReadInv s' m :=
  fun k r h => ⟨fun h0 => hm k ((hr k r (hrd ▸ h)).1 h0), (hr k r (hrd ▸ h)).2⟩

theorem memGet_rotate (mems : List Run) (k : Bytes) : memGet (mems ++ [[]]) k = memGet mems k := by
  rw [memGet, List.reverse_append]
  rfl

theorem memGet_drop_none {mems : List Run} {k : Bytes} (n : Nat) (h : memGet mems k = none) :
    memGet (mems.drop n) k = none := by
  unfold memGet at *
  rw [firstSome_eq_none] at *
  exact fun x hx => h x (List.mem_reverse.mpr (List.mem_of_mem_drop (List.mem_reverse.mp hx)))

theorem getB_correct {s : State} {m : Spec} (h : Inv s m) (hr : ReadInv s m) (k : Bytes) (r : Option Entry)
    (hrd : s.reading = some (k, r)) : getBResult s = Spec.get m k := by
  have := hr k r hrd
  unfold getBResult
  rw [hrd]
  cases r with
  | some e => exact (this.2 e rfl).symm
  | none =>
    -- the memtables held nothing for the key, so the whole read is the level list's answer
    have hh := get_spec h k
    rw [get, this.1 rfl] at hh
    exact hh

/-- the graph of `step`: `step s a = some s' ↔ Step s a s'` (`step_some`, `step_of_Step`) -/
inductive Step (s : State) : Act → State → Prop
  | put (k v : Bytes) {active : Run} {sealedRev : List Run} :
    s.reading = none → s.mems.reverse = active :: sealedRev →
    Step s (.put k v)
      { s with seq := s.seq + 1, mems := (active.insert ⟨k, s.seq + 1, false, v⟩ :: sealedRev).reverse }
  | del (k : Bytes) {active : Run} {sealedRev : List Run} :
    s.reading = none → s.mems.reverse = active :: sealedRev →
    Step s (.del k)
      { s with seq := s.seq + 1, mems := (active.insert ⟨k, s.seq + 1, true, []⟩ :: sealedRev).reverse }
  | rotate : Step s .rotate { s with mems := s.mems ++ [[]] }
  | flushBegin (n : Nat) :
    s.flushing = none → n < s.mems.length → Step s (.flushBegin n) { s with flushing := some (s.mems.take n) }
  | flushCommit {snap : List Run} :
    s.flushing = some snap → s.mems.take snap.length = snap → snap.length < s.mems.length →
    Step s .flushCommit
      { s with levels := addAt s.levels 0 (mkTables s.nextId snap), nextId := s.nextId + snap.length,
               mems := s.mems.drop snap.length, flushing := none }
  | flushAbort : s.flushing.isSome = true → Step s .flushAbort { s with flushing := none }
  | compact (rm : List Nat) (lvl : Nat) (add : List Run) :
    safeCS s.levels rm lvl add = true →
    Step s (.compact rm lvl add)
      { s with levels := addAt (removeIds rm s.levels) lvl (mkTables s.nextId add), nextId := s.nextId + add.length }
  | getA (k : Bytes) : s.reading = none → Step s (.getA k) { s with reading := some (k, memGet s.mems k) }
  | getB : s.reading.isSome = true → Step s .getB { s with reading := none }

theorem write_eq_some {s s' : State} {e : Entry} (h : write s e = some s') :
    s.reading = none ∧ ∃ active sealedRev, s.mems.reverse = active :: sealedRev ∧
      s' = { s with seq := s.seq + 1, mems := (active.insert e :: sealedRev).reverse } := by
  unfold write at h
  split at h
  · cases h
  · rename_i hnr
    split at h
    · cases h
    · rename_i active sealedRev hm
      cases h
      exact ⟨by simpa using hnr, active, sealedRev, hm, rfl⟩

theorem step_some {s s' : State} {a : Act} (h : step s a = some s') : Step s a s' := by
  cases a with
  | put k v =>
    obtain ⟨hr, _, _, hm, rfl⟩ := write_eq_some h
    exact .put k v hr hm
  | del k =>
    obtain ⟨hr, _, _, hm, rfl⟩ := write_eq_some h
    exact .del k hr hm
  | rotate =>
    cases h
    exact .rotate
  | flushBegin n =>
    simp only [step] at h
    split at h
    · cases h
    · next hf =>
      split at h
      · next hn =>
        cases h
        exact .flushBegin n hf hn
      · cases h
  | flushCommit =>
    simp only [step] at h
    split at h
    · cases h
    · next snap hf =>
      split at h
      · next hc =>
        cases h
        exact .flushCommit hf hc.1 hc.2
      · cases h
  | flushAbort =>
    simp only [step] at h
    split at h
    · cases h
    · next hf =>
      cases h
      exact .flushAbort (hf ▸ rfl)
  | compact rm lvl add =>
    simp only [step] at h
    split at h
    · next hsafe =>
      cases h
      exact .compact rm lvl add hsafe
    · cases h
  | getA k =>
    simp only [step] at h
    split at h
    · cases h
    · next hr =>
      cases h
      exact .getA k hr
  | getB =>
    simp only [step] at h
    split at h
    · cases h
    · next hr =>
      cases h
      exact .getB (hr ▸ rfl)

theorem step_of_Step {s s' : State} {a : Act} (h : Step s a s') : step s a = some s' := by
  cases h with
  | put k v hr hm | del k hr hm =>
    simp only [step, write, hr, hm, Option.isSome_none, Bool.false_eq_true, if_false]
  | rotate => rfl
  | flushBegin n hf hn => simp only [step, hf, if_pos hn]
  | flushCommit hf hp hlen => simp only [step, hf, hp, hlen, and_self, if_true]
  | compact rm lvl add hsafe => simp only [step, hsafe, if_true]
  | getA k hr => simp only [step, hr]
  | flushAbort hr | getB hr =>
    obtain ⟨x, hx⟩ := Option.isSome_iff_exists.mp hr
    simp only [step, hx]

/-- what C18 establishes about every change set that passes the safety test -/
def CompactionSound : Prop :=
  ∀ (s : State) (m : Spec) (rm : List Nat) (lvl : Nat) (add : List Run),
    Inv s m → safeCS s.levels rm lvl add = true →
    Inv { s with levels := addAt (removeIds rm s.levels) lvl (mkTables s.nextId add),
                 nextId := s.nextId + add.length } m

theorem step_inv {s s' : State} {m : Spec} (a : Act)
    (hc : (∀ rm lvl add, a = .compact rm lvl add → CompactionSound))
    (h : Inv s m) (hr : ReadInv s m) (hstep : step s a = some s') :
    Inv s' (specStep m s.seq a) ∧ ReadInv s' (specStep m s.seq a) := by
  cases step_some hstep with
  | put k v hnr hm | del k hnr hm => exact ⟨inv_write h _ rfl _ _ hm, readInv_of_none hnr⟩
  | rotate => exact ⟨inv_rotate h, hr.mono rfl fun k h0 => by rw [memGet_rotate]; exact h0⟩
  | flushBegin | flushAbort => exact ⟨h.of_eq rfl rfl rfl, hr⟩
  | flushCommit _ hp hlen => exact ⟨inv_flushCommit h _ hp hlen, hr.mono rfl fun k h0 => memGet_drop_none _ h0⟩
  | compact rm lvl add hsafe => exact ⟨hc rm lvl add rfl s m rm lvl add h hsafe, hr⟩
  | getA k =>
    refine ⟨h.of_eq rfl rfl rfl, fun k' r hrd => ?_⟩
    -- the answer parked is the memtables' answer; if it is a hit, it is the whole read's answer
    cases hrd
    refine ⟨id, fun e he => ?_⟩
    have hh := get_spec h k
    rw [get, he] at hh
    exact hh.symm
  | getB => exact ⟨h.of_eq rfl rfl rfl, readInv_of_none rfl⟩

theorem runBoth_cons (s : State) (m : Spec) (a : Act) (as : List Act) : runBoth s m (a :: as) =
    match step s a with
    | some s' => runBoth s' (specStep m s.seq a) as
    | none => none := rfl

theorem runBoth_step {s s1 : State} {m : Spec} {a : Act} (as : List Act) (h : step s a = some s1) :
    runBoth s m (a :: as) = runBoth s1 (specStep m s.seq a) as := by
  rw [runBoth_cons, h]

theorem runBoth_cons_some {s : State} {m : Spec} {a : Act} {as : List Act} {r : State × Spec}
    (h : runBoth s m (a :: as) = some r) :
    ∃ s1, step s a = some s1 ∧ runBoth s1 (specStep m s.seq a) as = some r := by
  cases hs : step s a with
  | none => rw [runBoth_cons, hs] at h; cases h
  | some s1 => rw [runBoth_step as hs] at h; exact ⟨s1, rfl, h⟩

theorem runBoth_induct {ok : Act → Prop} {P : State → Spec → Prop}
    (hstep : ∀ {s m a s'}, ok a → P s m → step s a = some s' → P s' (specStep m s.seq a)) :
    ∀ {as s m s' m'}, (∀ a ∈ as, ok a) → P s m → runBoth s m as = some (s', m') → P s' m'
  | [], _, _, _, _, _, h, hrun => by cases hrun; exact h
  | a :: as, s, m, _, _, hok, h, hrun => by
    obtain ⟨s1, hs, hrun⟩ := runBoth_cons_some hrun
    exact runBoth_induct hstep (fun b hb => hok b (List.mem_cons_of_mem _ hb)) (hstep (hok a List.mem_cons_self) h hs) hrun

def noCompact : List Act → Bool
  | [] => true
  | .compact .. :: _ => false
  | _ :: as => noCompact as

theorem noCompact_mem {as : List Act} (h : noCompact as = true) {rm : List Nat} {lvl : Nat} {add : List Run} :
    Act.compact rm lvl add ∉ as := by
  fun_induction noCompact as with
  | case1 => exact List.not_mem_nil
  | case2 => cases h
  | case3 a as hne ih =>
    intro hm
    cases hm with
    | head => exact hne _ _ _ rfl
    | tail _ hm => exact ih h hm

theorem runBoth_inv :
    ∀ (as : List Act) (s : State) (m : Spec) (s' : State) (m' : Spec),
    (noCompact as = true ∨ CompactionSound) → Inv s m → ReadInv s m → runBoth s m as = some (s', m') →
    Inv s' m' ∧ ReadInv s' m' := by
  intro as s m s' m' hno h hr hrun
  refine runBoth_induct (ok := fun a => ∀ rm lvl add, a = .compact rm lvl add → CompactionSound)
    (P := fun s m => Inv s m ∧ ReadInv s m) (fun hc h hs => step_inv _ hc h.1 h.2 hs)
    (fun a ha rm lvl add hac => ?_) ⟨h, hr⟩ hrun
  rcases hno with hn | hs
  · exact absurd (hac ▸ ha) (noCompact_mem hn)
  · exact hs

theorem answer_eq_some {o : Option Entry} {v : Bytes} :
    answer o = some v ↔ ∃ e, o = some e ∧ e.del = false ∧ e.val = v := by
  cases o with
  | none => exact ⟨nofun, fun ⟨_, h, _⟩ => nomatch h⟩
  | some e =>
    rw [answer]
    constructor
    · intro h
      cases hd : e.del with
      | true => rw [hd, if_pos rfl] at h; cases h
      | false => rw [hd, if_neg Bool.false_ne_true] at h; exact ⟨e, rfl, hd, Option.some.inj h⟩
    · rintro ⟨_, he, hd, rfl⟩
      cases he
      rw [hd, if_neg Bool.false_ne_true]

/-- the entry-wise description of a scan result `r` (`scanWith_spec`, Proofs/LsmScan.lean) read through `answer`: its
pairs are the live bindings with the prefix -/
theorem scan_kv {m : Spec} {p : Bytes} {r : Run}
    (hr : ∀ e, e ∈ r ↔ (Spec.get m e.key = some e ∧ e.del = false ∧ Bytes.hasPrefix e.key p = true)) (k v : Bytes) :
    (k, v) ∈ r.map (fun e => (e.key, e.val)) ↔ (answer (Spec.get m k) = some v ∧ Bytes.hasPrefix k p = true) := by
  rw [answer_eq_some, List.mem_map]
  constructor
  · rintro ⟨e, he, hkv⟩
    cases hkv
    obtain ⟨hg, hd, hp⟩ := (hr e).mp he
    exact ⟨⟨e, hg, hd, rfl⟩, hp⟩
  · rintro ⟨⟨e, hg, hd, rfl⟩, hp⟩
    cases (Run.lookup_some_mem hg).2
    exact ⟨e, (hr e).mpr ⟨hg, hd, hp⟩, rfl⟩

end Rxn.Lsm
