import RxnModel.Model.Batcher
/-! `Model/Batcher.lean`: the batches handed out, then the current batch, are what was added; the armed timer carries
the current token. -/
namespace Rxn.Batcher
variable {α : Type}

theorem add_batch (s : St α) (x : α) : (add s x).batch = s.batch ++ [x] := by
  unfold add; split <;> rfl

theorem flush_concat (s : St α) (t : Tok) : (flush s t).2 ++ (flush s t).1.batch = s.batch := by
  unfold flush; split <;> simp

theorem run_nil (s : St α) : run s [] = (s, []) := rfl
theorem run_cons (s : St α) (o : Op α) (os : List (Op α)) :
    run s (o :: os) = ((run (step s o).1 os).1, (step s o).2 :: (run (step s o).1 os).2) := rfl

theorem added_nil : added ([] : List (Op α)) = [] := rfl
theorem added_add (x : α) (os : List (Op α)) : added (.add x :: os) = x :: added os := rfl
theorem added_isFull (os : List (Op α)) : added (.isFull :: os) = added os := rfl
theorem added_fire (os : List (Op α)) : added (.fire :: os) = added os := rfl
theorem added_flush (t : Tok) (os : List (Op α)) : added (.flush t :: os) = added os := rfl

theorem run_concat (ops : List (Op α)) : ∀ s : St α,
    (run s ops).2.flatten ++ (run s ops).1.batch = s.batch ++ added ops := by
  induction ops with
  | nil => intro s; simp [run_nil, added_nil]
  | cons o os ih =>
    intro s
    rw [run_cons]
    cases o with
    | add x => simp [step, added_add, ih, add_batch]
    | isFull => simp [step, added_isFull, ih]
    | fire => simp [step, added_fire, ih]
    | flush t =>
      simp only [step, added_flush, List.flatten_cons, List.append_assoc, ih]
      rw [← List.append_assoc, flush_concat]

theorem flush_cur_batch (s : St α) : (flush s .cur).1.batch = [] := by
  unfold flush flushes
  cases hb : s.batch <;> simp [hb]

theorem flush_of_not_flushes (s : St α) (t : Tok) (h : flushes s t = false) : flush s t = (s, []) := by
  simp [flush, h]

theorem flush_of_nil (s : St α) (t : Tok) (h : s.batch = []) : flush s t = (s, []) :=
  flush_of_not_flushes s t (by cases t <;> simp [flushes, h])

def TimerInv (s : St α) : Prop :=
  (∀ k, s.armed = some k → k = s.token ∧ s.batch ≠ []) ∧ (∀ k, s.lastCb = some k → k ≤ s.token)

theorem timerInv_new (m : Nat) (d : Bool) : TimerInv (new m d : St α) := by
  simp [TimerInv, new]

theorem timerInv_step (s : St α) (o : Op α) (h : TimerInv s) : TimerInv (step s o).1 := by
  obtain ⟨h1, h2⟩ := h
  cases o with
  | add x =>
    simp only [step, add]
    split
    · next hc =>
      simp at hc
      refine ⟨?_, ?_⟩
      · intro k hk; simp at hk; simp [hk]
      · intro k hk; simp at hk; simp [← hk]
    · refine ⟨?_, h2⟩
      intro k hk
      simp [(h1 k hk).1]
  | isFull => exact ⟨h1, h2⟩
  | fire => exact ⟨h1, h2⟩
  | flush t =>
    simp only [step, flush]
    split
    · refine ⟨by simp, ?_⟩
      intro k hk
      have := h2 k hk
      simp; omega
    · exact ⟨h1, h2⟩

theorem timerInv_run (ops : List (Op α)) : ∀ s : St α, TimerInv s → TimerInv (run s ops).1 := by
  induction ops with
  | nil => intro s h; exact h
  | cons o os ih => intro s h; rw [run_cons]; exact ih _ (timerInv_step s o h)

theorem TimerInv.fire_flushes {s : St α} (h : TimerInv s) {k : Nat} (hk : fire s = some k) :
    k = s.token ∧ (flush s (.tok k)).2 = s.batch ∧ s.batch ≠ [] := by
  obtain ⟨h1, h2⟩ := h.1 k hk
  exact ⟨h1, by simp [flush, flushes, h1, h2], h2⟩

theorem step_token_mono (s : St α) (o : Op α) : s.token ≤ (step s o).1.token := by
  cases o with
  | add x => simp only [step, add]; split <;> simp
  | isFull => simp [step]
  | fire => simp [step]
  | flush t => simp only [step, flush]; split <;> simp

theorem run_token_mono (ops : List (Op α)) : ∀ s : St α, s.token ≤ (run s ops).1.token := by
  induction ops with
  | nil => intro s; exact Nat.le_refl _
  | cons o os ih => intro s; rw [run_cons]; exact Nat.le_trans (step_token_mono s o) (ih _)

theorem flush_token_succ (s : St α) (t : Tok) (h : (flush s t).2 ≠ []) : (flush s t).1.token = s.token + 1 := by
  unfold flush at h ⊢
  split
  · rfl
  · next hf => simp [hf] at h

end Rxn.Batcher
