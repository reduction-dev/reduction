import RxnModel.Proofs.HeapIdx
import RxnModel.Proofs.Lists
/-! PartitionedPriorityQueue: the heap of partitions stays ordered by the partitions' heads under the code's
`Fix(partition.Index())` after every change of one partition, so `Peek` is a global minimum; whole runs are then
accepted by one multiset of all queued items. -/
namespace Rxn.PPQ

theorem partLt_sw (parts : Array (List Item)) : Heap.StrictWeak (partLt parts) := by
  -- the order of the heads' priorities, with every empty partition on top
  constructor
  · intro a b h
    unfold partLt at *
    cases ha : headOf parts a <;> cases hb : headOf parts b <;> simp_all
    omega
  · intro a b c h1 h2
    unfold partLt at *
    cases ha : headOf parts a <;> cases hb : headOf parts b <;> cases hc : headOf parts c <;> simp_all
    omega

theorem headOf_set (parts : Array (List Item)) (p : Nat) (l : List Item) (a : Nat) (h : a ≠ p) :
    headOf (parts.setIfInBounds p l) a = headOf parts a := by
  unfold headOf
  rw [Array.getD_eq_getD_getElem?, Array.getD_eq_getD_getElem?, Array.getElem?_setIfInBounds,
    if_neg (fun e => h e.symm)]

theorem partLt_set (parts : Array (List Item)) (p : Nat) (l : List Item) (a b : Nat) (ha : a ≠ p) (hb : b ≠ p) :
    partLt (parts.setIfInBounds p l) a b = partLt parts a b := by
  unfold partLt
  rw [headOf_set parts p l a ha, headOf_set parts p l b hb]

/-- the heap holds every partition exactly once and is ordered by the partitions' current heads -/
structure PInv (q : Q) : Prop where
  hinv : Heap.Inv (partLt q.parts) q.heap
  hperm : q.heap.toList.Perm (List.range q.parts.size)
  /-- every partition's stored index (`Index()`) is its position in the heap -/
  hidx : HeapI.Ok id q.heap q.idx

theorem exists_index (q : Q) (h : PInv q) {p : Nat} (hp : p < q.parts.size) :
    ∃ i : Nat, q.heap[i]? = some p ∧ q.idx p = (i : Int) := by
  obtain ⟨i, hi, hip⟩ := List.getElem_of_mem (h.hperm.symm.subset (List.mem_range.mpr hp))
  rw [Array.length_toList] at hi
  rw [Array.getElem_toList] at hip
  exact ⟨i, (Array.getElem?_eq_getElem hi).trans (congrArg some hip), hip ▸ h.hidx.pos i hi⟩

theorem index_nonneg (q : Q) (h : PInv q) {p : Nat} (hp : p < q.parts.size) : 0 ≤ q.idx p := by
  obtain ⟨i, _, e⟩ := exists_index q h hp
  rw [e]; exact Int.natCast_nonneg i

theorem heap_at_index (q : Q) (h : PInv q) {p : Nat} (hp : p < q.parts.size) : q.heap[(q.idx p).toNat]? = some p := by
  obtain ⟨i, hi, e⟩ := exists_index q h hp
  rw [e, Int.toNat_natCast]; exact hi

theorem index_unique (q : Q) (h : PInv q) {p j : Nat} (hp : p < q.parts.size) (hj : q.heap[j]? = some p) :
    j = (q.idx p).toNat := by
  obtain ⟨i, hi, e⟩ := exists_index q h hp
  obtain ⟨hj', ej⟩ := Array.getElem?_eq_some_iff.mp hj
  obtain ⟨hi', ei⟩ := Array.getElem?_eq_some_iff.mp hi
  rw [e, Int.toNat_natCast]
  exact h.hidx.inj j i hj' hi' (ej.trans ei.symm)

/-- partition `p` becomes `l`, then `heap.Fix(partition.Index())` -/
def setPart (q : Q) (p : Nat) (l : List Item) : Q :=
  ⟨q.parts.setIfInBounds p l, (refix (q.parts.setIfInBounds p l) q.heap q.idx p).1,
    (refix (q.parts.setIfInBounds p l) q.heap q.idx p).2⟩

theorem setPart_inv (q : Q) (h : PInv q) (p : Nat) (hp : p < q.parts.size) (l : List Item) : PInv (setPart q p l) := by
  have hi : (q.idx p).toNat < q.heap.size := Heap.lt_size_of_get? (heap_at_index q h hp)
  have sw := partLt_sw q.parts
  have sw' := partLt_sw (q.parts.setIfInBounds p l)
  have hne : ∀ j y, q.heap[j]? = some y → j ≠ (q.idx p).toNat → y ≠ p :=
    fun j y hy hj e => hj (index_unique q h hp (e ▸ hy))
  have hle : ∀ a b, a ≠ p → b ≠ p → (Heap.le (partLt (q.parts.setIfInBounds p l)) a b ↔ Heap.le (partLt q.parts) a b) := by
    intro a b ha hb; unfold Heap.le; rw [partLt_set q.parts p l b a hb ha]
  have hfst : (refix (q.parts.setIfInBounds p l) q.heap q.idx p).1 =
      Heap.fix (partLt (q.parts.setIfInBounds p l)) q.heap (q.idx p).toNat := HeapI.fixI_fst _ _ _ _ _ (index_nonneg q h hp)
  refine ⟨?_, ?_, (HeapI.fixI_ok _ _ _ _ _ h.hidx fun _ _ => rfl).1⟩
  · show Heap.Inv _ (refix (q.parts.setIfInBounds p l) q.heap q.idx p).1
    rw [hfst]
    -- comparisons that do not involve partition `p` (which sits at `idx p` only) are unchanged
    exact Heap.fix_inv sw' _ _ (Heap.downInv_of_inv sw h.hinv hi (fun _ _ => rfl)
      (fun _ _ hp' hj hr x y hx hy => (hle x y (hne _ x hx hp') (hne _ y hy hj)).mpr (hr x y hx hy)))
  · show (refix (q.parts.setIfInBounds p l) q.heap q.idx p).1.toList.Perm (List.range (q.parts.setIfInBounds p l).size)
    rw [hfst, Array.size_setIfInBounds]
    exact (Heap.fix_perm _ _ _).trans h.hperm

@[simp] theorem new_parts (parts : Array (List Item)) : (new parts).parts = parts := rfl

theorem pushAll_inv (parts : Array (List Item)) (ps : List Nat) {l : List Nat} {acc : Array Nat × (Nat → Int)}
    (hnd : (ps ++ l).Nodup) (hinv : Heap.Inv (partLt parts) acc.1) (hperm : acc.1.toList.Perm l)
    (hok : HeapI.Ok id acc.1 acc.2) :
    let r := ps.foldl (fun h p => HeapI.pushI id (partLt parts) h.1 h.2 p) acc
    Heap.Inv (partLt parts) r.1 ∧ r.1.toList.Perm (ps ++ l) ∧ HeapI.Ok id r.1 r.2 := by
  induction ps generalizing l acc with
  | nil => exact ⟨hinv, hperm, hok⟩
  | cons p ps ih =>
    obtain ⟨hp, _⟩ := List.nodup_cons.mp hnd
    have hfst := HeapI.pushI_fst id (partLt parts) acc.1 acc.2 p
    have hfresh : HeapI.Out id acc.1 (id p) := HeapI.out_iff.mpr fun x hx e =>
      hp (List.mem_append_right _ (hperm.subset ((show x = p from e) ▸ hx)))
    have hmid : (ps ++ p :: l).Perm (p :: (ps ++ l)) := List.perm_middle
    obtain ⟨a, b, c⟩ := ih (l := p :: l) (acc := HeapI.pushI id (partLt parts) acc.1 acc.2 p)
      (hmid.nodup_iff.mpr hnd) (by rw [hfst]; exact Heap.push_inv (partLt_sw parts) acc.1 p hinv)
      (by rw [hfst]; exact (Heap.push_perm _ _ _).trans ((List.perm_cons p).mpr hperm))
      (HeapI.pushI_ok id _ _ _ _ hok (fun _ _ => rfl) hfresh).1
    exact ⟨a, b.trans hmid, c⟩

theorem new_inv (parts : Array (List Item)) : PInv (new parts) := by
  obtain ⟨a, b, c⟩ := pushAll_inv parts (List.range parts.size) (l := []) (acc := (#[], fun _ => -1))
    (by rw [List.append_nil]; exact List.nodup_range) (Heap.inv_empty _) (.refl _) (HeapI.ok_empty _ _)
  rw [List.append_nil] at b
  exact ⟨a, b, c⟩

theorem root_le (q : Q) (h : PInv q) (r : Nat) (hr : Heap.peek q.heap = some r) (p : Nat) (hp : p < q.parts.size) :
    Heap.le (partLt q.parts) r p :=
  Heap.root_min (partLt_sw q.parts) q.heap h.hinv (q.idx p).toNat r p hr (heap_at_index q h hp)

theorem peek_min (q : Q) (h : PInv q) (x : Item) (hx : peek q = some x) (p : Nat) (hp : p < q.parts.size)
    (y : Item) (hy : headOf q.parts p = some y) : x.prio ≤ y.prio := by
  unfold peek at hx
  cases hr : Heap.peek q.heap with
  | none => rw [hr] at hx; cases hx
  | some r =>
    rw [hr] at hx
    dsimp only at hx
    have := root_le q h r hr p hp
    unfold Heap.le partLt at this
    rw [hy, hx] at this
    simpa using this

theorem peek_none_all (q : Q) (h : PInv q) (hx : peek q = none) (p : Nat) : q.parts.getD p [] = [] := by
  by_cases hp : p < q.parts.size
  · apply List.head?_eq_none_iff.mp
    show headOf q.parts p = none
    unfold peek at hx
    cases hr : Heap.peek q.heap with
    | none =>
      -- the heap holds `p`, so it has a root
      have hi := Heap.lt_size_of_get? (heap_at_index q h hp)
      unfold Heap.peek at hr
      rw [Array.getElem?_eq_getElem (Nat.zero_lt_of_lt hi)] at hr
      cases hr
    | some r =>
      rw [hr] at hx
      dsimp only at hx
      have := root_le q h r hr p hp
      unfold Heap.le partLt at this
      rw [hx] at this
      cases hh : headOf q.parts p with
      | none => rfl
      | some y => rw [hh] at this; cases this
  · exact getD_of_size_le _ _ (Nat.le_of_not_lt hp)

/-- partitions as supplied by the harness are sorted by priority -/
def PSorted (q : Q) : Prop := ∀ p, (q.parts.getD p []).Pairwise (fun a b => a.prio ≤ b.prio)

theorem insertSorted_nil (x : Item) : insertSorted x [] = [x] := rfl

theorem insertSorted_cons (x y : Item) (ys : List Item) :
    insertSorted x (y :: ys) = if x.prio < y.prio then x :: y :: ys else y :: insertSorted x ys := rfl

theorem insertSorted_perm (x : Item) (l : List Item) : (insertSorted x l).Perm (x :: l) := by
  induction l with
  | nil => exact .refl _
  | cons y ys ih =>
    rw [insertSorted_cons]
    split
    · exact .refl _
    · exact ((List.perm_cons y).mpr ih).trans (List.Perm.swap x y ys)

theorem insertSorted_mem (x : Item) (l : List Item) (e : Item) : e ∈ insertSorted x l ↔ e = x ∨ e ∈ l :=
  (insertSorted_perm x l).mem_iff.trans List.mem_cons

theorem insertSorted_sorted (x : Item) (l : List Item) (h : l.Pairwise (fun a b => a.prio ≤ b.prio)) :
    (insertSorted x l).Pairwise (fun a b => a.prio ≤ b.prio) := by
  induction l with
  | nil => exact List.pairwise_singleton _ x
  | cons y ys ih =>
    have hy := List.pairwise_cons.mp h
    rw [insertSorted_cons]
    split
    · rename_i hlt
      refine List.pairwise_cons.mpr ⟨?_, h⟩
      intro e he
      simp only [List.mem_cons] at he
      rcases he with rfl | he
      · omega
      · have := hy.1 e he; omega
    · rename_i hlt
      refine List.pairwise_cons.mpr ⟨?_, ih hy.2⟩
      intro e he
      rcases (insertSorted_mem x ys e).mp he with rfl | h2
      · omega
      · exact hy.1 e h2

theorem getD_toList (parts : Array (List Item)) (p : Nat) : parts.getD p [] = parts.toList.getD p [] := by
  rw [Array.getD_eq_getD_getElem?, List.getD_eq_getElem?_getD, Array.getElem?_toList]

theorem getD_setIfInBounds (parts : Array (List Item)) (p : Nat) (l : List Item) (a : Nat) :
    (parts.setIfInBounds p l).getD a [] = if p = a ∧ p < parts.size then l else parts.getD a [] := by
  rw [getD_toList, getD_toList, Array.toList_setIfInBounds, Rxn.getD_set, Array.length_toList]

/-- A step leaves the queue as it is or is a `setPart`; the two clauses about `l` are what `PSorted` and `PPart` need to
survive the step. -/
theorem step_ind {P : Q → Prop} (q : Q) (o : Op) (h0 : P q)
    (h1 : ∀ p l, p < q.parts.size →
      ((q.parts.getD p []).Pairwise (fun a b => a.prio ≤ b.prio) → l.Pairwise (fun a b => a.prio ≤ b.prio)) →
      (∀ y ∈ l, y ∈ q.parts.getD p [] ∨ y.part = p) → P (setPart q p l)) : P (step q o) := by
  cases o with
  | push x =>
    show P (if x.part < q.parts.size then push q x else q)
    split
    next hx =>
      exact h1 x.part (insertSorted x (q.parts.getD x.part [])) hx (insertSorted_sorted x _) fun y hy =>
        ((insertSorted_mem x _ y).mp hy).symm.imp_right (congrArg Item.part)
    next => exact h0
  | delete x =>
    show P (if x.part < q.parts.size then delete q x else q)
    split
    next hx =>
      exact h1 x.part ((q.parts.getD x.part []).erase x) hx (List.Pairwise.sublist List.erase_sublist)
        fun y hy => .inl (List.mem_of_mem_erase hy)
    next => exact h0
  | pop =>
    show P (pop q).2
    unfold pop
    cases Heap.peek q.heap with
    | none => exact h0
    | some p =>
      dsimp only
      cases hl : q.parts.getD p [] with
      | nil => exact h0
      | cons x rest =>
        have hp : p < q.parts.size := Nat.lt_of_not_le fun hle => by
          rw [getD_of_size_le _ _ hle] at hl
          cases hl
        refine h1 p rest hp ?_ ?_ <;> rw [hl]
        · exact fun h => (List.pairwise_cons.mp h).2
        · exact fun y hy => .inl (List.mem_cons_of_mem _ hy)

theorem step_sorted (q : Q) (o : Op) (h : PSorted q) : PSorted (step q o) :=
  step_ind q o h fun p l _ hl _ a => by
    show ((q.parts.setIfInBounds p l).getD a []).Pairwise _
    rw [getD_setIfInBounds]
    split
    · exact hl (h p)
    · exact h a

theorem step_inv (q : Q) (o : Op) (h : PInv q) : PInv (step q o) :=
  step_ind q o h fun p l hp _ _ => setPart_inv q h p hp l

theorem runFrom_inv (parts : Array (List Item)) (ops : List Op)
    (hs : ∀ p, (parts.getD p []).Pairwise (fun a b => a.prio ≤ b.prio)) :
    PInv (runFrom parts ops) ∧ PSorted (runFrom parts ops) := by
  exact List.foldlRecOn ops step (motive := fun q => PInv q ∧ PSorted q) ⟨new_inv _, hs⟩
    fun q h o _ => ⟨step_inv q o h.1, step_sorted q o h.2⟩

theorem getD_replicate_nil (n p : Nat) : (Array.replicate n ([] : List Item)).getD p [] = [] := by
  rw [Array.getD_eq_getD_getElem?, Array.getElem?_replicate]
  split <;> rfl

theorem run_inv (n : Nat) (ops : List Op) : PInv (run n ops) ∧ PSorted (run n ops) :=
  runFrom_inv _ ops fun p => by rw [getD_replicate_nil]; exact .nil

theorem pop_of_peek_none (q : Q) (h : peek q = none) : pop q = (none, q) := by
  unfold pop
  unfold peek at h
  cases hp : Heap.peek q.heap with
  | none => rfl
  | some p =>
    rw [hp] at h
    dsimp only at h ⊢
    rw [List.head?_eq_none_iff.mp h]

theorem pop_spec (q : Q) :
    (pop q).1 = peek q ∧
    ∀ x, peek q = some x → ∃ p, (q.parts.getD p []).head? = some x ∧
      (pop q).2.parts = q.parts.setIfInBounds p (q.parts.getD p []).tail := by
  unfold pop peek
  cases hp : Heap.peek q.heap with
  | none => exact ⟨rfl, fun x hx => by cases hx⟩
  | some p =>
    simp only [headOf]
    cases hl : q.parts.getD p [] with
    | nil => exact ⟨rfl, fun x hx => by cases hx⟩
    | cons y rest =>
      refine ⟨rfl, fun x hx => ⟨p, ?_, ?_⟩⟩
      · rw [hl]; exact hx
      · simp only [hl, List.tail_cons]

theorem mem_flatten_toList_iff (parts : Array (List Item)) (y : Item) :
    y ∈ parts.toList.flatten ↔ ∃ p, y ∈ parts.getD p [] :=
  (mem_flatten_iff_getD parts.toList y).trans (exists_congr fun p => by rw [getD_toList])

theorem flatten_add (parts : Array (List Item)) (p : Nat) (x : Item) (l : List Item) (hp : p < parts.size)
    (h : l.Perm (x :: parts.getD p [])) : (parts.setIfInBounds p l).toList.flatten.Perm (x :: parts.toList.flatten) := by
  rw [Array.toList_setIfInBounds]
  exact flatten_set_add _ _ x _ (by rw [Array.length_toList]; exact hp) (by rw [← getD_toList]; exact h)

theorem flatten_remove (parts : Array (List Item)) (p : Nat) (x : Item) (l : List Item)
    (h : (parts.getD p []).Perm (x :: l)) :
    x ∈ parts.toList.flatten ∧ (parts.setIfInBounds p l).toList.flatten.Perm (parts.toList.flatten.erase x) := by
  rw [Array.toList_setIfInBounds]
  exact List.cons_perm_iff_perm_erase.mp (flatten_set_remove parts.toList p x l (by rw [← getD_toList]; exact h)).symm

/-- every item sits in the partition its index function names -/
def PPart (q : Q) : Prop := ∀ p y, y ∈ q.parts.getD p [] → y.part = p

theorem step_part (q : Q) (o : Op) (h : PPart q) : PPart (step q o) :=
  step_ind q o h fun p l _ _ hl a y hy => by
    change y ∈ (q.parts.setIfInBounds p l).getD a [] at hy
    rw [getD_setIfInBounds] at hy
    split at hy
    · rename_i hc
      rw [← hc.1]
      exact (hl y hy).elim (h p y) id
    · exact h a y hy

/-- through the partition's head, which is its minimum by `PSorted` -/
theorem peek_le_part (q : Q) (hinv : PInv q) (hsorted : PSorted q) (x : Item) (hx : peek q = some x) (p : Nat) :
    ∀ y ∈ q.parts.getD p [], x.prio ≤ y.prio := by
  intro y hy
  by_cases hp : p < q.parts.size
  · cases hl : q.parts.getD p [] with
    | nil => rw [hl] at hy; cases hy
    | cons a as =>
      have h1 := peek_min q hinv x hx p hp a (by unfold headOf; rw [hl]; rfl)
      have h2 := hsorted p
      rw [hl] at h2 hy
      rcases List.mem_cons.mp hy with rfl | hy
      · exact h1
      · exact Nat.le_trans h1 ((List.pairwise_cons.mp h2).1 y hy)
  · rw [getD_of_size_le _ _ (Nat.le_of_not_lt hp)] at hy
    cases hy

theorem peek_le_all (q : Q) (hinv : PInv q) (hsorted : PSorted q) (x : Item) (hx : peek q = some x) :
    ∀ y ∈ q.parts.toList.flatten, x.prio ≤ y.prio := by
  intro y hy
  obtain ⟨p, hyp⟩ := (mem_flatten_toList_iff q.parts y).mp hy
  exact peek_le_part q hinv hsorted x hx p y hyp

def out (q : Q) : Op → Option Item
  | .pop => (pop q).1
  | _ => none

def trace : Q → List Op → List (Option Item)
  | _, [] => []
  | q, op :: ops => out q op :: trace (step q op) ops

/-- reference: one multiset of all queued items (`n` partitions exist) -/
def specStep (n : Nat) (ms : List Item) : Op → Option Item → List Item
  | .push x, _ => if x.part < n then x :: ms else ms
  | .delete x, _ => if x.part < n then ms.erase x else ms
  | .pop, some x => ms.erase x
  | .pop, none => ms

/-- the reference accepts the outputs: every `Pop` output is a minimum-priority item of the reference contents (which
then lose exactly it) and `Pop` fails only on empty contents -/
def Accepts (n : Nat) : List Item → List Op → List (Option Item) → Prop
  | _, [], [] => True
  | ms, .pop :: ops, none :: outs => ms = [] ∧ Accepts n ms ops outs
  | ms, .pop :: ops, some x :: outs => x ∈ ms ∧ (∀ y ∈ ms, x.prio ≤ y.prio) ∧ Accepts n (ms.erase x) ops outs
  | ms, op :: ops, none :: outs => Accepts n (specStep n ms op none) ops outs
  | _, _, _ => False

theorem trace_cons (q : Q) (op : Op) (ops : List Op) : trace q (op :: ops) = out q op :: trace (step q op) ops := rfl

theorem accepts_pop_none (n : Nat) (ms : List Item) (ops : List Op) (outs : List (Option Item)) :
    Accepts n ms (.pop :: ops) (none :: outs) = (ms = [] ∧ Accepts n ms ops outs) := rfl

theorem accepts_pop_some (n : Nat) (ms : List Item) (x : Item) (ops : List Op) (outs : List (Option Item)) :
    Accepts n ms (.pop :: ops) (some x :: outs) =
      (x ∈ ms ∧ (∀ y ∈ ms, x.prio ≤ y.prio) ∧ Accepts n (ms.erase x) ops outs) := rfl

theorem accepts_push (n : Nat) (ms : List Item) (x : Item) (ops : List Op) (outs : List (Option Item)) :
    Accepts n ms (.push x :: ops) (none :: outs) = Accepts n (specStep n ms (.push x) none) ops outs := rfl

theorem accepts_delete (n : Nat) (ms : List Item) (x : Item) (ops : List Op) (outs : List (Option Item)) :
    Accepts n ms (.delete x :: ops) (none :: outs) = Accepts n (specStep n ms (.delete x) none) ops outs := rfl

theorem specStep_perm (n : Nat) {ms ms' : List Item} (hp : ms.Perm ms') (op : Op) (o : Option Item) :
    (specStep n ms op o).Perm (specStep n ms' op o) := by
  cases op with
  | push x =>
    simp only [specStep]
    split
    · exact (List.perm_cons _).mpr hp
    · exact hp
  | delete x =>
    simp only [specStep]
    split
    · exact hp.erase x
    · exact hp
  | pop =>
    cases o with
    | none => exact hp
    | some x => exact hp.erase x

theorem size_step (q : Q) (o : Op) : (step q o).parts.size = q.parts.size :=
  step_ind (P := fun q' => q'.parts.size = q.parts.size) q o rfl fun _ _ _ _ _ => Array.size_setIfInBounds

theorem pop_refines (q : Q) (hinv : PInv q) (hsorted : PSorted q) :
    (pop q).2.parts.toList.flatten.Perm (specStep q.parts.size q.parts.toList.flatten .pop (pop q).1) ∧
    match (pop q).1 with
      | none => q.parts.toList.flatten = []
      | some x => x ∈ q.parts.toList.flatten ∧ ∀ y ∈ q.parts.toList.flatten, x.prio ≤ y.prio := by
  cases hpk : peek q with
  | none =>
    rw [pop_of_peek_none q hpk]
    refine ⟨.refl _, List.eq_nil_iff_forall_not_mem.mpr fun y hy => ?_⟩
    obtain ⟨p, hp⟩ := (mem_flatten_toList_iff q.parts y).mp hy
    rw [peek_none_all q hinv hpk p] at hp
    cases hp
  | some x =>
    obtain ⟨hfst, hsnd⟩ := pop_spec q
    obtain ⟨p, hhead, hparts⟩ := hsnd x hpk
    rw [hfst, hpk, hparts]
    obtain ⟨rest, hl⟩ := List.head?_eq_some_iff.mp hhead
    obtain ⟨hxm, hperm⟩ := flatten_remove q.parts p x (q.parts.getD p []).tail (by rw [hl]; exact .refl _)
    exact ⟨hperm, hxm, peek_le_all q hinv hsorted x hpk⟩

theorem step_refines (q : Q) (hinv : PInv q) (hsorted : PSorted q) (hpart : PPart q) (op : Op) :
    (step q op).parts.toList.flatten.Perm (specStep q.parts.size q.parts.toList.flatten op (out q op)) := by
  cases op with
  | push x =>
    simp only [step, specStep]
    by_cases hx : x.part < q.parts.size
    · rw [if_pos hx, if_pos hx]
      exact flatten_add q.parts x.part x _ hx (insertSorted_perm x _)
    · rw [if_neg hx, if_neg hx]
  | delete x =>
    simp only [step, specStep]
    by_cases hx : x.part < q.parts.size
    · rw [if_pos hx, if_pos hx]
      show (q.parts.setIfInBounds x.part ((q.parts.getD x.part []).erase x)).toList.flatten.Perm _
      by_cases hm : x ∈ q.parts.getD x.part []
      · exact (flatten_remove q.parts x.part x _ (List.perm_cons_erase hm)).2
      · -- `x` is queued nowhere else either: both sides are unchanged
        have hnm : x ∉ q.parts.toList.flatten := by
          intro hh
          obtain ⟨p, hp⟩ := (mem_flatten_toList_iff q.parts x).mp hh
          rw [← hpart p x hp] at hp
          exact hm hp
        rw [List.erase_of_not_mem hm, List.erase_of_not_mem hnm, Array.toList_setIfInBounds, getD_toList,
          List.getD_eq_getElem?_getD, List.getElem?_eq_getElem (by rw [Array.length_toList]; exact hx),
          Option.getD_some, List.set_getElem_self]
    · rw [if_neg hx, if_neg hx]
  | pop => exact (pop_refines q hinv hsorted).1

/-- Stated for any list `ms` with the queued items: the partitions after a step hold a permutation of the reference's
next list, not that list. -/
theorem trace_accepted (q : Q) (hinv : PInv q) (hsorted : PSorted q) (hpart : PPart q) (ops : List Op) (ms : List Item)
    (hms : ms.Perm q.parts.toList.flatten) : Accepts q.parts.size ms ops (trace q ops) := by
  induction ops generalizing q ms with
  | nil => trivial
  | cons op ops ih =>
    have b := step_refines q hinv hsorted hpart op
    have hrec := ih (step q op) (step_inv q op hinv) (step_sorted q op hsorted) (step_part q op hpart) _
      ((specStep_perm q.parts.size hms op (out q op)).trans b.symm)
    rw [size_step] at hrec
    rw [trace_cons]
    cases op with
    | push x => exact (accepts_push _ _ x ops _).mpr hrec
    | delete x => exact (accepts_delete _ _ x ops _).mpr hrec
    | pop =>
      have c := (pop_refines q hinv hsorted).2
      simp only [out] at hrec ⊢
      cases ho : (pop q).1 with
      | none =>
        rw [ho] at c hrec
        rw [accepts_pop_none]
        rw [c] at hms
        exact ⟨hms.eq_nil, hrec⟩
      | some x =>
        rw [ho] at c hrec
        rw [accepts_pop_some]
        exact ⟨hms.symm.subset c.1, fun y hy => c.2 y (hms.subset hy), hrec⟩

end Rxn.PPQ
