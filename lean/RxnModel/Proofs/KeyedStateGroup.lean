import RxnModel.Proofs.KeyedStateEnc
/-! The grouping loop of `GetState`: flattening the groups gives back the scanned entries, and a scan in key order
yields every namespace once, no empty group, and each group's entries in order. -/
namespace Rxn.KeyedState
open Rxn Bytes

def ungroup (G : List NsState) : List (Bytes × Bytes × Bytes) := G.flatMap (fun g => g.2.map (fun e => (g.1, e)))

theorem push_same (n ek v : Bytes) (es : List (Bytes × Bytes)) (gs : List NsState) :
    push (n, ek, v) ((n, es) :: gs) = (n, (ek, v) :: es) :: gs := if_pos rfl

theorem push_other {n n' : Bytes} (h : n ≠ n') (ek v : Bytes) (es : List (Bytes × Bytes)) (gs : List NsState) :
    push (n, ek, v) ((n', es) :: gs) = (n, [(ek, v)]) :: (n', es) :: gs := if_neg h

theorem ungroup_push (x : Bytes × Bytes × Bytes) (G : List NsState) : ungroup (push x G) = x :: ungroup G := by
  obtain ⟨xn, xe, xv⟩ := x
  cases G with
  | nil => rfl
  | cons g gs =>
    obtain ⟨n', es'⟩ := g
    by_cases hn : xn = n'
    · subst hn; rw [push_same]; rfl
    · rw [push_other hn]; rfl

theorem ungroup_group (L : List (Bytes × Bytes × Bytes)) : ungroup (group L) = L := by
  induction L with
  | nil => rfl
  | cons x rest ih => exact (ungroup_push x (group rest)).trans (congrArg (x :: ·) ih)

theorem mem_ungroup {G : List NsState} {ns ek v : Bytes} :
    (ns, ek, v) ∈ ungroup G ↔ ∃ es, (ns, es) ∈ G ∧ (ek, v) ∈ es := by
  simp only [ungroup, List.mem_flatMap, List.mem_map]
  constructor
  · rintro ⟨⟨n, es⟩, hg, e, he, h⟩
    cases h
    exact ⟨es, hg, he⟩
  · rintro ⟨es, hg, he⟩
    exact ⟨(ns, es), hg, (ek, v), he, rfl⟩

/-- the order fields of `Matches` (`nsOnce`, `nonempty`, `entriesAsc`): what the grouping loop maintains on a scan in
key order -/
def GroupsOK (G : List NsState) : Prop :=
  G.Pairwise (fun g h => nsLt g.1 h.1) ∧ (∀ g ∈ G, g.2 ≠ []) ∧
    ∀ g ∈ G, g.2.Pairwise (fun a b => cmp a.1 b.1 = .lt)

theorem groupsOK_cons (g : NsState) (G : List NsState) :
    GroupsOK (g :: G) ↔
      (∀ h ∈ G, nsLt g.1 h.1) ∧ g.2 ≠ [] ∧ g.2.Pairwise (fun a b => cmp a.1 b.1 = .lt) ∧ GroupsOK G := by
  constructor
  · rintro ⟨hp, hn, he⟩
    obtain ⟨hp1, hp2⟩ := List.pairwise_cons.mp hp
    obtain ⟨hn1, hn2⟩ := List.forall_mem_cons.mp hn
    obtain ⟨he1, he2⟩ := List.forall_mem_cons.mp he
    exact ⟨hp1, hn1, he1, hp2, hn2, he2⟩
  · rintro ⟨hp1, hn1, he1, hp2, hn2, he2⟩
    exact ⟨List.pairwise_cons.mpr ⟨hp1, hp2⟩, List.forall_mem_cons.mpr ⟨hn1, hn2⟩, List.forall_mem_cons.mpr ⟨he1, he2⟩⟩

/-- position of a decoded entry inside its subject's key range -/
def entKey (x : Bytes × Bytes × Bytes) : Bytes := nsEnc x.1 ++ x.2.1

/-- an entry below all grouped ones joins the first group (same namespace, smaller entry key) or opens one with a
smaller namespace -/
theorem push_ok (x : Bytes × Bytes × Bytes) (G : List NsState) (hG : GroupsOK G) (hxl : x.1.length ≤ 255)
    (hGl : ∀ y ∈ ungroup G, y.1.length ≤ 255) (hx : ∀ y ∈ ungroup G, cmp (entKey x) (entKey y) = .lt) :
    GroupsOK (push x G) := by
  obtain ⟨xn, xe, xv⟩ := x
  cases G with
  | nil => exact (groupsOK_cons _ []).mpr ⟨nofun, List.cons_ne_nil _ _, List.pairwise_singleton _ _, hG⟩
  | cons g gs =>
    obtain ⟨n', es'⟩ := g
    obtain ⟨hlt, hne, hes, hgs⟩ := (groupsOK_cons _ gs).mp hG
    have hmem : ∀ e ∈ es', (n', e) ∈ ungroup ((n', es') :: gs) :=
      fun e h => mem_ungroup.mpr ⟨es', List.mem_cons_self, h⟩
    by_cases hn : xn = n'
    · subst hn
      rw [push_same, groupsOK_cons]
      refine ⟨hlt, List.cons_ne_nil _ _, List.pairwise_cons.mpr ⟨fun e h => ?_, hes⟩, hgs⟩
      have := hx _ (hmem e h)
      rwa [entKey, entKey, cmp_append_left] at this
    · rw [push_other hn, groupsOK_cons]
      -- the first group is not empty: one of its entries shows that its namespace is the larger one
      obtain ⟨e, he⟩ := List.exists_mem_of_ne_nil _ hne
      have hxn : nsLt xn n' := by
        have := hx _ (hmem e he)
        rwa [entKey, entKey, nsEnc_cmp _ _ hxl (hGl _ (hmem e he)) hn] at this
      exact ⟨List.forall_mem_cons.mpr ⟨hxn, fun g hg => cmp_lt_trans hxn (hlt g hg)⟩, List.cons_ne_nil _ _,
        List.pairwise_singleton _ _, hG⟩

theorem group_ok (L : List (Bytes × Bytes × Bytes)) (hlen : ∀ x ∈ L, x.1.length ≤ 255)
    (hs : L.Pairwise (fun a b => cmp (entKey a) (entKey b) = .lt)) : GroupsOK (group L) := by
  induction L with
  | nil => exact ⟨List.Pairwise.nil, nofun, nofun⟩
  | cons x rest ih =>
    rw [List.pairwise_cons] at hs
    rw [List.forall_mem_cons] at hlen
    have hu := ungroup_group rest
    exact push_ok x (group rest) (ih hlen.2 hs.2) hlen.1 (by rw [hu]; exact hlen.2) (by rw [hu]; exact hs.1)

end Rxn.KeyedState
