import RxnModel.Proofs.RescaleSeq
import RxnModel.Proofs.RescaleLevels
/-! What a read of an owned key returns after a multi-handle restore: the replayed memtable holds the last WAL record of the
key's old owner, and the composite level list answers as the old owner's level list, because no other source's table or
record can carry the key: filtered to what concerns the key, the appended WALs are the owner's WAL and the composite's read
order is the owner's (`filter_flatMap_owner`, `view_merged`). -/
namespace Rxn.Rescale
open Rxn Lsm Rxn.Search

theorem walLast_cons (w : WalEntry) (ws : List WalEntry) (k : Bytes) :
    walLast (w :: ws) k = if w.key = k then some ((walLast ws k).getD w) else walLast ws k := by
  unfold walLast
  by_cases h : w.key = k
  · simp [h, List.getLast?_cons]
  · simp [h]

theorem lastBy_eq_walLast_or (wal : List WalEntry) (k : Bytes) (init : Option WalEntry) :
    lastBy (fun w : WalEntry => w.key = k) some wal init = (walLast wal k).or init := by
  induction wal generalizing init with
  | nil => rfl
  | cons w ws ih =>
    show lastBy _ some ws (if w.key = k then some w else init) = _
    rw [ih, walLast_cons]
    by_cases hk : w.key = k
    · rw [if_pos hk, if_pos hk]; cases walLast ws k <;> rfl
    · rw [if_neg hk, if_neg hk]

theorem walLast_eq_lastBy (wal : List WalEntry) (k : Bytes) :
    walLast wal k = lastBy (fun w : WalEntry => w.key = k) some wal none :=
  ((lastBy_eq_walLast_or wal k none).trans (Option.or_none)).symm

theorem walLast_append (a b : List WalEntry) (k : Bytes) : walLast (a ++ b) k = (walLast b k).or (walLast a k) := by
  unfold walLast
  rw [List.filter_append, List.getLast?_append]

theorem walLast_concat (ws : List WalEntry) (w : WalEntry) (k : Bytes) :
    walLast (ws ++ [w]) k = if w.key = k then some w else walLast ws k := by
  rw [walLast_eq_lastBy, lastBy_append, ← walLast_eq_lastBy]
  rfl

theorem replay_lookup (own : Bytes → Bool) (k : Bytes) (hown : own k = true) (wal : List WalEntry) (s : State)
    (hm : s.mems = [[]]) (hr : s.reading = none) :
    ∃ m' n, (wal.foldl (applyWal own) s).mems = [m'] ∧
      m'.lookup k = (walLast wal k).map fun w => wEntry n k w.del w.val := by
  refine foldl_applyWal_inv own
    (fun done s => ∃ m' n, s.mems = [m'] ∧ m'.lookup k = (walLast done k).map fun w => wEntry n k w.del w.val)
    ?_ ?_ wal [] s [] hm hr ⟨[], 0, hm, rfl⟩
  · rintro done s w ho ⟨m', n, hm', hl⟩
    have hk : ¬ w.key = k := fun h => ho (h ▸ hown)
    exact ⟨m', n, hm', by rw [walLast_concat, if_neg hk, hl]⟩
  · rintro done s m w hm _ ⟨m', n, hm', hl⟩
    cases hm.symm.trans hm'
    by_cases hk : w.key = k
    · exact ⟨_, s.seq + 1, rfl, by rw [walLast_concat, if_pos hk, Run.lookup_insert, wEntry_key, if_pos hk, ← hk]; rfl⟩
    · exact ⟨_, n, rfl, by rw [walLast_concat, if_neg hk, Run.lookup_insert, wEntry_key, if_neg hk, hl]⟩

theorem openDB_get (own : Bytes → Bool) (cs : List Ckpt) (hne : cs ≠ []) (k : Bytes) (hown : own k = true) :
    answer (getR (openDB own cs) k) =
      match walLast (compositeDoc cs).wal k with
      | some w => if w.del then none else some w.val
      | none => answer (levelsGetR (compositeDoc cs).levels k) := by
  have hlev := (openDB_replayInv own _ hne).levels
  rw [openDB_of_ne_nil own _ hne] at hlev ⊢
  obtain ⟨m', n, hm', hlook⟩ := replay_lookup own k hown (cs.flatMap (·.wal)) (startState tblEndSeq (mergeLevels cs)) rfl rfl
  unfold getR
  rw [hm', hlev]
  simp only [memGet, List.reverse_cons, List.reverse_nil, List.nil_append, firstSome, compositeDoc, hlook]
  cases walLast (cs.flatMap (·.wal)) k with
  | some w => exact answer_wEntry n k w.del w.val
  | none => rfl

theorem eq_of_perm_of_length_le_one {α : Type} : ∀ (a b : List α), a.Perm b → a.length ≤ 1 → a = b
  | [], b, h, _ => h.nil_eq
  | [x], b, h, _ => (List.singleton_perm.mp h)
  | _ :: _ :: _, _, _, hl => by simp at hl

theorem filter_flatMap_owner {α β : Type} (f : α → List β) (q : β → Bool) (x : List α) (c : α) (y : List α)
    (hx : ∀ a ∈ x, ∀ b ∈ f a, q b = false) (hy : ∀ a ∈ y, ∀ b ∈ f a, q b = false) :
    ((x ++ c :: y).flatMap f).filter q = (f c).filter q := by
  -- by cases and not by `List.filter_eq_nil_iff`, which rests on `Classical.choice`; `C06.level0_lookup_per_source` does not
  have hnil : ∀ z : List α, (∀ a ∈ z, ∀ b ∈ f a, q b = false) → (z.flatMap f).filter q = [] := fun z hz => by
    cases h : (z.flatMap f).filter q with
    | nil => rfl
    | cons b _ =>
      obtain ⟨hbz, hqb⟩ := List.mem_filter.mp (h ▸ List.mem_cons_self : b ∈ (z.flatMap f).filter q)
      obtain ⟨a, ha, hba⟩ := List.mem_flatMap.mp hbz
      rw [hz a ha b hba] at hqb; cases hqb
  rw [List.flatMap_append, List.flatMap_cons, List.filter_append, List.filter_append, hnil x hx, hnil y hy,
    List.nil_append, List.append_nil]

/-- what `Get` of an owned key needs of every old instance `(range, checkpoint)`: its tables and WAL records only carry key
groups of its own range (the condition the open finding D37 violates), its deeper levels are valid, `n` levels -/
structure OldOk (n : Nat) (p : KGRange × Ckpt) : Prop where
  ck : CkptOk p.1 p.2
  wal : ∀ w ∈ p.2.wal, p.1.includes (kgOf w.key) = true
  nlev : p.2.levels.length = n

theorem others_disjoint {pre post : List (KGRange × Ckpt)} {rj : KGRange} {cj : Ckpt}
    (hdis : (pre ++ (rj, cj) :: post).Pairwise (fun a b => a.1.overlaps b.1 = false)) :
    (∀ p ∈ pre, p.1.overlaps rj = false) ∧ (∀ p ∈ post, p.1.overlaps rj = false) := by
  obtain ⟨_, h2, h3⟩ := List.pairwise_append.mp hdis
  exact ⟨fun p hp => h3 p hp (rj, cj) List.mem_cons_self,
    fun p hp => by rw [KGRange.overlaps_comm]; exact (List.pairwise_cons.mp h2).1 p hp⟩

theorem other_tables_miss (x : List (KGRange × Ckpt)) (rj : KGRange)
    (hok : ∀ p ∈ x, CkptOk p.1 p.2) (hother : ∀ p ∈ x, p.1.overlaps rj = false)
    (k : Bytes) (hlen : 2 ≤ k.length) (hk : rj.includes (kgOf k) = true) (i : Nat) :
    ∀ p ∈ x, ∀ t ∈ p.2.levels.getD i [], t.rangeContainsKey k = false := by
  intro p hp t ht
  exact not_contains_of_disjoint p.1 rj t ((hok p hp).of_getD ht).1 k hk hlen (hother p hp)

theorem filter_concatLevel_owner (pre post : List (KGRange × Ckpt)) (rj : KGRange) (cj : Ckpt)
    (hpre : ∀ p ∈ pre, CkptOk p.1 p.2) (hdpre : ∀ p ∈ pre, p.1.overlaps rj = false)
    (hpost : ∀ p ∈ post, CkptOk p.1 p.2) (hdpost : ∀ p ∈ post, p.1.overlaps rj = false)
    (k : Bytes) (hlen : 2 ≤ k.length) (hk : rj.includes (kgOf k) = true) (i : Nat) :
    (concatLevel ((pre ++ (rj, cj) :: post).map (·.2)) i).filter (·.rangeContainsKey k) =
      (cj.levels.getD i []).filter (·.rangeContainsKey k) := by
  rw [concatLevel_pairs]
  exact filter_flatMap_owner _ _ pre (rj, cj) post
    (other_tables_miss pre rj hpre hdpre k hlen hk i) (other_tables_miss post rj hpost hdpost k hlen hk i)

/-- **a key sees, in the composite level list, exactly its old owner's tables, in the owner's read order**: the other
sources' tables cannot contain it, level 0 is appended in handle order, and of a sorted deeper level at most one table
contains it. Reads of the key (`levelsGetR_merged`) and the order of the versions of the key (`newer_merged`) follow. -/
theorem view_merged (n : Nat) (pre post : List (KGRange × Ckpt)) (rj : KGRange) (cj : Ckpt)
    (hok : ∀ p ∈ pre ++ (rj, cj) :: post, OldOk n p)
    (hdis : (pre ++ (rj, cj) :: post).Pairwise (fun a b => a.1.overlaps b.1 = false))
    (k : Bytes) (hlen : 2 ≤ k.length) (hk : rj.includes (kgOf k) = true) :
    view (mergeLevels ((pre ++ (rj, cj) :: post).map (·.2))) k = view cj.levels k := by
  obtain ⟨hdpre, hdpost⟩ := others_disjoint hdis
  have hck : ∀ p ∈ pre ++ (rj, cj) :: post, CkptOk p.1 p.2 := fun p hp => (hok p hp).ck
  have hnl : ∀ c ∈ (pre ++ (rj, cj) :: post).map (·.2), c.levels.length = n := fun c hc => by
    obtain ⟨p, hp, rfl⟩ := List.mem_map.mp hc; exact (hok p hp).nlev
  have hcj : cj.levels.length = n := (hok (rj, cj) (by simp)).nlev
  have hown := filter_concatLevel_owner pre post rj cj (fun p hp => hck p (List.mem_append_left _ hp)) hdpre
    (fun p hp => hck p (List.mem_append_right _ (List.mem_cons_of_mem _ hp))) hdpost k hlen hk
  -- both sides level by level; the owner's level list is the composite of the owner alone
  rw [mergeLevels_eq _ n (by simp) hnl, show cj.levels = mergeLevels [cj] from rfl,
    mergeLevels_eq [cj] n (List.cons_ne_nil _ _) (fun c hc => by cases List.mem_singleton.mp hc; exact hcj)]
  refine view_map_range _ _ n k fun i => ?_
  rw [mergedLevel_single, mergedLevel]
  split
  next => exact hown i
  next hi =>
    -- sorting permutes the level, and at most one table of the sorted (valid) level contains `k`
    have hv := sortLevel_concat_valid _ hck hdis i (Nat.pos_of_ne_zero fun h => hi (Or.inl h))
    exact (eq_of_perm_of_length_le_one _ _ ((List.mergeSort_perm _ tblLe).filter _)
      (filter_contains_le_one hv.rangeUnique k)).trans (hown i)

theorem levelsGetR_merged (n : Nat) (pre post : List (KGRange × Ckpt)) (rj : KGRange) (cj : Ckpt)
    (hok : ∀ p ∈ pre ++ (rj, cj) :: post, OldOk n p)
    (hdis : (pre ++ (rj, cj) :: post).Pairwise (fun a b => a.1.overlaps b.1 = false))
    (k : Bytes) (hlen : 2 ≤ k.length) (hk : rj.includes (kgOf k) = true) :
    levelsGetR (mergeLevels ((pre ++ (rj, cj) :: post).map (·.2))) k = levelsGet cj.levels k := by
  have hv := mergeLevels_tail_valid _ (fun p hp => (hok p hp).ck) hdis
  rw [levelsGetR_eq_of_valid _ hv k, levelsGet_eq_view _ (fun l hl => (hv l hl).rangeUnique) k,
    view_merged n pre post rj cj hok hdis k hlen hk,
    levelsGet_eq_view _ (fun l hl => (tail_of_deeper (hok (rj, cj) (by simp)).ck.deeper l hl).rangeUnique) k]

theorem walLast_merged (n : Nat) (pre post : List (KGRange × Ckpt)) (rj : KGRange) (cj : Ckpt)
    (hok : ∀ p ∈ pre ++ (rj, cj) :: post, OldOk n p)
    (hdis : (pre ++ (rj, cj) :: post).Pairwise (fun a b => a.1.overlaps b.1 = false))
    (k : Bytes) (hk : rj.includes (kgOf k) = true) :
    walLast (compositeDoc ((pre ++ (rj, cj) :: post).map (·.2))).wal k = walLast cj.wal k := by
  obtain ⟨hdpre, hdpost⟩ := others_disjoint hdis
  have hw : ∀ p ∈ pre ++ (rj, cj) :: post, p.1.overlaps rj = false → ∀ w ∈ p.2.wal, (w.key == k) = false :=
    fun p hp hd w hw => beq_false_of_ne (key_ne_of_disjoint p.1 rj w.key k ((hok p hp).wal w hw) hk hd)
  rw [compositeDoc, List.flatMap_map, walLast, filter_flatMap_owner _ _ pre (rj, cj) post
    (fun p hp => hw p (List.mem_append_left _ hp) (hdpre p hp))
    (fun p hp => hw p (List.mem_append_right _ (List.mem_cons_of_mem _ hp)) (hdpost p hp))]
  rfl

end Rxn.Rescale
