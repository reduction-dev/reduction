import RxnModel.Model.JobFsm
import RxnModel.Model.RunnerProc
/-! For C15: the invariant of the job FSM and its preservation by every action.

`step` is taken apart once, by kind of action (`step_facts`): a task of the queue, which ends in `evaluate`; a serial
action off the queue; a piece of a callback. Each changes the store by a `StoreStep`. The invariant, `WriteOk` and the
frame facts are read off these three descriptions. After `reachable*`, single actions and the round `progressActs` are
computed exactly (states as equations), for the C15 theorems that quote them.

A goal `P (if c then a else b)` whose branches are whole states is taken apart with `iteInduction`: `split` simplifies
both branches, which is slow there. -/
namespace Rxn.JobFsm

/-- everything the invariant says except "a Running job has a registered assembly", which is re-established by the
`evaluateClusterStatus` call at the end of every task that changes the registry -/
structure Inv' (s : St) : Prop where
  regLiveO : ∀ i ∈ s.ops, (s.live i).isSome = true
  regLiveS : ∀ i ∈ s.srs, (s.live i).isSome = true
  sortedO : s.ops.Pairwise (· < ·)
  sortedS : s.srs.Pairwise (· < ·)
  tickRun : s.ticker = true ↔ s.status = .running
  asmShape : s.status = .starting ∨ s.status = .running →
    s.asmOps.length = s.w ∧ s.asmSrs.length = s.w ∧ s.asmOps.Nodup ∧ s.asmSrs.Nodup
  startClean : s.ser = true → s.status = .starting → s.store.pending = none
  pendId : ∀ p, s.store.pending = some p → p.id = s.store.counter ∧ ∀ c, s.store.current = some c → c < p.id
  curLe : ∀ c, s.store.current = some c → c ≤ s.store.counter
  pendAsm : s.ser = true → ∀ p, s.store.pending = some p → p.expOps = s.asmOps ∧ p.expSrs = s.asmSrs
  procAsm : s.status = .running → ∀ i ∈ s.asmOps, (s.procs i).deployed = true ∧ (s.procs i).srcs = s.asmSrs
  recSrc : ∀ i rid waiting, (s.procs i).inflight = some (rid, waiting) → ∀ x ∈ waiting, x ∈ (s.procs i).srcs

structure Inv (s : St) : Prop extends Inv' s where
  runHealthy : s.status = .running → healthy s = true

theorem init_inv (w d c0 bmax : Nat) : Inv (init w d c0 bmax) :=
  { regLiveO := fun _ hi => nomatch hi
    regLiveS := fun _ hi => nomatch hi
    sortedO := .nil
    sortedS := .nil
    tickRun := ⟨fun h => (nomatch h), fun h => nomatch h⟩
    asmShape := fun h => h.elim (fun h => nomatch h) (fun h => nomatch h)
    startClean := fun _ h => nomatch h
    pendId := fun _ h => nomatch h
    curLe := fun c hc => by
      have hc : (if c0 = 0 then none else some c0) = some c := hc
      by_cases h0 : c0 = 0
      · rw [if_pos h0] at hc; cases hc
      · rw [if_neg h0] at hc; cases hc; exact Nat.le_refl _
    pendAsm := fun _ _ h => nomatch h
    procAsm := fun h => nomatch h
    recSrc := fun _ _ _ h => nomatch h
    runHealthy := fun h => nomatch h }

/-- what an acknowledgement can do to the store: nothing, record it, or complete the pending snapshot (which is then
being written; the current checkpoint does not change here) -/
def AckStep (st st' : Store) : Prop :=
  st' = st ∨ ∃ p p', st.pending = some p ∧ p'.id = p.id ∧ p'.expOps = p.expOps ∧ p'.expSrs = p.expSrs ∧
    st'.counter = st.counter ∧ st'.current = st.current ∧
    ((st'.pending = some p' ∧ st'.writing = st.writing) ∨ (st'.pending = none ∧ st'.writing = st.writing ++ [p.id]))

theorem finish_ackStep (st : Store) (p p' : Pending) (hp : st.pending = some p) (h1 : p'.id = p.id)
    (h2 : p'.expOps = p.expOps) (h3 : p'.expSrs = p.expSrs) : AckStep st (finish st p').1 := by
  unfold finish
  split
  · exact Or.inr ⟨p, p', hp, h1, h2, h3, rfl, rfl, Or.inr ⟨rfl, by simp [h1]⟩⟩
  · exact Or.inr ⟨p, p', hp, h1, h2, h3, rfl, rfl, Or.inl ⟨rfl, rfl⟩⟩

theorem ackS_ackStep (st : Store) (i id : Nat) : AckStep st (ackS st i id).1 := by
  unfold ackS
  split
  · exact Or.inl rfl
  · rename_i p hp
    split
    · exact Or.inl rfl
    · split
      · exact Or.inl rfl
      · exact finish_ackStep st p _ hp rfl rfl rfl

theorem ackO_ackStep (st : Store) (i id : Nat) : AckStep st (ackO st i id).1 := by
  unfold ackO
  split
  · exact Or.inl rfl
  · rename_i p hp
    split
    · exact Or.inl rfl
    · split
      · exact finish_ackStep st p _ hp rfl rfl rfl
      · exact finish_ackStep st p p hp rfl rfl rfl

theorem AckStep.current {st st' : Store} (h : AckStep st st') : st'.current = st.current := by
  rcases h with e | ⟨p, p', _, _, _, _, _, hc, _⟩
  · rw [e]
  · exact hc

theorem canPublish_iff {st : Store} {n : Nat} :
    canPublish st n = true ↔ n ∈ st.writing ∧ n ≤ st.counter ∧ ∀ p, st.pending = some p → n < p.id := by
  unfold canPublish
  cases st.pending <;> simp [and_assoc]

theorem pubCurrent_spec {cur : Option Nat} {n c : Nat} (h : pubCurrent cur n = some c) {P : Nat → Prop} (hn : P n)
    (hc : ∀ c, cur = some c → P c) : P c := by
  unfold pubCurrent at h
  cases cur with
  | none => cases h; exact hn
  | some c0 =>
    simp only at h
    split at h <;> cases h
    · exact hn
    · exact hc c rfl

theorem pubCurrent_ge (cur : Option Nat) (n : Nat) :
    ∃ c', pubCurrent cur n = some c' ∧ n ≤ c' ∧ ∀ c, cur = some c → c ≤ c' := by
  unfold pubCurrent
  cases cur with
  | none => exact ⟨n, rfl, Nat.le_refl n, fun c h => by cases h⟩
  | some c0 =>
    simp only
    split
    · rename_i hlt
      exact ⟨n, rfl, Nat.le_refl n, fun c h => by cases h; exact Nat.le_of_lt hlt⟩
    · rename_i hge
      exact ⟨c0, rfl, Nat.le_of_not_lt hge, fun c h => by cases h; exact Nat.le_refl _⟩

theorem pubCurrent_above {cur : Option Nat} {n : Nat} (h : ∀ c, cur = some c → c < n) : pubCurrent cur n = some n := by
  cases cur with
  | none => rfl
  | some c => exact if_pos (h c rfl)

inductive StoreStep (st : Store) : Store → Prop
  | ack {st'} : AckStep st st' → StoreStep st st'
  | create (p : Pending) : st.pending = none → p.id = st.counter + 1 →
      StoreStep st { st with counter := st.counter + 1, pending := some p }
  | join (p : Pending) : st.pending = some p → StoreStep st { st with pending := some { p with sp := true } }
  | abandon : StoreStep st { st with pending := none }
  | publish (n : Nat) : canPublish st n = true →
      StoreStep st { st with writing := st.writing.erase n, current := pubCurrent st.current n }

theorem storeStep_refl (st : Store) : StoreStep st st := .ack (Or.inl rfl)

theorem storeStep_current {st st' : Store} (h : StoreStep st st') :
    st'.current = st.current ∨ ∃ n, st'.current = pubCurrent st.current n := by
  cases h with
  | ack ha => exact Or.inl ha.current
  | publish n _ => exact Or.inr ⟨n, rfl⟩
  | _ => exact Or.inl rfl

/-- the invariant's clauses `Inv'.pendId` and `Inv'.curLe`, which speak of the store alone -/
def StoreIds (st : Store) : Prop :=
  (∀ p, st.pending = some p → p.id = st.counter ∧ ∀ c, st.current = some c → c < p.id) ∧
  ∀ c, st.current = some c → c ≤ st.counter

theorem storeStep_ids {st st' : Store} (h : StoreStep st st') (ok : StoreIds st) : StoreIds st' := by
  obtain ⟨hpend, hcur⟩ := ok
  cases h with
  | ack ha =>
    rcases ha with e | ⟨p, p', hp, h1, _, _, hc, hcc, hcase⟩
    · rw [e]; exact ⟨hpend, hcur⟩
    · rw [StoreIds, hc, hcc]
      refine ⟨?_, hcur⟩
      intro q hq
      rcases hcase with ⟨hq', _⟩ | ⟨hq', _⟩
      · rw [hq'] at hq; cases hq; rw [h1]; exact hpend p hp
      · rw [hq'] at hq; cases hq
  | create p hp hid =>
    refine ⟨?_, fun c hc => Nat.le_succ_of_le (hcur c hc)⟩
    intro q hq
    cases hq
    exact ⟨hid, fun c hc => by rw [hid]; exact Nat.lt_succ_of_le (hcur c hc)⟩
  | join p hp =>
    refine ⟨?_, hcur⟩
    intro q hq
    cases hq
    exact hpend p hp
  | abandon => exact ⟨fun q hq => (nomatch hq), hcur⟩
  | publish n hn =>
    obtain ⟨_, hle, hlt⟩ := canPublish_iff.mp hn
    exact ⟨fun p hp => ⟨(hpend p hp).1, fun c hc => pubCurrent_spec hc (hlt p hp) (hpend p hp).2⟩,
      fun c hc => pubCurrent_spec hc hle hcur⟩

/-- ids of snapshots being written have been reached by the counter and lie below a pending snapshot's id -/
def WriteOk (s : St) : Prop :=
  ∀ n ∈ s.store.writing, n ≤ s.store.counter ∧ ∀ p, s.store.pending = some p → n < p.id

theorem storeStep_writeOk {s t : St} (h : StoreStep s.store t.store) (ok : StoreIds s.store) (hw : WriteOk s) :
    WriteOk t := by
  unfold WriteOk
  generalize t.store = st' at h
  cases h with
  | ack ha =>
    rcases ha with e | ⟨p, p', hp, h1, _, _, hc, _, hcase⟩
    · rw [e]; exact hw
    · rw [hc]
      rcases hcase with ⟨hq, hwr⟩ | ⟨hq, hwr⟩
      · rw [hq, hwr]
        intro n hn
        refine ⟨(hw n hn).1, ?_⟩
        intro q hqq; cases hqq
        rw [h1]; exact (hw n hn).2 p hp
      · rw [hq, hwr]
        intro n hn
        refine ⟨?_, fun q hqq => by cases hqq⟩
        rcases List.mem_append.mp hn with hm | hm
        · exact (hw n hm).1
        · rw [List.mem_singleton.mp hm, (ok.1 p hp).1]; exact Nat.le_refl _
  | create p hp hid =>
    intro n hn
    have := (hw n hn).1
    refine ⟨Nat.le_succ_of_le this, ?_⟩
    intro q hq; cases hq
    rw [hid]; exact Nat.lt_succ_of_le this
  | join p hp =>
    intro n hn
    refine ⟨(hw n hn).1, ?_⟩
    intro q hq; cases hq
    exact (hw n hn).2 p hp
  | abandon => exact fun n hn => ⟨(hw n hn).1, fun q hq => by cases hq⟩
  | publish m _ => exact fun n hn => hw n (List.mem_of_mem_erase hn)

theorem purge_kept {s : St} {l : List Nat} {i : Nat} (hl : ∀ j ∈ l, (s.live j).isSome = true)
    (hi : i ∈ l.filter fun j => !dead s j) : alive (purge s) i := by
  have hm := List.mem_filter.mp hi
  obtain ⟨hb, hhb⟩ := Option.isSome_iff_exists.mp (hl i hm.1)
  have hx : expired s.d s.now hb = false := by simpa [dead, hhb] using hm.2
  refine ⟨hb, ?_, hx⟩
  show (match s.live i with
    | some hb => if expired s.d s.now hb then none else some hb
    | none => none) = some hb
  rw [hhb]
  exact if_neg (by rw [hx]; decide)

theorem purge_inv' {s : St} (h : Inv' s) : Inv' (purge s) where
  regLiveO := fun i hi => by obtain ⟨hb, e, _⟩ := purge_kept h.regLiveO hi; rw [e]; rfl
  regLiveS := fun i hi => by obtain ⟨hb, e, _⟩ := purge_kept h.regLiveS hi; rw [e]; rfl
  sortedO := List.Pairwise.sublist List.filter_sublist h.sortedO
  sortedS := List.Pairwise.sublist List.filter_sublist h.sortedS
  tickRun := h.tickRun
  asmShape := h.asmShape
  startClean := h.startClean
  pendId := h.pendId
  curLe := h.curLe
  pendAsm := h.pendAsm
  procAsm := h.procAsm
  recSrc := h.recSrc

theorem take_shape {l : List Nat} {w : Nat} (hs : l.Pairwise (· < ·)) (hw : w ≤ l.length) :
    (l.take w).length = w ∧ (l.take w).Nodup :=
  ⟨List.length_take.trans (Nat.min_eq_left hw), (List.Pairwise.sublist (List.take_sublist _ _) hs).imp Nat.ne_of_lt⟩

/-- the outcomes of `evaluateClusterStatus` after the purge; `deploy` is the `StatusInit, StatusPaused` arm, the only
one with a `Dep` -/
inductive EvalCase (s : St) : St × Option Dep → Prop
  | idle : (s.status = .running → healthy (purge s) = true) → EvalCase s (purge s, none)
  | pause : s.status = .running → healthy (purge s) = false →
      EvalCase s ({ purge s with status := .paused, ticker := false }, none)
  | deploy : s.status ≠ .running → s.w ≤ (purge s).srs.length → s.w ≤ (purge s).ops.length →
      EvalCase s ({ purge s with status := .starting, asmOps := (purge s).ops.take s.w, asmSrs := (purge s).srs.take s.w,
                                 startCk := s.store.current, store := { s.store with pending := none } },
                  some ⟨(purge s).ops.take s.w, (purge s).srs.take s.w, s.store.current⟩)

theorem evaluate_cases (s : St) : EvalCase s (evaluate s) := by
  unfold evaluate evalStatus
  cases hst : (purge s).status with
  | running =>
    exact iteInduction (fun hh => .idle fun _ => hh) (fun hh => .pause hst (Bool.eq_false_iff.mpr hh))
  | starting => exact .idle fun hr => nomatch hr.symm.trans hst
  | init | paused =>
    have hnr : s.status ≠ .running := fun hr => nomatch hr.symm.trans hst
    unfold spawn
    refine iteInduction (fun _ => .idle fun hr => absurd hr hnr) fun h => ?_
    rw [Bool.or_eq_true, decide_eq_true_eq, decide_eq_true_eq, not_or, Nat.not_lt, Nat.not_lt] at h
    exact .deploy hnr h.1 h.2

/-- the facts about a `Deploy` that `evaluateClusterStatus` decides in state `s`, leaving state `s'` -/
structure DepFacts (s s' : St) (dep : Dep) : Prop where
  ops : dep.ops = s'.asmOps
  srs : dep.srs = s'.asmSrs
  opsLen : dep.ops.length = s.w
  srsLen : dep.srs.length = s.w
  opsNodup : dep.ops.Nodup
  srsNodup : dep.srs.Nodup
  opsLive : ∀ i ∈ dep.ops, i ∈ s'.ops ∧ alive s' i
  srsLive : ∀ i ∈ dep.srs, i ∈ s'.srs ∧ alive s' i
  starting : s'.status = .starting
  ckRead : dep.ck = s.store.current
  ckNow : dep.ck = s'.store.current
  startCk : s'.startCk = dep.ck

theorem evaluate_inv {s : St} (h : Inv' s) :
    Inv (evaluate s).1 ∧ ∀ dep, (evaluate s).2 = some dep → DepFacts s (evaluate s).1 dep := by
  have hp := purge_inv' h
  have hc := evaluate_cases s
  generalize evaluate s = r at hc
  cases hc with
  | idle hh => exact ⟨⟨hp, hh⟩, fun _ hd => nomatch hd⟩
  | pause _ _ =>
    refine ⟨?_, fun _ hd => nomatch hd⟩
    exact { hp with
      tickRun := ⟨fun ht => (nomatch ht), fun hr => nomatch hr⟩
      asmShape := fun hr => hr.elim (fun hr => nomatch hr) (fun hr => nomatch hr)
      startClean := fun _ hr => nomatch hr
      procAsm := fun hr => nomatch hr
      runHealthy := fun hr => nomatch hr }
  | deploy hnr hls hlo =>
    have ho := take_shape hp.sortedO hlo
    have hsr := take_shape hp.sortedS hls
    refine ⟨?_, fun dep hd => ?_⟩
    · exact { hp with
        tickRun := ⟨fun ht => absurd (h.tickRun.mp ht) hnr, fun hr => nomatch hr⟩
        asmShape := fun _ => ⟨ho.1, hsr.1, ho.2, hsr.2⟩
        startClean := fun _ _ => rfl
        pendId := fun _ hq => nomatch hq
        pendAsm := fun _ _ hq => nomatch hq
        procAsm := fun hr => nomatch hr
        runHealthy := fun hr => nomatch hr }
    · cases hd
      exact { ops := rfl, srs := rfl, opsLen := ho.1, srsLen := hsr.1, opsNodup := ho.2, srsNodup := hsr.2
              opsLive := fun i hi => ⟨List.mem_of_mem_take hi, purge_kept h.regLiveO (List.mem_of_mem_take hi)⟩
              srsLive := fun i hi => ⟨List.mem_of_mem_take hi, purge_kept h.regLiveS (List.mem_of_mem_take hi)⟩
              starting := rfl, ckRead := rfl, ckNow := rfl, startCk := rfl }

theorem evaluate_running_cases {s : St} (h : s.status = .running) (ht : s.ticker = true) :
    ((evaluate s).1.status = .running ∧ healthy (evaluate s).1 = true ∧ (evaluate s).1.ticker = true) ∨
    ((evaluate s).1.status = .paused ∧ healthy (evaluate s).1 = false ∧ (evaluate s).1.ticker = false) := by
  have hc := evaluate_cases s
  generalize evaluate s = r at hc
  cases hc with
  | idle hh => exact Or.inl ⟨h, hh h, ht⟩
  | pause _ hh => exact Or.inr ⟨rfl, hh, rfl⟩
  | deploy hn _ _ => exact absurd h hn

structure EvalFrame (s : St) (r : St × Option Dep) : Prop where
  w : r.1.w = s.w
  ser : r.1.ser = s.ser
  procs : r.1.procs = s.procs
  store : StoreStep s.store r.1.store
  noDep : r.2 = none → r.1.startCk = s.startCk ∧ r.1.store = s.store ∧ r.1.asmOps = s.asmOps ∧ r.1.asmSrs = s.asmSrs
  running : s.status = .running → r.2 = none

theorem evaluate_frame (s : St) : EvalFrame s (evaluate s) := by
  have hc := evaluate_cases s
  generalize evaluate s = r at hc
  cases hc with
  | idle _ => exact ⟨rfl, rfl, rfl, storeStep_refl _, fun _ => ⟨rfl, rfl, rfl, rfl⟩, fun _ => rfl⟩
  | pause _ _ => exact ⟨rfl, rfl, rfl, storeStep_refl _, fun _ => ⟨rfl, rfl, rfl, rfl⟩, fun _ => rfl⟩
  | deploy hn _ _ => exact ⟨rfl, rfl, rfl, .abandon, fun h => (nomatch h), fun h => absurd h hn⟩

theorem setProc_self (f : Nat → OpProc) (i : Nat) (a : OpProc) : setProc f i a i = a := if_pos rfl

theorem setProc_other (f : Nat → OpProc) (i j : Nat) (a : OpProc) (h : j ≠ i) : setProc f i a j = f j := if_neg h

theorem setProc_setProc (f : Nat → OpProc) (i : Nat) (a b : OpProc) : setProc (setProc f i a) i b = setProc f i b := by
  funext j; unfold setProc; split <;> rfl

/-- the invariant's clause `Inv'.recSrc` for one operator process -/
def RecOk (p : OpProc) : Prop := ∀ rid waiting, p.inflight = some (rid, waiting) → ∀ x ∈ waiting, x ∈ p.srcs

def SameDeployment (f f' : Nat → OpProc) : Prop :=
  ∀ j, (f' j).deployed = (f j).deployed ∧ (f' j).srcs = (f j).srcs ∧ (RecOk (f j) → RecOk (f' j))

theorem sameDeployment_refl (f : Nat → OpProc) : SameDeployment f f := fun _ => ⟨rfl, rfl, id⟩

theorem sameDeployment_setProc (f : Nat → OpProc) (i : Nat) (p' : OpProc) (hd : p'.deployed = (f i).deployed)
    (hs : p'.srcs = (f i).srcs) (hr : RecOk (f i) → RecOk p') : SameDeployment f (setProc f i p') := by
  intro j
  by_cases e : j = i
  · rw [e, setProc_self]; exact ⟨hd, hs, hr⟩
  · rw [setProc_other _ _ _ _ e]; exact ⟨rfl, rfl, id⟩

/-- what a serial action off the queue can do to the store: as `StoreStep`, but nothing is abandoned and a snapshot is
only created by the Running job (the ticker exists) for its assembly -/
inductive SerialStore (s : St) : Store → Prop
  | ack {st'} : AckStep s.store st' → SerialStore s st'
  | create (p : Pending) : s.store.pending = none → p.id = s.store.counter + 1 → s.ticker = true ∨ s.status = .running →
      p.expOps = s.asmOps → p.expSrs = s.asmSrs →
      SerialStore s { s.store with counter := s.store.counter + 1, pending := some p }
  | join (p : Pending) : s.store.pending = some p → SerialStore s { s.store with pending := some { p with sp := true } }
  | publish (n : Nat) : canPublish s.store n = true →
      SerialStore s { s.store with writing := s.store.writing.erase n, current := pubCurrent s.store.current n }

theorem serialStore_step {s : St} {st' : Store} (h : SerialStore s st') : StoreStep s.store st' := by
  cases h with
  | ack ha => exact .ack ha
  | create p hp hid _ _ _ => exact .create p hp hid
  | join p hp => exact .join p hp
  | publish n hc => exact .publish n hc

theorem serialStore_pending {s : St} {st' : Store} (h : SerialStore s st') {q : Pending} (hq : st'.pending = some q) :
    (∃ p, s.store.pending = some p ∧ q.expOps = p.expOps ∧ q.expSrs = p.expSrs) ∨
    ((s.ticker = true ∨ s.status = .running) ∧ q.expOps = s.asmOps ∧ q.expSrs = s.asmSrs) := by
  cases h with
  | ack ha =>
    rcases ha with e | ⟨p, p', hp, _, h2, h3, _, _, hcase⟩
    · exact Or.inl ⟨q, e ▸ hq, rfl, rfl⟩
    · rcases hcase with ⟨hq', _⟩ | ⟨hq', _⟩
      · rw [hq'] at hq; cases hq
        exact Or.inl ⟨p, hp, h2, h3⟩
      · rw [hq'] at hq; cases hq
  | create p _ _ hr h2 h3 => cases hq; exact Or.inr ⟨hr, h2, h3⟩
  | join p hp => cases hq; exact Or.inl ⟨p, hp, rfl, rfl⟩
  | publish n _ => exact Or.inl ⟨q, hq, rfl, rfl⟩

/-- the footprint of a serial action that is not a task of the queue -/
def OffQueueStep (s : St) (r : St × Out) : Prop :=
  ∃ now' st' procs', r.1 = { s with now := now', store := st', procs := procs' } ∧ SerialStore s st' ∧
    SameDeployment s.procs procs' ∧ r.2.dep? = none

theorem offQueue_store (s : St) {st' : Store} (hs : SerialStore s st') {o : Out} (ho : o.dep? = none) :
    OffQueueStep s ({ s with store := st' }, o) :=
  ⟨s.now, st', s.procs, rfl, hs, sameDeployment_refl _, ho⟩

theorem offQueue_refl (s : St) {o : Out} (ho : o.dep? = none) : OffQueueStep s (s, o) :=
  offQueue_store s (.ack (Or.inl rfl)) ho

theorem offQueue_proc (s : St) (i : Nat) {o : Out} (ho : o.dep? = none) (p' : OpProc)
    (hd : p'.deployed = (s.procs i).deployed) (hs : p'.srcs = (s.procs i).srcs) (hr : RecOk (s.procs i) → RecOk p') :
    OffQueueStep s ({ s with procs := setProc s.procs i p' }, o) :=
  ⟨s.now, s.store, _, rfl, .ack (Or.inl rfl), sameDeployment_setProc _ i p' hd hs hr, ho⟩

theorem register_offQueue (s : St) (i sr id rid : Nat) (waiting : List Nat)
    (hw : RecOk (s.procs i) → ∀ x ∈ waiting, x ∈ (s.procs i).srcs) :
    OffQueueStep s (register s i sr id rid waiting) := by
  unfold register
  refine iteInduction (fun _ => offQueue_refl s rfl) fun _ => ?_
  refine iteInduction (fun _ => ?_) fun _ => ?_
  · have ha := ackO_ackStep s.store i rid
    generalize ackO s.store i rid = r at ha
    obtain ⟨st', res⟩ := r
    cases res with
    | ok pub =>
      exact ⟨s.now, st', _, rfl, .ack ha, sameDeployment_setProc _ i _ rfl rfl (fun _ _ _ hh => nomatch hh), rfl⟩
    | _ => exact offQueue_proc s i rfl _ rfl rfl (fun _ _ _ hh => by cases hh; exact fun x hx => nomatch hx)
  · refine offQueue_proc s i rfl _ rfl rfl ?_
    intro hr _ _ hh
    cases hh
    exact fun x hx => hw hr x (List.mem_filter.mp hx).1

theorem barrier_offQueue (s : St) (i sr id : Nat) : OffQueueStep s (barrier s i sr id) := by
  unfold barrier
  refine iteInduction (fun _ => offQueue_refl s rfl) fun _ => ?_
  refine iteInduction (fun _ => offQueue_refl s rfl) fun _ => ?_
  refine iteInduction (fun _ => offQueue_refl s rfl) fun _ => ?_
  apply register_offQueue
  intro hr
  cases hi : (s.procs i).inflight with
  | none => exact fun x hx => hx
  | some r => exact hr r.1 r.2 hi

theorem event_offQueue (s : St) (i sr tag : Nat) : OffQueueStep s (event s i sr tag) := by
  unfold event
  refine iteInduction (fun _ => offQueue_refl s rfl) fun _ => ?_
  refine iteInduction (fun _ => offQueue_refl s rfl) fun _ => ?_
  refine iteInduction (fun _ => offQueue_refl s rfl) fun _ => ?_
  exact iteInduction (fun _ => offQueue_proc s i rfl _ rfl rfl id) fun _ => offQueue_proc s i rfl _ rfl rfl id

theorem flush_offQueue (s : St) (i : Nat) : OffQueueStep s (flushBatch s i) :=
  iteInduction (fun _ => offQueue_refl s rfl) fun _ => offQueue_proc s i rfl _ rfl rfl id

theorem step_offQueue (s : St) (a : Act) (hq : a.usesQueue = false) (hs : a.serial = true) :
    OffQueueStep s (step s a) := by
  cases a with
  | adv n => exact ⟨_, s.store, s.procs, rfl, .ack (Or.inl rfl), sameDeployment_refl _, rfl⟩
  | tick =>
    refine iteInduction (fun _ => offQueue_refl s rfl) fun ht => ?_
    cases hp : s.store.pending with
    | some _ => exact offQueue_refl s rfl
    | none => exact offQueue_store s (.create _ hp rfl (Or.inl (by simpa using ht)) rfl rfl) rfl
  | savepoint =>
    refine iteInduction (fun _ => offQueue_refl s rfl) fun hr => ?_
    cases hp : s.store.pending with
    | some p =>
      exact iteInduction (fun _ => offQueue_refl s rfl) fun _ => offQueue_store s (.join p hp) rfl
    | none => exact offQueue_store s (.create _ hp rfl (Or.inr (by simpa using hr)) rfl rfl) rfl
  | ackS i id => exact offQueue_store s (.ack (ackS_ackStep _ _ _)) rfl
  | ackO i id => exact offQueue_store s (.ack (ackO_ackStep _ _ _)) rfl
  | bar i sr id => exact barrier_offQueue s i sr id
  | ev i sr tag => exact event_offQueue s i sr tag
  | flush i => exact flush_offQueue s i
  | publish n =>
    exact iteInduction (fun hc => offQueue_store s (.publish n hc) rfl) fun _ => offQueue_refl s rfl
  | regO i | regS i | deregO i | deregS i | deployOk | deployFail k => cases hq
  | tickA | tickB | tickC | spA => cases hs

/-- the footprint of a piece of a callback (`serial = false`) -/
def PieceStep (s : St) (r : St × Out) : Prop :=
  (r.1 = s ∨ ∃ st' tk', StoreStep s.store st' ∧ r.1 = { s with store := st', tk := tk', ser := false }) ∧ r.2.dep? = none

theorem step_piece (s : St) (a : Act) (ha : a.serial = false) : PieceStep s (step s a) := by
  cases a with
  | tickA =>
    refine iteInduction (fun _ => ⟨Or.inl rfl, rfl⟩) fun _ => ?_
    exact iteInduction (fun _ => ⟨Or.inl rfl, rfl⟩) fun _ => ⟨Or.inr ⟨_, _, storeStep_refl _, rfl⟩, rfl⟩
  | spA =>
    refine iteInduction (fun _ => ⟨Or.inl rfl, rfl⟩) fun _ => ?_
    exact iteInduction (fun _ => ⟨Or.inl rfl, rfl⟩) fun _ => ⟨Or.inr ⟨_, _, storeStep_refl _, rfl⟩, rfl⟩
  | tickC =>
    simp only [step]
    cases s.tk with
    | none => exact ⟨Or.inl rfl, rfl⟩
    | some t =>
      obtain ⟨ops, start, sp⟩ := t
      cases start with
      | none => exact ⟨Or.inl rfl, rfl⟩
      | some r => exact ⟨Or.inr ⟨_, _, storeStep_refl _, rfl⟩, rfl⟩
  | tickB =>
    simp only [step]
    cases s.tk with
    | none => exact ⟨Or.inl rfl, rfl⟩
    | some t =>
      obtain ⟨ops, start, sp⟩ := t
      cases start with
      | some r => exact ⟨Or.inl rfl, rfl⟩
      | none =>
        cases hp : s.store.pending with
        | none => exact ⟨Or.inr ⟨_, _, .create _ hp rfl, rfl⟩, rfl⟩
        | some p =>
          refine iteInduction (fun _ => ⟨Or.inr ⟨_, _, storeStep_refl _, rfl⟩, rfl⟩) fun _ => ?_
          exact iteInduction (fun _ => ⟨Or.inr ⟨_, _, storeStep_refl _, rfl⟩, rfl⟩)
            fun _ => ⟨Or.inr ⟨_, _, .join p hp, rfl⟩, rfl⟩
  | _ => cases ha

theorem ins_nil (i : Nat) : ins i [] = [i] := rfl

theorem ins_cons (i x : Nat) (xs : List Nat) :
    ins i (x :: xs) = if i < x then i :: x :: xs else if i = x then x :: xs else x :: ins i xs := rfl

theorem mem_ins (i j : Nat) (l : List Nat) : j ∈ ins i l ↔ j = i ∨ j ∈ l := by
  induction l with
  | nil => rw [ins_nil]; simp
  | cons x xs ih =>
    rw [ins_cons]
    refine iteInduction (motive := fun l' => j ∈ l' ↔ j = i ∨ j ∈ x :: xs) (fun _ => List.mem_cons) fun _ => ?_
    refine iteInduction (motive := fun l' => j ∈ l' ↔ j = i ∨ j ∈ x :: xs) (fun e => ?_) fun _ => ?_
    · rw [e]; exact ⟨Or.inr, fun h => h.elim (fun h => by rw [h]; exact List.mem_cons_self ..) id⟩
    · rw [List.mem_cons, ih, List.mem_cons]; exact or_left_comm

theorem sorted_ins (i : Nat) (l : List Nat) (h : l.Pairwise (· < ·)) : (ins i l).Pairwise (· < ·) := by
  induction l with
  | nil => exact List.pairwise_singleton ..
  | cons x xs ih =>
    have hx := List.pairwise_cons.mp h
    rw [ins_cons]
    refine iteInduction (fun hlt => ?_) fun h1 => ?_
    · refine List.pairwise_cons.mpr ⟨?_, h⟩
      intro y hy
      rcases List.mem_cons.mp hy with e | hy
      · rw [e]; exact hlt
      · exact Nat.lt_trans hlt (hx.1 y hy)
    · refine iteInduction (fun _ => h) fun h2 => ?_
      refine List.pairwise_cons.mpr ⟨?_, ih hx.2⟩
      intro y hy
      rcases (mem_ins i y xs).mp hy with e | hy
      · rw [e]; exact Nat.lt_of_le_of_ne (Nat.le_of_not_lt h1) (Ne.symm h2)
      · exact hx.1 y hy

theorem isSome_heartbeat (live : Nat → Option Nat) (i now j : Nat) (h : j = i ∨ (live j).isSome = true) :
    (if j = i then some now else live j).isSome = true :=
  iteInduction (motive := fun o : Option Nat => o.isSome = true) (fun _ => rfl) fun ne => h.elim (fun e => absurd e ne) id

theorem inv'_regO {s : St} (h : Inv' s) (i : Nat) :
    Inv' { s with live := fun j => if j = i then some s.now else s.live j, ops := ins i s.ops } :=
  { h with
    regLiveO := fun j hj => isSome_heartbeat _ _ _ _ (((mem_ins i j s.ops).mp hj).imp_right (h.regLiveO j))
    regLiveS := fun j hj => isSome_heartbeat _ _ _ _ (Or.inr (h.regLiveS j hj))
    sortedO := sorted_ins i _ h.sortedO }

theorem inv'_regS {s : St} (h : Inv' s) (i : Nat) :
    Inv' { s with live := fun j => if j = i then some s.now else s.live j, srs := ins i s.srs } :=
  { h with
    regLiveO := fun j hj => isSome_heartbeat _ _ _ _ (Or.inr (h.regLiveO j hj))
    regLiveS := fun j hj => isSome_heartbeat _ _ _ _ (((mem_ins i j s.srs).mp hj).imp_right (h.regLiveS j))
    sortedS := sorted_ins i _ h.sortedS }

theorem inv'_deregO {s : St} (h : Inv' s) (i : Nat) : Inv' { s with ops := s.ops.filter (· ≠ i) } :=
  { h with
    regLiveO := fun j hj => h.regLiveO j (List.mem_filter.mp hj).1
    sortedO := List.Pairwise.sublist List.filter_sublist h.sortedO }

theorem inv'_deregS {s : St} (h : Inv' s) (i : Nat) : Inv' { s with srs := s.srs.filter (· ≠ i) } :=
  { h with
    regLiveS := fun j hj => h.regLiveS j (List.mem_filter.mp hj).1
    sortedS := List.Pairwise.sublist List.filter_sublist h.sortedS }

theorem deployProcs_mem (s : St) (skip : Option Nat) (j : Nat) (hj : j ∈ s.asmOps) (hs : skip ≠ some j) :
    (deployProcs s skip j).deployed = true ∧ (deployProcs s skip j).srcs = s.asmSrs ∧
    (deployProcs s skip j).inflight = none ∧ (deployProcs s skip j).batch = (s.procs j).batch := by
  have hc : (s.asmOps.contains j && skip != some j) = true := by simp [hj, hs]
  unfold deployProcs
  rw [if_pos hc]
  exact ⟨rfl, rfl, rfl, rfl⟩

theorem deployProcs_recOk {s : St} (h : Inv' s) (skip : Option Nat) (i : Nat) : RecOk (deployProcs s skip i) := by
  unfold deployProcs
  refine iteInduction (fun _ _ _ hh => nomatch hh) fun _ => h.recSrc i

theorem inv'_deployOk {s : St} (h : Inv' s) (hs : s.status = .starting) :
    Inv' { s with procs := deployProcs s none, status := .running, ticker := true } :=
  { h with
    tickRun := ⟨fun _ => rfl, fun _ => rfl⟩
    asmShape := fun _ => h.asmShape (Or.inl hs)
    startClean := fun _ hr => nomatch hr
    procAsm := fun _ i hi =>
      have hd := deployProcs_mem s none i hi (fun e => nomatch e)
      ⟨hd.1, hd.2.1⟩
    recSrc := deployProcs_recOk h none }

theorem inv'_deployFail {s : St} (h : Inv' s) (skip : Option Nat) :
    Inv' { s with procs := deployProcs s skip, status := .paused, ticker := false } :=
  { h with
    tickRun := ⟨fun ht => (nomatch ht), fun hr => nomatch hr⟩
    asmShape := fun hr => hr.elim (fun hr => nomatch hr) (fun hr => nomatch hr)
    startClean := fun _ hr => nomatch hr
    procAsm := fun hr => nomatch hr
    recSrc := deployProcs_recOk h skip }

/-- a task of the queue does nothing (a deployment result when no deployment is in flight), or makes a change `s1` that
keeps `Inv'` and ends in `evaluateClusterStatus`, which alone decides a deployment -/
inductive QueueStep (s : St) (r : St × Out) : Prop
  | nostart : r = (s, .nostart) → QueueStep s r
  | task (s1 : St) (state : r.1 = (evaluate s1).1) (dep : r.2.dep? = (evaluate s1).2) (inv : Inv' s → Inv' s1)
      (w : s1.w = s.w) (ser : s1.ser = s.ser) (startCk : s1.startCk = s.startCk) (store : s1.store = s.store) :
      QueueStep s r

theorem step_queue (s : St) (a : Act) (hq : a.usesQueue = true) : QueueStep s (step s a) := by
  cases a with
  | regO i => exact .task _ rfl rfl (fun h => inv'_regO h i) rfl rfl rfl rfl
  | regS i => exact .task _ rfl rfl (fun h => inv'_regS h i) rfl rfl rfl rfl
  | deregO i => exact .task _ rfl rfl (fun h => inv'_deregO h i) rfl rfl rfl rfl
  | deregS i => exact .task _ rfl rfl (fun h => inv'_deregS h i) rfl rfl rfl rfl
  | deployOk =>
    refine iteInduction (fun _ => .nostart rfl) fun hs => ?_
    -- the output `.started ..` carries no `Dep`, and `evaluateClusterStatus` on a Running job decides none
    exact .task _ rfl ((evaluate_frame _).running rfl).symm (fun h => inv'_deployOk h (Decidable.not_not.mp hs))
      rfl rfl rfl rfl
  | deployFail k =>
    exact iteInduction (fun _ => .nostart rfl) fun _ =>
      .task _ rfl rfl (fun h => inv'_deployFail h _) rfl rfl rfl rfl
  | _ => cases hq

theorem inv_local {s : St} (h : Inv s) {now' : Nat} {st' : Store} {procs' : Nat → OpProc} {tk' : Option Tick} {b' : Bool}
    (hs : StoreStep s.store st') (hp : SameDeployment s.procs procs')
    (hclean : b' = true → s.status = .starting → st'.pending = none)
    (hasm : b' = true → ∀ p, st'.pending = some p → p.expOps = s.asmOps ∧ p.expSrs = s.asmSrs) :
    Inv { s with now := now', store := st', procs := procs', tk := tk', ser := b' } :=
  have ok := storeStep_ids hs ⟨h.pendId, h.curLe⟩
  { h with
    startClean := hclean, pendId := ok.1, curLe := ok.2, pendAsm := hasm
    procAsm := fun hr j hj => ⟨(hp j).1.trans (h.procAsm hr j hj).1, (hp j).2.1.trans (h.procAsm hr j hj).2⟩
    recSrc := fun j => (hp j).2.2 (h.recSrc j) }

theorem inv_offQueue {s : St} (h : Inv s) {r : St × Out} (ho : OffQueueStep s r) : Inv r.1 := by
  obtain ⟨now', st', procs', e, hs, hp, _⟩ := ho
  rw [e]
  refine inv_local h (serialStore_step hs) hp ?_ ?_
  · intro hser hst
    cases hq : st'.pending with
    | none => rfl
    | some q =>
      -- while Starting nothing is pending and the ticker is stopped
      rcases serialStore_pending hs hq with ⟨p, hp, _⟩ | ⟨hr, _⟩
      · rw [h.startClean hser hst] at hp; cases hp
      · rw [hr.elim h.tickRun.mp id] at hst; cases hst
  · intro hser q hq
    rcases serialStore_pending hs hq with ⟨p, hp, e1, e2⟩ | ⟨_, e⟩
    · exact ⟨e1.trans (h.pendAsm hser p hp).1, e2.trans (h.pendAsm hser p hp).2⟩
    · exact e

/-- what holds of every action; `step` is taken apart here, by kind of action, and nowhere else -/
structure StepFacts (s : St) (a : Act) (r : St × Out) : Prop where
  inv : Inv s → Inv r.1
  w : r.1.w = s.w
  store : StoreStep s.store r.1.store
  ser : a.serial = true → r.1.ser = s.ser
  /-- the checkpoint a deployment restores from is fixed by the step that decides it; no other step touches it -/
  startCk : r.2.dep? = none → r.1.startCk = s.startCk
  /-- only a task of the queue decides a deployment, in the `evaluateClusterStatus` it ends with -/
  dep : Inv s → ∀ d, r.2.dep? = some d → DepFacts s r.1 d

theorem StepFacts.of_local {s : St} {a : Act} {r : St × Out} {now' : Nat} {st' : Store} {procs' : Nat → OpProc}
    {tk' : Option Tick} {b' : Bool} (e : r.1 = { s with now := now', store := st', procs := procs', tk := tk', ser := b' })
    (hst : StoreStep s.store st') (hinv : Inv s → Inv r.1) (hser : a.serial = true → b' = s.ser)
    (hd : r.2.dep? = none) : StepFacts s a r :=
  { inv := hinv, w := by rw [e], store := by rw [e]; exact hst, ser := fun h => by rw [e]; exact hser h,
    startCk := fun _ => by rw [e], dep := fun _ _ h => nomatch hd.symm.trans h }

theorem step_facts (s : St) (a : Act) : StepFacts s a (step s a) := by
  cases hq : a.usesQueue
  · cases hs : a.serial
    · have hp := step_piece s a hs
      have hser (b : Bool) : a.serial = true → b = s.ser := fun ha => nomatch hs.symm.trans ha
      rcases hp.1 with e | ⟨st', tk', hst, e⟩
      · exact .of_local e (storeStep_refl _) (fun h => by rw [e]; exact h) (hser _) hp.2
      · -- the ghost flag is cleared, so nothing is claimed about the pending snapshot's members
        have hinv (h : Inv s) : Inv (step s a).1 := by
          rw [e]; exact inv_local h hst (sameDeployment_refl _) (fun hh => nomatch hh) (fun hh => nomatch hh)
        exact .of_local e hst hinv (hser _) hp.2
    · have ho := step_offQueue s a hq hs
      have hinv : Inv s → Inv (step s a).1 := fun h => inv_offQueue h ho
      obtain ⟨_, _, _, e, hst, _, hd⟩ := ho
      exact .of_local e (serialStore_step hst) hinv (fun _ => rfl) hd
  · cases step_queue s a hq with
    | nostart e =>
      exact .of_local (congrArg Prod.fst e) (storeStep_refl _) (fun h => by rw [e]; exact h) (fun _ => rfl) (by rw [e]; rfl)
    | task s1 e hd hinv hw hser hck hst =>
      have f := evaluate_frame s1
      exact { inv := fun h => by rw [e]; exact (evaluate_inv (hinv h.toInv')).1
              w := by rw [e]; exact f.w.trans hw
              store := by rw [e]; exact hst ▸ f.store
              ser := fun _ => by rw [e]; exact f.ser.trans hser
              startCk := fun h => by rw [e]; exact (f.noDep (hd.symm.trans h)).1.trans hck
              dep := fun h d hdep => by
                rw [e]
                have g := (evaluate_inv (hinv h.toInv')).2 d (hd.symm.trans hdep)
                exact { g with opsLen := hw ▸ g.opsLen, srsLen := hw ▸ g.srsLen, ckRead := hst ▸ g.ckRead } }

theorem step_inv_all {s : St} (h : Inv s) (a : Act) : Inv (step s a).1 := (step_facts s a).inv h

theorem step_dep {s : St} (h : Inv s) (a : Act) (dep : Dep) (hd : (step s a).2.dep? = some dep) :
    DepFacts s (step s a).1 dep := (step_facts s a).dep h dep hd

theorem step_current_mono (s : St) (a : Act) (c : Nat) (hc : s.store.current = some c) :
    ∃ c', (step s a).1.store.current = some c' ∧ c ≤ c' := by
  rcases storeStep_current (step_facts s a).store with e | ⟨n, e⟩
  · exact ⟨c, by rw [e, hc], Nat.le_refl c⟩
  · obtain ⟨c', h1, _, h3⟩ := pubCurrent_ge s.store.current n
    exact ⟨c', by rw [e, h1], h3 c hc⟩

theorem step_writeOk_all {s : St} (hi : Inv s) (h : WriteOk s) (a : Act) : WriteOk (step s a).1 :=
  storeStep_writeOk (step_facts s a).store ⟨hi.pendId, hi.curLe⟩ h

theorem publish_enabled {s : St} (h : WriteOk s) (n : Nat) (hn : n ∈ s.store.writing) :
    (∃ l, (step s (.publish n)).2 = .published n (pubCurrent s.store.current n) l) ∧
    ∃ c, (step s (.publish n)).1.store.current = some c ∧ n ≤ c := by
  simp only [step]
  rw [if_pos (canPublish_iff.mpr ⟨hn, h n hn⟩)]
  obtain ⟨c, h1, h2, _⟩ := pubCurrent_ge s.store.current n
  exact ⟨⟨_, rfl⟩, c, h1, h2⟩

theorem run_nil (s : St) : run s [] = (s, []) := rfl

theorem run_cons (s : St) (a : Act) (as : List Act) :
    run s (a :: as) = ((run (step s a).1 as).1, (step s a).2 :: (run (step s a).1 as).2) := rfl

theorem run_fst_append (s : St) (as bs : List Act) : (run s (as ++ bs)).1 = (run (run s as).1 bs).1 := by
  induction as generalizing s with
  | nil => rfl
  | cons a as ih => rw [List.cons_append, run_cons, run_cons]; exact ih _

theorem run_inv_all {s : St} (hi : Inv s) (h : WriteOk s) (as : List Act) : Inv (run s as).1 ∧ WriteOk (run s as).1 := by
  induction as generalizing s with
  | nil => exact ⟨hi, h⟩
  | cons a as ih => rw [run_cons]; exact ih (step_inv_all hi a) (step_writeOk_all hi h a)

theorem reachableAll_inv_writeOk {s : St} (h : ReachableAll s) : Inv s ∧ WriteOk s := by
  obtain ⟨w, d, c0, bmax, acts, rfl⟩ := h
  exact run_inv_all (init_inv w d c0 bmax) (fun n hn => nomatch hn) acts

theorem reachableAll_inv {s : St} (h : ReachableAll s) : Inv s := (reachableAll_inv_writeOk h).1

theorem reachableAll_writeOk {s : St} (h : ReachableAll s) : WriteOk s := (reachableAll_inv_writeOk h).2

theorem reachableAll_of_serial {s : St} (h : ReachableSerial s) : ReachableAll s := by
  obtain ⟨w, d, c0, bmax, acts, _, e⟩ := h
  exact ⟨w, d, c0, bmax, acts, e⟩

theorem reachable_inv {s : St} (h : ReachableSerial s) : Inv s := reachableAll_inv (reachableAll_of_serial h)

theorem reachable_writeOk {s : St} (h : ReachableSerial s) : WriteOk s := reachableAll_writeOk (reachableAll_of_serial h)

theorem reachable_step {s : St} (h : ReachableSerial s) (a : Act) (ha : a.serial = true) : ReachableSerial (step s a).1 := by
  obtain ⟨w, d, c0, bmax, acts, hser, rfl⟩ := h
  refine ⟨w, d, c0, bmax, acts ++ [a], ?_, ?_⟩
  · intro b hb
    rcases List.mem_append.mp hb with hb | hb
    · exact hser b hb
    · rw [List.mem_singleton.mp hb]; exact ha
  · rw [run_fst_append]; rfl

theorem run_ser (s : St) (acts : List Act) (h : ∀ a ∈ acts, a.serial = true) : (run s acts).1.ser = s.ser := by
  induction acts generalizing s with
  | nil => rfl
  | cons a as ih =>
    exact (ih _ fun b hb => h b (List.mem_cons_of_mem _ hb)).trans ((step_facts s a).ser (h a (List.mem_cons_self ..)))

theorem reachableSerial_ser {s : St} (h : ReachableSerial s) : s.ser = true := by
  obtain ⟨w, d, c0, bmax, acts, hser, rfl⟩ := h
  exact run_ser _ acts hser

theorem membership_running_cases {s : St} (h : Inv s) (hr : s.status = .running) (a : Act) (hm : a.membership = true) :
    ((step s a).1.status = .running ∧ healthy (step s a).1 = true ∧ (step s a).1.ticker = true) ∨
    ((step s a).1.status = .paused ∧ healthy (step s a).1 = false ∧ (step s a).1.ticker = false) := by
  have ht : s.ticker = true := h.tickRun.mpr hr
  cases a with
  | regO i => exact evaluate_running_cases (s := { s with live := _, ops := _ }) hr ht
  | regS i => exact evaluate_running_cases (s := { s with live := _, srs := _ }) hr ht
  | deregO i => exact evaluate_running_cases (s := { s with ops := _ }) hr ht
  | deregS i => exact evaluate_running_cases (s := { s with srs := _ }) hr ht
  | _ => cases hm

structure DeployOkFrame (s : St) (r : St × Out) : Prop where
  store : r.1.store = s.store
  proc : ∀ i ∈ r.1.asmOps,
    (r.1.procs i).inflight = none ∧ (r.1.procs i).deployed = true ∧ (r.1.procs i).srcs = r.1.asmSrs
  batch : ∀ i ∈ r.1.asmOps, (r.1.procs i).batch = (s.procs i).batch
  out : r.2 = .started r.1.status s.startCk s.asmSrs s.store.pending.isSome []
    (s.asmOps.filter fun i => !(s.procs i).batch.isEmpty)

theorem deployOk_frame {s : St} (hs : s.status = .starting) : DeployOkFrame s (step s .deployOk) := by
  let t : St := { s with procs := deployProcs s none, status := .running, ticker := true }
  have hstep : step s .deployOk = ((evaluate t).1, .started (evaluate t).1.status s.startCk s.asmSrs
      (evaluate t).1.store.pending.isSome
      ((evaluate t).1.asmOps.filter fun i => ((evaluate t).1.procs i).inflight.isSome)
      ((evaluate t).1.asmOps.filter fun i => !((evaluate t).1.procs i).batch.isEmpty)) :=
    if_neg fun h => h hs
  have f := evaluate_frame t
  obtain ⟨_, e1, e3, e4⟩ := f.noDep (f.running rfl)
  have e2 : (evaluate t).1.procs = deployProcs s none := f.procs
  have hproc := fun i (hi : i ∈ s.asmOps) => deployProcs_mem s none i hi (fun e => nomatch e)
  rw [hstep]
  refine ⟨e1, fun i hi => ?_, fun i hi => ?_, ?_⟩
  · simp only [e2, e3, e4] at hi ⊢
    obtain ⟨a, b, c, _⟩ := hproc i hi
    exact ⟨c, a, b⟩
  · simp only [e2, e3] at hi ⊢
    exact (hproc i hi).2.2.2
  · simp only [e1, e2, e3]
    have hf : (s.asmOps.filter fun i => (deployProcs s none i).inflight.isSome) = [] := by
      apply List.filter_eq_nil_iff.mpr
      intro i hi; rw [(hproc i hi).2.2.1]; simp
    have hb : (s.asmOps.filter fun i => !(deployProcs s none i).batch.isEmpty) =
        (s.asmOps.filter fun i => !(s.procs i).batch.isEmpty) := by
      apply List.filter_congr
      intro i hi; rw [(hproc i hi).2.2.2]
    rw [hf, hb]

/-- repair D69: a deployed operator refuses a sender that is not a source runner of its deployment -/
theorem event_refused {s : St} {i sr : Nat} (hd : (s.procs i).deployed = true) (hsr : sr ∉ (s.procs i).srcs) (x : Nat) :
    event s i sr x = (s, .barRefused) := by
  unfold event
  rw [if_neg (by rw [hd]; decide), if_pos (by simpa using hsr)]

theorem barrier_refused {s : St} {i sr : Nat} (hd : (s.procs i).deployed = true) (hsr : sr ∉ (s.procs i).srcs) (x : Nat) :
    barrier s i sr x = (s, .barRefused) := by
  unfold barrier
  rw [if_neg (by rw [hd]; decide), if_pos (by simpa using hsr)]

theorem event_accepted {s : St} {i sr : Nat} (hd : (s.procs i).deployed = true) (hin : (s.procs i).inflight = none)
    (hsr : sr ∈ (s.procs i).srcs) (tag : Nat) :
    (event s i sr tag).2 = .evQueued ∨ ∃ b e, (event s i sr tag).2 = .processed b e := by
  unfold event
  rw [if_neg (by rw [hd]; decide), if_neg (by rw [List.contains_iff_mem.mpr hsr]; decide), hin,
    if_neg (show ¬parked none sr = true from Bool.false_ne_true)]
  exact iteInduction (motive := fun r : St × Out => r.2 = .evQueued ∨ ∃ b e, r.2 = .processed b e)
    (fun _ => Or.inr ⟨_, _, rfl⟩) (fun _ => Or.inl rfl)

theorem run_startCk (s : St) (acts : List Act) (h : ∀ o ∈ (run s acts).2, o.dep? = none) :
    (run s acts).1.startCk = s.startCk := by
  induction acts generalizing s with
  | nil => rfl
  | cons a as ih =>
    rw [run_cons] at h ⊢
    have h1 : (step s a).2.dep? = none := h _ (List.mem_cons_self ..)
    rw [ih (step s a).1 (fun o ho => h o (List.mem_cons_of_mem _ ho)), (step_facts s a).startCk h1]

theorem restore_decided_checkpoint {s : St} (h : Inv s) (a : Act) (dep : Dep) (hd : (step s a).2.dep? = some dep)
    (acts : List Act) (hq : ∀ o ∈ (run (step s a).1 acts).2, o.dep? = none)
    (hst : (run (step s a).1 acts).1.status = .starting) :
    ∃ st asg sp sr sb, (step (run (step s a).1 acts).1 .deployOk).2 = .started st dep.ck asg sp sr sb := by
  exact ⟨_, _, _, _, _, by rw [(deployOk_frame hst).out, run_startCk (step s a).1 acts hq, (step_dep h a dep hd).startCk]⟩

theorem filter_ne_head (x : Nat) (t : List Nat) (h : (x :: t).Nodup) : (x :: t).filter (· ≠ x) = t := by
  have hx := List.nodup_cons.mp h
  simp only [List.filter_cons, ne_eq, not_true_eq_false, decide_false, Bool.false_eq_true, if_false]
  apply List.filter_eq_self.mpr
  intro y hy
  have : y ≠ x := fun e => hx.1 (e ▸ hy)
  simpa using this

theorem finish_wait (st : Store) (p : Pending) (h : p.waitOps ≠ [] ∨ p.waitSrs ≠ []) :
    finish st p = ({ st with pending := some p }, .ok none) := by
  have hne : ¬(p.waitOps.isEmpty && p.waitSrs.isEmpty) = true := by
    rw [Bool.and_eq_true, List.isEmpty_iff, List.isEmpty_iff]
    exact fun hh => h.elim (fun h => h hh.1) (fun h => h hh.2)
  exact if_neg hne

theorem finish_done (st : Store) (p : Pending) (ho : p.waitOps = []) (hs : p.waitSrs = []) :
    finish st p = ({ st with pending := none, writing := st.writing ++ [p.id] }, .ok (some p.id)) := by
  exact if_pos (by rw [ho, hs]; rfl)

theorem ackS_pending {st : Store} {p : Pending} (hp : st.pending = some p) {x : Nat} (hx : x ∈ p.expSrs) :
    ackS st x p.id = finish st { p with waitSrs := p.waitSrs.filter (· ≠ x) } := by
  unfold ackS
  rw [hp]
  show (if p.id ≠ p.id then _ else if (!p.expSrs.contains x) = true then _ else _) = _
  rw [if_neg (fun h => h rfl), if_neg (by rw [List.contains_iff_mem.mpr hx]; decide)]

theorem run_ackS_all (n : Nat) : ∀ (L : List Nat) (s : St) (p : Pending), s.store.pending = some p → p.id = n →
    p.waitSrs = L → L.Nodup → (∀ x ∈ L, x ∈ p.expSrs) → p.waitOps ≠ [] →
    (run s (L.map fun x => Act.ackS x n)).1 = { s with store := { s.store with pending := some { p with waitSrs := [] } } } := by
  intro L
  induction L with
  | nil =>
    intro s p hp _ hw _ _ _
    show s = _
    rw [← hw, ← hp]
  | cons x L ih =>
    intro s p hp hid hw hnd hexp hwo
    have hstep : (step s (Act.ackS x n)).1 = { s with store := { s.store with pending := some { p with waitSrs := L } } } := by
      show { s with store := (ackS s.store x n).1 } = _
      rw [← hid, ackS_pending hp (hexp x (List.mem_cons_self ..)), hw, filter_ne_head x L hnd,
        finish_wait _ { p with waitSrs := L } (Or.inl hwo)]
    show (run (step s (Act.ackS x n)).1 (L.map fun x => Act.ackS x n)).1 = _
    rw [hstep]
    exact ih _ { p with waitSrs := L } rfl hid rfl (List.nodup_cons.mp hnd).2
      (fun y hy => hexp y (List.mem_cons_of_mem _ hy)) hwo

theorem finish_ok (st : Store) (p : Pending) : ∃ pub, (finish st p).2 = .ok pub :=
  iteInduction (motive := fun r : Store × AckRes => ∃ pub, r.2 = .ok pub) (fun _ => ⟨_, rfl⟩) (fun _ => ⟨_, rfl⟩)

theorem ackO_pending {st : Store} {p : Pending} (hp : st.pending = some p) (i : Nat) :
    ackO st i p.id =
      finish st (if p.expOps.contains i = true then { p with waitOps := p.waitOps.filter (· ≠ i) } else p) := by
  unfold ackO
  rw [hp]
  show (if p.id ≠ p.id then _ else if p.expOps.contains i = true then _ else _) = _
  rw [if_neg (fun h => h rfl)]
  by_cases hc : p.expOps.contains i = true
  · rw [if_pos hc, if_pos hc]
  · rw [if_neg hc, if_neg hc]

theorem ackO_ok (st : Store) (i n : Nat) (p : Pending) (hp : st.pending = some p) (hid : p.id = n) :
    ∃ pub, (ackO st i n).2 = .ok pub := by
  rw [← hid, ackO_pending hp]; exact finish_ok _ _

/-- one barrier at an operator whose record (existing or about to be created) waits for `T ∋ x` -/
theorem barrier_eq_register (s : St) (i x n : Nat) (T : List Nat) (hd : (s.procs i).deployed = true)
    (hin : (s.procs i).inflight = some (n, T) ∨ ((s.procs i).inflight = none ∧ (s.procs i).srcs = T))
    (hx : x ∈ T) (hsrc : x ∈ (s.procs i).srcs) : barrier s i x n = register s i x n n T := by
  have hpark : parked (s.procs i).inflight x = false := by
    rcases hin with h | ⟨h, _⟩
    · rw [h]
      show (!T.contains x && !T.isEmpty) = false
      rw [List.contains_iff_mem.mpr hx]; rfl
    · rw [h]; rfl
  have hrec : (s.procs i).inflight.getD (n, (s.procs i).srcs) = (n, T) := by
    rcases hin with h | ⟨h, hs⟩
    · rw [h]; rfl
    · rw [h, hs]; rfl
  unfold barrier
  rw [if_neg (by rw [hd]; decide), if_neg (by rw [List.contains_iff_mem.mpr hsrc]; decide),
    if_neg (by rw [hpark]; decide), hrec]

theorem register_wait (s : St) (i x n : Nat) {T : List Nat} (hT : T ≠ []) (hnd : (x :: T).Nodup) :
    register s i x n n (x :: T) =
      ({ s with procs := setProc s.procs i { (s.procs i) with inflight := some (n, T) } }, .barOk) := by
  unfold register
  rw [if_neg (fun h => h rfl), filter_ne_head x T hnd, if_neg fun h => hT (List.isEmpty_iff.mp h)]

theorem register_last (s : St) (i x n : Nat) {pub : Option Nat} (h : (ackO s.store i n).2 = .ok pub) :
    register s i x n n [x] =
      ({ s with store := (ackO s.store i n).1,
                procs := setProc s.procs i { (s.procs i) with inflight := none, batch := [] } },
       .barAcked pub (s.procs i).batch (s.procs i).epoch) := by
  unfold register
  rw [if_neg (fun h => h rfl), filter_ne_head x [] (List.pairwise_singleton _ x), if_pos List.isEmpty_nil,
    show ackO s.store i n = ((ackO s.store i n).1, .ok pub) from Prod.ext rfl h]

theorem run_bar_all (n i : Nat) : ∀ (T : List Nat) (s : St) (p : Pending), T ≠ [] → T.Nodup →
    (s.procs i).deployed = true → (∀ x ∈ T, x ∈ (s.procs i).srcs) →
    ((s.procs i).inflight = some (n, T) ∨ ((s.procs i).inflight = none ∧ (s.procs i).srcs = T)) →
    s.store.pending = some p → p.id = n →
    (run s (T.map fun x => Act.bar i x n)).1 =
      { s with store := (ackO s.store i n).1, procs := setProc s.procs i { (s.procs i) with inflight := none, batch := [] } } := by
  intro T
  induction T with
  | nil => intro s p h; exact absurd rfl h
  | cons x T ih =>
    intro s p _ hnd hd hT hin hp hid
    have hb : step s (Act.bar i x n) = register s i x n n (x :: T) :=
      barrier_eq_register s i x n (x :: T) hd hin (List.mem_cons_self ..) (hT x (List.mem_cons_self ..))
    show (run (step s (Act.bar i x n)).1 (T.map fun x => Act.bar i x n)).1 = _
    rw [hb]
    cases T with
    | nil =>
      obtain ⟨pub, hok⟩ := ackO_ok s.store i n p hp hid
      rw [register_last s i x n hok]
      rfl
    | cons y T' =>
      rw [register_wait s i x n (List.cons_ne_nil y T') hnd]
      let s' : St := { s with procs := setProc s.procs i { (s.procs i) with inflight := some (n, y :: T') } }
      have h1 : s'.procs i = { (s.procs i) with inflight := some (n, y :: T') } := setProc_self _ _ _
      have hd' : (s'.procs i).deployed = true := by rw [h1]; exact hd
      have hT' : ∀ z ∈ y :: T', z ∈ (s'.procs i).srcs := by
        intro z hz
        rw [h1]; exact hT z (List.mem_cons_of_mem _ hz)
      have hin' : (s'.procs i).inflight = some (n, y :: T') := by rw [h1]
      refine (ih s' p (List.cons_ne_nil y T') (List.nodup_cons.mp hnd).2 hd' hT' (Or.inl hin') hp hid).trans ?_
      show { s with store := _, procs := setProc (setProc s.procs i _) i { (s'.procs i) with inflight := none, batch := [] } } = _
      rw [setProc_setProc, h1]

theorem run_ops_all (n : Nat) (S : List Nat) (hS : S ≠ []) (hSn : S.Nodup) : ∀ (O : List Nat) (s : St) (p : Pending),
    O ≠ [] → O.Nodup → s.store.pending = some p → p.id = n → p.waitOps = O → p.waitSrs = [] →
    (∀ i ∈ O, i ∈ p.expOps) →
    (∀ i ∈ O, (s.procs i).deployed = true ∧ (s.procs i).srcs = S ∧ (s.procs i).inflight = none) →
    ∃ procs', (run s (O.flatMap fun i => S.map fun x => Act.bar i x n)).1 =
        { s with store := { s.store with pending := none, writing := s.store.writing ++ [n] }, procs := procs' } ∧
      ∀ j, (s.procs j).inflight = none → (procs' j).inflight = none := by
  intro O
  induction O with
  | nil => intro s p h; exact absurd rfl h
  | cons i O ih =>
    intro s p _ hnd hp hid hwo hws hexp hproc
    have hi := hproc i (List.mem_cons_self ..)
    have hiO : i ∉ O := (List.nodup_cons.mp hnd).1
    have hack : (ackO s.store i n).1 = (finish s.store { p with waitOps := O }).1 := by
      rw [← hid, ackO_pending hp, if_pos (List.contains_iff_mem.mpr (hexp i (List.mem_cons_self ..))), hwo,
        filter_ne_head i O hnd]
    have hclear : ∀ j, (s.procs j).inflight = none →
        (setProc s.procs i { (s.procs i) with inflight := none, batch := [] } j).inflight = none := by
      intro j hj
      by_cases e : j = i
      · rw [e, setProc_self]
      · rw [setProc_other _ _ _ _ e]; exact hj
    simp only [List.flatMap_cons]
    rw [run_fst_append,
      run_bar_all n i S s p hS hSn hi.1 (fun x hx => by rw [hi.2.1]; exact hx) (Or.inr ⟨hi.2.2, hi.2.1⟩) hp hid, hack]
    cases O with
    | nil =>
      rw [finish_done _ { p with waitOps := [] } rfl hws, ← hid]
      exact ⟨_, rfl, hclear⟩
    | cons k O' =>
      rw [finish_wait _ { p with waitOps := k :: O' } (Or.inl (List.cons_ne_nil k O'))]
      let s' : St := { s with store := { s.store with pending := some { p with waitOps := k :: O' } },
                              procs := setProc s.procs i { (s.procs i) with inflight := none, batch := [] } }
      have hproc' : ∀ j ∈ k :: O', (s'.procs j).deployed = true ∧ (s'.procs j).srcs = S ∧ (s'.procs j).inflight = none := by
        intro j hj
        have hne : j ≠ i := fun e => hiO (e ▸ hj)
        show (setProc s.procs i _ j).deployed = true ∧ (setProc s.procs i _ j).srcs = S ∧ (setProc s.procs i _ j).inflight = none
        rw [setProc_other _ _ _ _ hne]
        exact hproc j (List.mem_cons_of_mem _ hj)
      obtain ⟨procs', e, hpr⟩ := ih s' { p with waitOps := k :: O' } (List.cons_ne_nil k O') (List.nodup_cons.mp hnd).2
        rfl hid rfl hws (fun j hj => hexp j (List.mem_cons_of_mem _ hj)) hproc'
      exact ⟨procs', e, fun j hj => hpr j (hclear j hj)⟩

theorem progress_state {s : St} (h : Inv s) (hrun : s.status = .running) (hp : s.store.pending = none)
    (hrec : ∀ i ∈ s.asmOps, (s.procs i).inflight = none) (hw : 0 < s.w) :
    ∃ procs', (run s (progressActs s)).1 =
        { s with store := { s.store with counter := s.store.counter + 1, current := some (s.store.counter + 1),
                                         writing := (s.store.writing ++ [s.store.counter + 1]).erase (s.store.counter + 1) },
                 procs := procs' } ∧
      ∀ j, (s.procs j).inflight = none → (procs' j).inflight = none := by
  have ht : s.ticker = true := h.tickRun.mpr hrun
  obtain ⟨lo, ls, ndo, nds⟩ := h.asmShape (Or.inr hrun)
  have hO : s.asmOps ≠ [] := fun e => by rw [e] at lo; exact absurd lo (Nat.ne_of_lt hw)
  have hS : s.asmSrs ≠ [] := fun e => by rw [e] at ls; exact absurd ls (Nat.ne_of_lt hw)
  have hpa := h.procAsm hrun
  let n := s.store.counter + 1
  let p0 : Pending := { id := n, expOps := s.asmOps, expSrs := s.asmSrs, waitOps := s.asmOps, waitSrs := s.asmSrs }
  let s0 : St := { s with store := { s.store with counter := n, pending := some p0 } }
  have htick : (step s .tick).1 = s0 := by
    show (if (!s.ticker) = true then _ else _ : St × Out).1 = _
    rw [if_neg (by rw [ht]; decide), hp]
  unfold progressActs
  rw [List.cons_append, run_cons, htick, run_fst_append, run_fst_append]
  rw [run_ackS_all n s.asmSrs s0 p0 rfl rfl rfl nds (fun x hx => hx) hO]
  obtain ⟨procs', e, hpr⟩ := run_ops_all n s.asmSrs hS nds s.asmOps
    { s0 with store := { s0.store with pending := some { p0 with waitSrs := [] } } } { p0 with waitSrs := [] }
    hO ndo rfl rfl rfl rfl (fun i hi => hi)
    (fun i hi => ⟨(hpa i hi).1, (hpa i hi).2, hrec i hi⟩)
  rw [e]
  have hcan : canPublish { s.store with counter := n, pending := none, writing := s.store.writing ++ [n] } n = true :=
    canPublish_iff.mpr ⟨List.mem_append_right _ (List.mem_singleton_self n), Nat.le_refl n, fun _ hq => nomatch hq⟩
  simp only [run_cons, run_nil, step]
  rw [if_pos hcan, pubCurrent_above fun c hc => Nat.lt_succ_of_le (h.curLe c hc), ← hp]
  exact ⟨procs', rfl, hpr⟩

/-- bounded progress: one round of the current assembly publishes a new checkpoint -/
theorem progress {s : St} (h : Inv s) (hrun : s.status = .running) (hp : s.store.pending = none)
    (hrec : ∀ i ∈ s.asmOps, (s.procs i).inflight = none) (hw : 0 < s.w) :
    (run s (progressActs s)).1.store.current = some (s.store.counter + 1) ∧
    (run s (progressActs s)).1.store.pending = none ∧
    (run s (progressActs s)).1.status = .running ∧ (run s (progressActs s)).1.ticker = true ∧
    (∀ i ∈ s.asmOps, ((run s (progressActs s)).1.procs i).inflight = none) := by
  obtain ⟨procs', e, hpr⟩ := progress_state h hrun hp hrec hw
  rw [e]
  exact ⟨rfl, hp, hrun, h.tickRun.mpr hrun, fun i hi => hpr i (hrec i hi)⟩

theorem deploy_then_progress {s : St} (h : Inv s) (hser : s.ser = true) (hst : s.status = .starting)
    (hrun : (step s .deployOk).1.status = .running) (hw : 0 < s.w) :
    (run (step s .deployOk).1 (progressActs (step s .deployOk).1)).1.store.current =
      some ((step s .deployOk).1.store.counter + 1) ∧
    (run (step s .deployOk).1 (progressActs (step s .deployOk).1)).1.store.pending = none ∧
    (run (step s .deployOk).1 (progressActs (step s .deployOk).1)).1.status = .running := by
  have f := deployOk_frame hst
  obtain ⟨a, b, c, _⟩ := progress (step_inv_all h .deployOk) hrun (by rw [f.store]; exact h.startClean hser hst)
    (fun i hi => (f.proc i hi).1) (by rw [(step_facts s .deployOk).w]; exact hw)
  exact ⟨a, b, c⟩

theorem spawn_status (t : St) : (spawn t).1.status =
    if t.srs.length < t.w || t.ops.length < t.w then t.status else Status.starting := by
  unfold spawn
  split <;> rfl

theorem evaluate_paused (t : St) (h : t.status = .paused) : (evaluate t).1 = (spawn (purge t)).1 := by
  unfold evaluate evalStatus
  have : (purge t).status = .paused := h
  rw [this]

theorem deployFail_status {s : St} (hs : s.status = .starting) (k : Nat) :
    (step s (.deployFail k)).1.status =
      if (purge s).srs.length < s.w || (purge s).ops.length < s.w then Status.paused else Status.starting := by
  simp only [step, hs, ne_eq, not_true_eq_false, if_false, withStatus]
  rw [evaluate_paused _ rfl]
  exact spawn_status _

theorem stepQ_unstuck (q : QSt) (a : Act) (h : q.stuck = false) (h1 : a ≠ .deployOk) (h2 : ∀ n, a ≠ .publish n) :
    stepQ q a = ({ q with s := (step q.s a).1 }, (step q.s a).2) := by
  unfold stepQ
  split
  · exact absurd rfl h1
  · exact absurd rfl (h2 _)
  · rw [h]; rfl
  · rw [h]; rfl

theorem any_contains_nil (l : List Nat) : (l.any fun i => ([] : List Nat).contains i) = false :=
  List.any_eq_false.mpr fun _ _ h => nomatch h

theorem stepQ_eq_step (q : QSt) (a : Act) (h1 : q.stuck = false) (h2 : q.hungS = []) (h3 : q.hungO = [])
    (h4 : q.retainStuck = false) : stepQ q a = ({ q with s := (step q.s a).1 }, (step q.s a).2) := by
  by_cases hd : a = .deployOk
  · rw [hd]
    show (if q.stuck = true then _
      else if (q.s.status == .starting && q.s.asmSrs.any fun i => q.hungS.contains i) = true then _ else _) = _
    rw [h1, h2, any_contains_nil, Bool.and_false]; rfl
  · by_cases hp : ∃ n, a = .publish n
    · obtain ⟨n, hp⟩ := hp
      rw [hp]
      unfold stepQ
      generalize step q.s (.publish n) = r
      obtain ⟨s', o⟩ := r
      cases o with
      | published m cur l =>
        show (if q.retainStuck = true then _ else _) = _
        rw [h3, any_contains_nil, h4]; rfl
      | _ => rfl
    · exact stepQ_unstuck q a h1 hd fun n h => hp ⟨n, h⟩

end Rxn.JobFsm

/-! One source runner process: in the state "a loop can take a request and nothing is queued" a request for the pending
id is acknowledged at once, and both the acknowledgement and `HandleDeploy` lead back to it. -/
namespace Rxn.RunnerProc

theorem deploy_idle (r : St) (hq : r.queue = none) : 0 < (step r .deploy).1.free ∧ (step r .deploy).1.queue = none := by
  simp [step, take, hq]

theorem start_pending_acks (r : St) (hf : 0 < r.free) (hq : r.queue = none) (id : Nat) :
    (step (step r (.pend id)).1 (.start id)).2 = .acked id ∧ 0 < (step (step r (.pend id)).1 (.start id)).1.free ∧
    (step (step r (.pend id)).1 (.start id)).1.queue = none := by
  -- the free loop takes the request at once; what is left is that a loop stays free
  have hne : r.free ≠ 0 := Nat.ne_of_gt hf
  simpa [step, take, hq, hne] using hf

end Rxn.RunnerProc
