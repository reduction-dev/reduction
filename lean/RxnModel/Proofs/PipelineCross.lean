import RxnModel.Proofs.PipelineReplay
/-!
# C01: one failure-free witness run for *all* keys does not exist in general (rescaling)

On one worker every record travels through the single FIFO channel `0 → 0` (that no other is in use is `Inv` with
`n = 1`). `Cross cfg s ord`: `ord` is the delivery order so far; every key's log is `ord` restricted to the key, and `ord`
followed by what is still on the channel is, per split, the read prefix of the split in index order. Two keys whose
logs order the records of two splits crosswise (`cross_cycle`) therefore cannot both be produced by one such run.
-/
namespace Rxn.Pipeline
variable {σ : Type}

def Item.pos : Item → Option (Nat × Nat)
  | .ev e => some (e.split, e.idx)
  | .bar => none

/-- the records on a channel, as `(split, index)`, in order -/
def evs (q : List Item) : List (Nat × Nat) := q.filterMap Item.pos

theorem evs_snoc_ev (q : List Item) (e : Entry) : evs (q ++ [Item.ev e]) = evs q ++ [(e.split, e.idx)] := by
  simp [evs, Item.pos]

theorem evs_snoc_bar (q : List Item) : evs (q ++ [Item.bar]) = evs q := by
  simp [evs, Item.pos]

theorem evs_cons_ev (e : Entry) (q : List Item) : evs (Item.ev e :: q) = (e.split, e.idx) :: evs q := by
  simp [evs, Item.pos]

theorem evs_dropBar (q : List Item) : evs (dropBar q) = evs q := by
  cases q with
  | nil => rfl
  | cons x t =>
    cases x with
    | ev e => rfl
    | bar => simp only [dropBar, evs, List.filterMap_cons, Item.pos]

/-- a delivery order restricted to the records of key `k` -/
def ofKey (cfg : Cfg σ) (k : Nat) (l : List (Nat × Nat)) : List (Nat × Nat) :=
  l.filter fun p => cfg.key p.1 p.2 = k

theorem ofKey_cons (cfg : Cfg σ) (k a b : Nat) (t : List (Nat × Nat)) :
    ofKey cfg k ((a, b) :: t) = (if cfg.key a b = k then [(a, b)] else []) ++ ofKey cfg k t := by
  by_cases h : cfg.key a b = k
  · rw [if_pos h]; exact List.filter_cons_of_pos (decide_eq_true h)
  · rw [if_neg h]; exact List.filter_cons_of_neg (fun hh => h (of_decide_eq_true hh))

theorem ofKey_snoc (cfg : Cfg σ) (k a b : Nat) (l : List (Nat × Nat)) :
    ofKey cfg k (l ++ [(a, b)]) = ofKey cfg k l ++ (if cfg.key a b = k then [(a, b)] else []) := by
  rw [ofKey, List.filter_append]
  exact congrArg _ ((ofKey_cons cfg k a b []).trans (List.append_nil _))

structure Cross (cfg : Cfg σ) (s : State σ) (ord : List (Nat × Nat)) : Prop where
  n1 : s.n = 1
  logs : ∀ k, s.log 0 k = ofKey cfg k ord
  arr : ∀ sp, idxOf sp (ord ++ evs (s.queue 0 0)) = List.range (s.cursor sp)

theorem Cfg.WF.route_one {cfg : Cfg σ} (wf : cfg.WF) (k : Nat) : cfg.route 1 k = 0 :=
  Nat.lt_one_iff.1 (wf.route_lt 1 k Nat.one_pos)

theorem Cfg.WF.assign_one {cfg : Cfg σ} (wf : cfg.WF) (sp : Nat) : cfg.assign 1 sp = 0 :=
  Nat.lt_one_iff.1 (wf.assign_lt 1 sp Nat.one_pos)

theorem cross_restore (cfg : Cfg σ) (s : State σ) : Cross cfg (restore cfg s none 1 false) [] :=
  ⟨rfl, fun _ => rfl, fun _ => rfl⟩

theorem cross_settle {cfg : Cfg σ} {s : State σ} {p : Pend σ} {ord : List (Nat × Nat)} (hc : Cross cfg s ord) :
    Cross cfg (settle s p) ord := by
  unfold settle
  split <;> exact ⟨hc.n1, hc.logs, hc.arr⟩

theorem cross_read {cfg : Cfg σ} (wf : cfg.WF) {s : State σ} {ord : List (Nat × Nat)} (hc : Cross cfg s ord)
    (sp : Nat) : Cross cfg (readS cfg s sp) ord := by
  have hq : (readS cfg s sp).queue 0 0 = s.queue 0 0 ++ [Item.ev ⟨cfg.key sp (s.cursor sp), sp, s.cursor sp⟩] := by
    dsimp only [readS]
    rw [hc.n1, wf.assign_one, wf.route_one, if_pos ⟨rfl, rfl⟩]
  refine ⟨hc.n1, hc.logs, fun sp2 => ?_⟩
  rw [hq, evs_snoc_ev, ← List.append_assoc, idxOf_snoc, hc.arr sp2]
  dsimp only [readS]
  by_cases h : sp2 = sp
  · subst h
    rw [if_pos rfl, if_pos rfl, List.range_succ]
  · rw [if_neg h, if_neg (fun e => h e.symm), List.append_nil]

theorem cross_barrier {cfg : Cfg σ} {s : State σ} {ord : List (Nat × Nat)} (hc : Cross cfg s ord) (r : Nat) :
    Cross cfg (barS s r) ord := by
  refine ⟨hc.n1, hc.logs, fun sp => ?_⟩
  dsimp only [barS]
  split
  · rw [evs_snoc_bar]; exact hc.arr sp
  · exact hc.arr sp

theorem cross_opCkpt {cfg : Cfg σ} {s : State σ} {ord : List (Nat × Nat)} (hc : Cross cfg s ord) (o : Nat) :
    Cross cfg (ckS s o) ord := by
  refine ⟨hc.n1, hc.logs, fun sp => ?_⟩
  dsimp only [ckS]
  split
  · rw [evs_dropBar]; exact hc.arr sp
  · exact hc.arr sp

theorem cross_deliver {cfg : Cfg σ} (wf : cfg.WF) {s : State σ} {ord : List (Nat × Nat)} (hi : Inv cfg s)
    (hc : Cross cfg s ord) {r o : Nat} {e : Entry} {rest : List Item} (hq : s.queue r o = Item.ev e :: rest) :
    Cross cfg (delivS cfg s r o e rest) (ord ++ [(e.split, e.idx)]) := by
  obtain ⟨ho, hr, hk⟩ := hi.qwf r o e (hq ▸ List.mem_cons_self)
  rw [hc.n1, wf.route_one] at ho
  rw [hc.n1, wf.assign_one] at hr
  subst ho hr
  refine ⟨hc.n1, fun k => ?_, fun sp => ?_⟩
  · dsimp only [delivS]
    rw [ofKey_snoc, ← hk]
    by_cases h : k = e.key
    · subst h
      rw [if_pos ⟨rfl, rfl⟩, if_pos rfl, hc.logs]
    · rw [if_neg (fun x => h x.2), if_neg (fun x => h x.symm), List.append_nil, hc.logs]
  · dsimp only [delivS]
    have := hc.arr sp
    rw [hq, evs_cons_ev] at this
    rw [if_pos ⟨rfl, rfl⟩, List.append_assoc]
    exact this

theorem cross_step {cfg : Cfg σ} (wf : cfg.WF) {s s' : State σ} {a : Act} {g : List (Given σ)}
    {ord : List (Nat × Nat)} (hi : Inv cfg s) (hc : Cross cfg s ord) (hf : a.isFailure = false)
    (h : step cfg s a = some (s', g)) : ∃ ord', Cross cfg s' ord' := by
  cases a with
  | read sp =>
    obtain ⟨_, rfl, _⟩ := step_read_some h
    exact ⟨ord, cross_read wf hc sp⟩
  | start =>
    obtain ⟨_, _, rfl, _⟩ := step_start_some h
    exact ⟨ord, hc.n1, hc.logs, hc.arr⟩
  | barrier r =>
    obtain ⟨p, _, _, _, rfl, _⟩ := step_barrier_some h
    exact ⟨ord, cross_settle (cross_barrier hc r)⟩
  | deliver r o =>
    obtain ⟨e, rest, hq, rfl, _⟩ := step_deliver_some h
    exact ⟨_, cross_deliver wf hi hc hq⟩
  | opCkpt o =>
    obtain ⟨p, _, _, _, _, rfl, _⟩ := step_opCkpt_some h
    exact ⟨ord, cross_settle (cross_opCkpt hc o)⟩
  | publish i =>
    obtain ⟨c, _, rfl, _⟩ := step_publish_some h
    exact ⟨ord, hc.n1, hc.logs, hc.arr⟩
  | kill w => cases hf
  | restart n' job => cases hf
  | redeployLive n' => cases hf

theorem cross_runFrom {cfg : Cfg σ} (wf : cfg.WF) {as : List Act} {s s' : State σ} {obs : List (Given σ)}
    (hi : Inv cfg s) (hc : ∃ ord, Cross cfg s ord) (hf : ∀ a ∈ as, a.isFailure = false)
    (h : runFrom cfg s as = some (s', obs)) : ∃ ord', Cross cfg s' ord' :=
  (runFrom_invariant cfg (fun s => Inv cfg s ∧ ∃ ord, Cross cfg s ord) (fun a => a.isFailure = false)
    (fun s a s' g hP hf h => ⟨inv_step cfg wf s s' a g hP.1 (not_live_of_not_failure a hf) h,
      hP.2.elim fun _ hc => cross_step wf hP.1 hc hf h⟩) as s s' obs ⟨hi, hc⟩ hf h).2

theorem range_head_zero {i m : Nat} {L : List Nat} (h : i :: L = List.range m) : i = 0 := by
  cases m with
  | zero => simp at h
  | succ m =>
    rw [List.range_succ_eq_map] at h
    exact (List.cons.inj h).1

/-- `R`: what is still on the channel, as in `Cross.arr`. The first of the four records to be delivered is not the first
of its split or not the first of its key. -/
theorem cross_cycle (cfg : Cfg σ) (a b k1 k2 : Nat) (ha : cfg.key a 0 = k2) (hb : cfg.key b 0 = k1)
    (ord : List (Nat × Nat)) (ma mb : Nat)
    (f1 : ofKey cfg k1 ord = [(a, 1), (b, 0)]) (f2 : ofKey cfg k2 ord = [(b, 1), (a, 0)])
    (R : List (Nat × Nat)) (ga : idxOf a (ord ++ R) = List.range ma) (gb : idxOf b (ord ++ R) = List.range mb) :
    False := by
  induction ord with
  | nil => cases f1
  | cons p t ih =>
    obtain ⟨sp, i⟩ := p
    rw [ofKey_cons] at f1 f2
    rw [List.cons_append, idxOf_cons] at ga gb
    by_cases h0 : sp = a
    · subst h0
      rw [if_pos rfl] at ga
      cases range_head_zero ga
      rw [if_pos ha] at f2
      exact absurd (Prod.mk.inj (List.cons.inj f2).1).2 (by decide)
    · by_cases h1 : sp = b
      · subst h1
        rw [if_pos rfl] at gb
        cases range_head_zero gb
        rw [if_pos hb] at f1
        exact absurd (Prod.mk.inj (List.cons.inj f1).1).2 (by decide)
      · -- a record of another split is not the first of `k1` (that is in `a`) nor of `k2` (that is in `b`)
        have hk1 : cfg.key sp i ≠ k1 := fun hk => by
          rw [if_pos hk] at f1
          exact h0 (Prod.mk.inj (List.cons.inj f1).1).1
        have hk2 : cfg.key sp i ≠ k2 := fun hk => by
          rw [if_pos hk] at f2
          exact h1 (Prod.mk.inj (List.cons.inj f2).1).1
        rw [if_neg hk1, List.nil_append] at f1
        rw [if_neg hk2, List.nil_append] at f2
        rw [if_neg h0, List.nil_append] at ga
        rw [if_neg h1, List.nil_append] at gb
        exact ih f1 f2 ga gb

theorem cross_no_single_witness (cfg : Cfg σ) (wf : cfg.WF) (a b k1 k2 : Nat) (ha : cfg.key a 0 = k2)
    (hb : cfg.key b 0 = k1) (as' : List Act) (s' : State σ) (obs' : List (Given σ))
    (hh : as'.head? = some (Act.restart 1 false)) (hf : ∀ x ∈ as'.tail, x.isFailure = false)
    (hr : run cfg as' = some (s', obs')) (h1 : s'.log 0 k1 = [(a, 1), (b, 0)])
    (h2 : s'.log 0 k2 = [(b, 1), (a, 0)]) : False := by
  cases as' with
  | nil => cases hh
  | cons a0 tl =>
    cases hh
    obtain ⟨s1, g1, obs1, h0, hs2, _⟩ := runFrom_cons_some hr
    have hi1 := inv_step cfg wf _ s1 _ g1 (inv_init cfg) rfl h0
    rw [step_restart, if_pos Nat.one_pos] at h0
    cases h0
    obtain ⟨ord, hc⟩ := cross_runFrom wf hi1 ⟨[], cross_restore cfg (init cfg)⟩ hf hs2
    exact cross_cycle cfg a b k1 k2 ha hb ord _ _ (by rw [← hc.logs, h1]) (by rw [← hc.logs, h2]) _
      (hc.arr a) (hc.arr b)

end Rxn.Pipeline
