import RxnModel.Model.Timers
import RxnModel.Proofs.Lists
/-!
The watermark model (`Model/Watermark.lean`): the comparisons extracted from the source, spelled out (and with them the
test both fire loops of `Model/Timers.lean` make before each firing, `Store.nextDue`); the runner's watermarker and the
watermarks it broadcasts; the stream an operator receives and the law it satisfies (`streamOK`); the registry's upstream
map, and its composite as the minimum of the runners' latest reports.
-/
namespace Rxn.Wm

/-- the stop test of the `AdvanceWatermark` loop: `timer.After(composite)` -/
theorem fireStop_iff (t comp : Int) : timeCond Facts.fireStopCond t comp = true ↔ comp < t := by
  simp [timeCond, Facts.fireStopCond]

/-- the guard of `SetTimer`: `!watermark.Before(t)` -/
theorem timerGuard_iff (wm t : Int) : timeCond Facts.timerGuardCond wm t = true ↔ t ≤ wm := by
  simp [timeCond, Facts.timerGuardCond]

end Rxn.Wm

namespace Rxn.Timers

/-- what the loops over `AdvanceWatermark` look at before each firing: the earliest stored timer, if the composite watermark
has reached it (`fireLoop` and `Op.fireLoop` go on with `some k`, stop at `none`). It stands in this file because
`Proofs/TimersFire.lean` and `Proofs/TimersOp.lean`, which reason about one loop each, share no other module. -/
def Store.nextDue (s : Store) (comp : Int) : Option Bytes :=
  s.earliest.filter fun k => !Wm.timeCond Facts.fireStopCond (timerOf k).2 comp

theorem nextDue_eq_some {s : Store} {comp : Int} {k : Bytes} :
    s.nextDue comp = some k ↔ s.earliest = some k ∧ (timerOf k).2 ≤ comp := by
  rw [Store.nextDue, Option.filter_eq_some_iff, Bool.not_eq_true', ← Bool.not_eq_true, Wm.fireStop_iff, Int.not_lt]

theorem nextDue_eq_none {s : Store} {comp : Int} :
    s.nextDue comp = none ↔ s.earliest = none ∨ ∃ k, s.earliest = some k ∧ (timerOf k).2 > comp := by
  rw [Store.nextDue, Option.filter_eq_none_iff]
  cases s.earliest with
  | none => exact ⟨fun _ => Or.inl rfl, fun _ _ => nofun⟩
  | some k' =>
    simp only [Option.some.injEq, forall_eq', Bool.not_eq_true', Bool.not_eq_false, Wm.fireStop_iff, reduceCtorEq, false_or,
      exists_eq_left']

end Rxn.Timers

namespace Rxn.Wm

/-- the facts regenerated from `NewTimerRegistry` are the literal `time.Unix(0, 0)` for the `watermark` field and for every
configured runner: both start at the epoch -/
theorem regInit_eq : regInit = 0 := by decide

theorem upstreamInit_eq : upstreamInit = 0 := by decide

/-- `CurrentWatermark` with the slack constant of the source put in: one nanosecond -/
theorem current_eq (w : Watermarker) : w.current = w.maxTs - (w.lateness + 1) := by
  simp [Watermarker.current, Facts.wmSlackNs]

theorem advanceTime_maxTs (w : Watermarker) (t : Int) : (w.advanceTime t).maxTs = max w.maxTs t := by
  unfold Watermarker.advanceTime timeCond Facts.wmAdvanceCond
  by_cases h : t > w.maxTs
  · simp only [h, decide_true, if_true]
    exact (Int.max_eq_right (Int.le_of_lt h)).symm
  · simp only [h, decide_false, Bool.false_eq_true, if_false]
    exact (Int.max_eq_left (Int.not_lt.mp h)).symm

theorem advanceTime_lateness (w : Watermarker) (t : Int) : (w.advanceTime t).lateness = w.lateness := by
  unfold Watermarker.advanceTime
  split
  · rfl
  · rfl

theorem foldl_advance (ts : List Int) (w : Watermarker) :
    (ts.foldl Watermarker.advanceTime w).maxTs = maxOf w.maxTs ts ∧
    (ts.foldl Watermarker.advanceTime w).lateness = w.lateness :=
  ⟨(List.foldl_hom Watermarker.maxTs fun x t => (advanceTime_maxTs x t).symm).symm,
   List.foldlRecOn (motive := (·.lateness = w.lateness)) ts _ rfl (fun x h t _ => (advanceTime_lateness x t).trans h)⟩

theorem maxOf_append (m : Int) (a b : List Int) : maxOf m (a ++ b) = maxOf (maxOf m a) b := by
  simp [maxOf, List.foldl_append]

theorem maxOf_spec (m : Int) (ts : List Int) :
    (maxOf m ts = m ∨ maxOf m ts ∈ ts) ∧ m ≤ maxOf m ts ∧ ∀ t ∈ ts, t ≤ maxOf m ts :=
  -- not `omega`: on `max` and `min` it brings in `Classical.choice`, which nothing in C11 rests on
  foldl_select max (fun a b => b ≤ a) Int.le_refl (fun h1 h2 => Int.le_trans h2 h1)
    (fun a b => ⟨by rw [Int.max_def]; split <;> simp, Int.le_max_left a b, Int.le_max_right a b⟩) ts m

theorem runnerState_spec (evs : List REv) (w : Watermarker) :
    (runnerState w evs).lateness = w.lateness ∧
    (runnerState w evs).maxTs = maxOf w.maxTs (forwarded evs) := by
  induction evs generalizing w with
  | nil => exact ⟨rfl, rfl⟩
  | cons e es ih =>
    cases e with
    | events ts =>
      obtain ⟨h1, h2⟩ := ih (ts.foldl Watermarker.advanceTime w)
      obtain ⟨f1, f2⟩ := foldl_advance ts w
      refine ⟨h1.trans f2, ?_⟩
      show (runnerState (ts.foldl Watermarker.advanceTime w) es).maxTs = maxOf w.maxTs (ts ++ forwarded es)
      rw [h2, f1, maxOf_append]
    | tick => exact ih w

theorem runnerState_current (w : Watermarker) (pre : List REv) :
    (runnerState w pre).current = maxOf w.maxTs (forwarded pre) - (w.lateness + 1) := by
  obtain ⟨h1, h2⟩ := runnerState_spec pre w
  rw [current_eq, h1, h2]

theorem runnerRun_split (pre post : List REv) (w : Watermarker) :
    runnerRun w (pre ++ REv.tick :: post) =
      runnerRun w pre ++ (runnerState w pre).current :: runnerRun (runnerState w pre) post := by
  induction pre generalizing w with
  | nil => simp [runnerRun, runnerState, runnerStep]
  | cons e es ih =>
    cases e with
    | events ts => simp [runnerRun, runnerState, runnerStep, ih]
    | tick => simp [runnerRun, runnerState, runnerStep, ih]

theorem streamOK_append_evs (lat : Int) (ts : List Int) (m : Int) (s : List SEv) :
    streamOK lat m (ts.map SEv.ev ++ s) ↔ streamOK lat (maxOf m ts) s := by
  induction ts generalizing m with
  | nil => simp [maxOf]
  | cons t ts ih =>
    exact ih (max m t)

theorem sentStream_ok (evs : List REv) (w : Watermarker) : streamOK w.lateness w.maxTs (sentStream w evs) := by
  induction evs generalizing w with
  | nil => trivial
  | cons e es ih =>
    cases e with
    | events ts =>
      simp only [sentStream]
      rw [streamOK_append_evs]
      have h := foldl_advance ts w
      have := ih (ts.foldl Watermarker.advanceTime w)
      rw [h.1, h.2] at this
      exact this
    | tick =>
      exact And.intro (current_eq w) (ih w)

theorem streamOK_take (lat : Int) (k : Nat) (s : List SEv) (m : Int) (h : streamOK lat m s) :
    streamOK lat m (s.take k) := by
  induction s generalizing m k with
  | nil => rwa [List.take_nil]
  | cons x xs ih =>
    cases k with
    | zero => trivial
    | succ k =>
      cases x with
      | ev t => exact ih k _ h
      | wm v => exact And.intro h.1 (ih k _ h.2)

theorem delivered_ok (n : Nat) (w : Watermarker) (evs : List REv) : streamOK w.lateness w.maxTs (delivered n w evs) :=
  streamOK_take _ _ _ _ (sentStream_ok _ w)

theorem sentTagged_erase (evs : List REvK) (w : Watermarker) :
    (sentTagged w evs).map (·.2) = sentStream w (evs.map REvK.erase) := by
  induction evs generalizing w with
  | nil => rfl
  | cons e es ih =>
    cases e with
    | events kts =>
      simp only [sentTagged, List.map_cons, REvK.erase, sentStream, List.map_append, List.map_map, ih]
      rfl
    | tick => exact congrArg (SEv.wm w.current :: ·) (ih w)

theorem streamOf_sublist (j : Nat) (s : List (Option Nat × SEv)) : (streamOf j s).Sublist (s.map (·.2)) := by
  unfold streamOf
  exact List.Sublist.map _ List.filter_sublist

theorem watermarksOf_eq_filterMap (s : List SEv) :
    watermarksOf s = s.filterMap fun | .wm v => some v | .ev _ => none := by
  induction s with
  | nil => rfl
  | cons x xs ih =>
    cases x with
    | ev t => exact ih
    | wm v => exact congrArg (v :: ·) ih

theorem watermarksOf_sublist {a b : List SEv} (h : a.Sublist b) : (watermarksOf a).Sublist (watermarksOf b) := by
  rw [watermarksOf_eq_filterMap, watermarksOf_eq_filterMap]
  exact h.filterMap _

theorem watermarksOf_append (a b : List SEv) : watermarksOf (a ++ b) = watermarksOf a ++ watermarksOf b := by
  simp only [watermarksOf_eq_filterMap, List.filterMap_append]

theorem watermarksOf_append_evs (ts : List Int) (s : List SEv) : watermarksOf (ts.map SEv.ev ++ s) = watermarksOf s := by
  induction ts with
  | nil => rfl
  | cons t ts ih => exact ih

theorem watermarksOf_sentStream (evs : List REv) (w : Watermarker) : watermarksOf (sentStream w evs) = runnerRun w evs := by
  induction evs generalizing w with
  | nil => rfl
  | cons e es ih =>
    cases e with
    | events ts =>
      simp only [sentStream, runnerRun, runnerStep]
      rw [watermarksOf_append_evs, ih]
    | tick => exact congrArg (w.current :: ·) (ih w)

/-- each watermark is the largest event so far less a constant: the watermark that would be stamped at the start of a stream,
followed by those in it, never decreases -/
theorem streamOK_watermarks (lat : Int) (s : List SEv) (m : Int) (h : streamOK lat m s) :
    ((m - (lat + 1)) :: watermarksOf s).Pairwise (· ≤ ·) := by
  induction s generalizing m with
  | nil => exact List.pairwise_singleton _ _
  | cons x xs ih =>
    cases x with
    | ev t =>
      have := ih _ h
      exact List.pairwise_cons.mpr ⟨fun v hv =>
        Int.le_trans (Int.sub_le_sub_right (Int.le_max_left m t) _) (List.rel_of_pairwise_cons this hv), this.of_cons⟩
    | wm u =>
      have h : u = m - (lat + 1) ∧ streamOK lat m xs := h
      have := ih _ h.2
      show ((m - (lat + 1)) :: u :: watermarksOf xs).Pairwise (· ≤ ·)
      rw [h.1]
      exact List.pairwise_cons.mpr ⟨fun v hv =>
        (List.mem_cons.mp hv).elim (fun e => e ▸ Int.le_refl _) (List.rel_of_pairwise_cons this), this⟩

theorem streamOK_split_wm (lat : Int) (pre : List SEv) (v : Int) (post : List SEv) (m : Int)
    (h : streamOK lat m (pre ++ SEv.wm v :: post)) : streamOK lat m pre ∧ ∀ u, SEv.wm u ∈ post → v ≤ u := by
  have hpre := streamOK_take lat pre.length _ m h
  rw [List.take_left' rfl] at hpre
  have hw := (streamOK_watermarks lat _ m h).of_cons
  rw [watermarksOf_append] at hw
  refine ⟨hpre, fun u hu => List.rel_of_pairwise_cons (List.pairwise_append.mp hw).2.1 ?_⟩
  rw [watermarksOf_eq_filterMap]
  exact List.mem_filterMap.mpr ⟨_, hu, rfl⟩

/-- no runner has two entries (a Go map) -/
def Ups.wf (u : Ups) : Prop := (u.map (·.1)).Nodup

theorem Ups.get?_set (u : Ups) (id : String) (v : Int) (k : String) :
    (u.set id v).get? k = if k = id then some v else u.get? k := by
  induction u with
  | nil => simp [Ups.set, Ups.get?, eq_comm]
  | cons p rest ih =>
    obtain ⟨a, x⟩ := p
    by_cases h1 : a = id
    · subst h1
      by_cases h2 : k = a
      · simp [Ups.set, Ups.get?, h2]
      · simp [Ups.set, Ups.get?, h2, Ne.symm h2]
    · by_cases h2 : k = a
      · subst h2; simp [Ups.set, Ups.get?, h1]
      · simp [Ups.set, Ups.get?, h1, Ne.symm h2, ih]

theorem Ups.get?_isSome_iff (u : Ups) (k : String) : (u.get? k).isSome ↔ k ∈ u.map (·.1) := by
  induction u with
  | nil => simp [Ups.get?]
  | cons p rest ih =>
    obtain ⟨a, y⟩ := p
    simp only [Ups.get?, List.map_cons, List.mem_cons]
    by_cases h1 : a = k
    · subst h1; simp
    · have : ¬ k = a := fun e => h1 e.symm
      simp only [h1, if_false, this, false_or]; exact ih

theorem Ups.mem_keys_set (u : Ups) (id : String) (v : Int) (k : String) :
    k ∈ (u.set id v).map (·.1) ↔ k = id ∨ k ∈ u.map (·.1) := by
  rw [← Ups.get?_isSome_iff, ← Ups.get?_isSome_iff, Ups.get?_set]
  by_cases h : k = id
  · simp [h]
  · simp [h]

theorem Ups.wf_set (u : Ups) (id : String) (v : Int) (h : u.wf) : (u.set id v).wf := by
  induction u with
  | nil => simp [Ups.set, Ups.wf]
  | cons p rest ih =>
    obtain ⟨a, x⟩ := p
    simp only [Ups.wf, List.map_cons, List.nodup_cons] at h
    simp only [Ups.set]
    by_cases h1 : a = id
    · subst h1; simp only [if_true, Ups.wf, List.map_cons, List.nodup_cons]; exact h
    · simp only [h1, if_false, Ups.wf, List.map_cons, List.nodup_cons]
      refine ⟨?_, ih h.2⟩
      intro hm
      rcases (Ups.mem_keys_set rest id v a).mp hm with e | e
      · exact h1 e
      · exact h.1 e

theorem Ups.set_ne_nil (u : Ups) (id : String) (v : Int) : u.set id v ≠ [] := by
  intro h
  have := Ups.get?_set u id v id
  rw [h] at this
  simp [Ups.get?] at this

theorem Ups.mem_set (u : Ups) (id : String) (v : Int) (k : String) (x : Int) (h : (k, x) ∈ u.set id v) :
    x = v ∨ (k, x) ∈ u := by
  induction u with
  | nil => simp only [Ups.set, List.mem_singleton, Prod.mk.injEq] at h; exact Or.inl h.2
  | cons p rest ih =>
    obtain ⟨a, y⟩ := p
    simp only [Ups.set] at h
    by_cases h1 : a = id
    · simp only [h1, if_true, List.mem_cons, Prod.mk.injEq] at h
      rcases h with ⟨_, e⟩ | e
      · exact Or.inl e
      · exact Or.inr (List.mem_cons_of_mem _ e)
    · simp only [h1, if_false, List.mem_cons] at h
      rcases h with e | e
      · exact Or.inr (e ▸ List.mem_cons_self)
      · exact (ih e).imp_right (List.mem_cons_of_mem _)

theorem Ups.forall_set {P : Int → Prop} {u : Ups} (hu : ∀ k x, (k, x) ∈ u → P x) (id : String) {v : Int} (hv : P v) :
    ∀ k x, (k, x) ∈ u.set id v → P x := fun k x hm =>
  (Ups.mem_set u id v k x hm).elim (fun e => e ▸ hv) (hu k x)

theorem Ups.set_set_same (u : Ups) (id : String) (v : Int) : (u.set id v).set id v = u.set id v := by
  induction u with
  | nil => simp [Ups.set]
  | cons p rest ih =>
    obtain ⟨k, x⟩ := p
    by_cases h : k = id
    · simp [Ups.set, h]
    · simp [Ups.set, h, ih]

theorem Ups.report_idem (u : Ups) (sender : String) (wm : Int) :
    (u.report sender wm).1.report sender wm = u.report sender wm := by
  simp [Ups.report, Ups.set_set_same]

theorem Ups.get?_eq_some_iff (u : Ups) (h : u.wf) (k : String) (x : Int) : u.get? k = some x ↔ (k, x) ∈ u := by
  induction u with
  | nil => exact ⟨nofun, nofun⟩
  | cons p rest ih =>
    obtain ⟨a, y⟩ := p
    obtain ⟨hnew, hrest⟩ : a ∉ rest.map (·.1) ∧ Ups.wf rest := List.nodup_cons.mp h
    rw [Ups.get?, List.mem_cons, Prod.mk.injEq]
    by_cases h1 : a = k
    · -- the first entry is `k`'s, and no later one is
      subst h1
      rw [if_pos rfl, Option.some.injEq]
      exact ⟨fun e => Or.inl ⟨rfl, e.symm⟩,
        fun e => e.elim (·.2.symm) fun hm => absurd (List.mem_map.mpr ⟨(a, x), hm, rfl⟩) hnew⟩
    · rw [if_neg h1, ih hrest]
      exact ⟨Or.inr, fun e => e.elim (fun e => absurd e.1.symm h1) id⟩

/-- `MinFunc` over a non-empty map -/
theorem Ups.composite_spec (u : Ups) (hne : u ≠ []) :
    (∀ k x, (k, x) ∈ u → u.composite ≤ x) ∧ ∃ k x, (k, x) ∈ u ∧ u.composite = x := by
  cases u with
  | nil => exact absurd rfl hne
  | cons p rest =>
    obtain ⟨a, v⟩ := p
    obtain ⟨hat, hv, hle⟩ := foldl_select min (· ≤ ·) Int.le_refl Int.le_trans
      (fun a b => ⟨by rw [Int.min_def]; split <;> simp, Int.min_le_left a b, Int.min_le_right a b⟩) (rest.map (·.2)) v
    refine ⟨fun k x hm => ?_, ?_⟩
    · rcases List.mem_cons.mp hm with e | e
      · cases e; exact hv
      · exact hle x (List.mem_map.mpr ⟨(k, x), e, rfl⟩)
    · rcases hat with h | h
      · exact ⟨a, v, List.mem_cons_self, h⟩
      · obtain ⟨⟨k, x⟩, hm, hx⟩ := List.mem_map.mp h
        exact ⟨k, x, List.mem_cons_of_mem _ hm, hx.symm⟩

theorem Ups.composite_get? (u : Ups) (hwf : u.wf) (hne : u ≠ []) :
    (∀ k x, u.get? k = some x → u.composite ≤ x) ∧ ∃ k x, u.get? k = some x ∧ u.composite = x := by
  obtain ⟨hle, k, x, hm, hx⟩ := u.composite_spec hne
  exact ⟨fun k x h => hle k x ((u.get?_eq_some_iff hwf k x).mp h), k, x, (u.get?_eq_some_iff hwf k x).mpr hm, hx⟩

theorem lastOrFrom_of_mem (ms : List (String × Int)) (k : String) (d d' : Int) (h : k ∈ ms.map (·.1)) :
    lastOrFrom d ms k = lastOrFrom d' ms k := by
  induction ms generalizing d d' with
  | nil => cases h
  | cons m ms ih =>
    obtain ⟨a, v⟩ := m
    simp only [lastOrFrom]
    by_cases h1 : a = k
    · simp [h1]
    · simp only [h1, if_false]
      simp only [List.map_cons, List.mem_cons] at h
      rcases h with e | e
      · exact absurd e.symm h1
      · exact ih d d' e

theorem reportAll_wf (ms : List (String × Int)) (s : Ups × Int) (h : s.1.wf) : (reportAll s ms).1.wf := by
  induction ms generalizing s with
  | nil => exact h
  | cons m ms ih => exact ih _ (Ups.wf_set s.1 m.1 m.2 h)

theorem reportAll_append (s : Ups × Int) (a b : List (String × Int)) :
    reportAll s (a ++ b) = reportAll (reportAll s a) b := by
  induction a generalizing s with
  | nil => rfl
  | cons m a ih => obtain ⟨id, v⟩ := m; simp [reportAll, ih]

/-- the last message's report sets the second component -/
theorem reportAll_snd (ms : List (String × Int)) (s : Ups × Int) (hne : ms ≠ []) :
    (reportAll s ms).2 = (reportAll s ms).1.composite := by
  obtain ⟨init, ⟨id, v⟩, rfl⟩ := (List.eq_nil_or_concat ms).resolve_left hne
  rw [List.concat_eq_append, reportAll_append]
  rfl

theorem reportAll_get? (ms : List (String × Int)) (s : Ups × Int) (k : String) :
    (reportAll s ms).1.get? k =
      if (s.1.get? k).isSome ∨ k ∈ ms.map (·.1) then some (lastOrFrom ((s.1.get? k).getD upstreamInit) ms k) else none := by
  induction ms generalizing s with
  | nil =>
    cases h : s.1.get? k with
    | none => simp [reportAll, h]
    | some x => simp [reportAll, lastOrFrom, h]
  | cons m ms ih =>
    obtain ⟨id, v⟩ := m
    rw [reportAll, ih, Ups.report, Ups.get?_set]
    by_cases hk : k = id
    · subst hk; simp [lastOrFrom]
    · simp only [hk, Ne.symm hk, if_false, lastOrFrom, List.map_cons, List.mem_cons, false_or]

theorem Ups.foldl_set_spec (ids : List String) (v : Int) (u : Ups) (hu : u.wf) :
    (ids.foldl (fun u id => u.set id v) u).wf ∧
    ∀ k, (ids.foldl (fun u id => u.set id v) u).get? k = if k ∈ ids then some v else u.get? k := by
  induction ids generalizing u with
  | nil => exact ⟨hu, fun k => by simp⟩
  | cons id ids ih =>
    obtain ⟨j1, j2⟩ := ih (u.set id v) (Ups.wf_set u id v hu)
    refine ⟨j1, fun k => ?_⟩
    rw [List.foldl_cons, j2 k, Ups.get?_set]
    by_cases h1 : k ∈ ids
    · simp [h1]
    · simp [h1]

theorem Ups.init_spec (ids : List String) :
    (Ups.init ids).wf ∧ ∀ k, (Ups.init ids).get? k = if k ∈ ids then some upstreamInit else none :=
  Ups.foldl_set_spec ids upstreamInit [] List.nodup_nil

theorem reportAll_init_get? (ids : List String) (msgs : List (String × Int)) (w : Int) (k : String) :
    (reportAll (Ups.init ids, w) msgs).1.get? k =
      if k ∈ ids ∨ k ∈ msgs.map (·.1) then some (lastOr msgs k) else none := by
  rw [reportAll_get?, (Ups.init_spec ids).2 k]
  by_cases h : k ∈ ids
  · simp only [h, if_true, Option.isSome_some, true_or, Option.getD_some, lastOr]
  · simp only [h, if_false, Option.isSome_none, Bool.false_eq_true, false_or, Option.getD_none, lastOr]

/-- the composite is the least of the runners' latest reports — before the first message too, if a runner is configured -/
theorem composite_reportAll_min (ids : List String) (msgs : List (String × Int)) (w : Int) (hne : ids ≠ [] ∨ msgs ≠ []) :
    let c := (reportAll (Ups.init ids, w) msgs).1.composite
    (∀ k, k ∈ ids ∨ k ∈ msgs.map (·.1) → c ≤ lastOr msgs k) ∧
    ∃ k, (k ∈ ids ∨ k ∈ msgs.map (·.1)) ∧ c = lastOr msgs k := by
  intro c
  have hget := reportAll_init_get? ids msgs w
  obtain ⟨k0, hk0⟩ : ∃ k, k ∈ ids ∨ k ∈ msgs.map (·.1) := by
    rcases hne with h | h
    · exact ⟨_, Or.inl (List.head_mem h)⟩
    · exact ⟨_, Or.inr (List.mem_map_of_mem (List.head_mem h))⟩
  have hne' : (reportAll (Ups.init ids, w) msgs).1 ≠ [] := by
    intro hnil
    have := hget k0
    rw [hnil, if_pos hk0] at this
    cases this
  obtain ⟨hle, k, x, hk, hx⟩ := Ups.composite_get? _ (reportAll_wf msgs _ (Ups.init_spec ids).1) hne'
  refine ⟨fun k hk => hle k _ (by rw [hget k, if_pos hk]), k, ?_⟩
  rw [hget k] at hk
  by_cases hin : k ∈ ids ∨ k ∈ msgs.map (·.1)
  · rw [if_pos hin] at hk
    exact ⟨hin, hx.trans (Option.some.inj hk).symm⟩
  · rw [if_neg hin] at hk; cases hk

end Rxn.Wm
