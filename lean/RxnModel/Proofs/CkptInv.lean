import RxnModel.Proofs.CkptFiles
import RxnModel.Proofs.LsmScan
/-!
`Inv` ties the memtables to the log above `LatestSeqNum`. Every action keeps it, a restore included, so it holds along
chains of restores. Under it a read is computed from the log (`inv_get`), so an instance that replays the log of a
captured record on top of its tables reads as the captured state did.
-/
namespace Rxn.Ckpt
open Rxn Rxn.Lsm

/-- The WAL and the memtables agree: the memtables are a partition of exactly the logged writes newer than
`LatestSeqNum`; the log is gap-free, starts at or below `LatestSeqNum + 1` and ends at the last sequence number
handed out; segment markers bound their records; no table holds anything newer than `LatestSeqNum`. -/
structure Inv (s : State) : Prop where
  parts : ∃ ps, s.db.mems = ps.map fill ∧ ps ≠ [] ∧
      ps.flatten = s.wal.entries.filter (fun r => decide (s.latest < r.seq))
  cons : ∃ f, Wal.Consecutive f s.wal.entries ∧ f ≤ s.latest + 1 ∧ f + s.wal.entries.length = s.db.seq + 1
  segs : ∀ sg ∈ s.wal.sealed, ∀ e ∈ sg.recs, e.seq ≤ sg.latest
  act : ∀ e ∈ s.wal.active, e.seq ≤ s.wal.latest
  wl : s.wal.latest ≤ s.db.seq
  tbls : ∀ t ∈ s.db.levels.flatten, ∀ e ∈ t.run, e.seq ≤ s.latest
  le : s.latest ≤ s.db.seq
  rd : s.db.reading = none

theorem Inv.congr {s s' : State} (h : Inv s) (hd : s'.db = s.db) (hw : s'.wal = s.wal) (hl : s'.latest = s.latest) :
    Inv s' :=
  { parts := by rw [hd, hw, hl]; exact h.parts
    cons := by rw [hd, hw, hl]; exact h.cons
    segs := by rw [hw]; exact h.segs
    act := by rw [hw]; exact h.act
    wl := by rw [hd, hw]; exact h.wl
    tbls := by rw [hd, hl]; exact h.tbls
    le := by rw [hd, hl]; exact h.le
    rd := by rw [hd]; exact h.rd }

theorem inv_get {s : State} (hi : Inv s) (k : Bytes) :
    Lsm.get s.db k =
      match lastW none (s.wal.entries.filter (fun r => decide (s.latest < r.seq))) k with
      | some e => some e
      | none => levelsGet s.db.levels k := by
  obtain ⟨ps, hm, _, hfl⟩ := hi.parts
  rw [← hfl]
  exact get_parts s.db ps hm k

theorem inv_covers {s : State} (hi : Inv s) :
    (∀ n, s.latest < n → n ≤ s.db.seq → ∃ r ∈ s.wal.entries, r.seq = n) ∧
    (∃ f, Wal.Consecutive f s.wal.entries ∧ f ≤ s.latest + 1) ∧
    (∀ k, Lsm.get s.db k =
      match lastW none (s.wal.entries.filter (fun r => decide (s.latest < r.seq))) k with
      | some e => some e
      | none => levelsGet s.db.levels k) := by
  obtain ⟨f, hc, hf1, hf2⟩ := hi.cons
  refine ⟨fun n h1 h2 => ?_, ⟨f, hc, hf1⟩, inv_get hi⟩
  exact Wal.consecutive_mem f _ hc n (Nat.le_trans hf1 h1) (by rw [hf2]; exact Nat.lt_succ_of_le h2)

theorem append_inv {s : State} (hi : Inv s) {db1 : Lsm.State} {r : Wal.Rec} (hr : r.seq = s.db.seq + 1)
    (hw : Lsm.write s.db (recEntry r) = some db1) : Inv { s with db := db1, wal := wapp s.wal r } := by
  obtain ⟨sealed, active, hmems, rfl⟩ := lsm_write_some hw
  obtain ⟨ps, hm, _, hfl⟩ := hi.parts
  obtain ⟨f, hc, hf1, hf2⟩ := hi.cons
  -- the last part is the active memtable
  obtain ⟨init, l2, rfl, h1, h2⟩ := List.map_eq_append_iff.mp (hm.symm.trans hmems)
  obtain ⟨last, rfl, h3⟩ := List.map_eq_singleton_iff.mp h2
  have hseq : s.db.seq ≤ r.seq := by rw [hr]; exact Nat.le_succ _
  have hkeep : [r].filter (fun x => decide (s.latest < x.seq)) = [r] :=
    List.filter_eq_self.mpr fun x hx => by
      rw [List.mem_singleton.mp hx, hr]; exact decide_eq_true (Nat.lt_succ_of_le hi.le)
  exact
  { parts := ⟨init ++ [last ++ [r]],
      by rw [List.map_append, List.map_singleton, fill_append, h1, h3],
      List.append_ne_nil_of_right_ne_nil _ (List.cons_ne_nil _ _),
      by rw [wapp_entries, List.filter_append, ← hfl, hkeep]; simp⟩
    cons := ⟨f, by rw [wapp_entries]; exact Wal.consecutive_append f _ r hc (hr.trans hf2.symm), hf1,
      by rw [wapp_entries, List.length_append, List.length_singleton]; exact congrArg (· + 1) hf2⟩
    segs := hi.segs
    act := forall_mem_snoc.mpr ⟨fun e he => Nat.le_trans (hi.act e he) (Nat.le_trans hi.wl hseq), Nat.le_refl _⟩
    wl := Nat.le_of_eq hr
    tbls := hi.tbls
    le := Nat.le_succ_of_le hi.le
    rd := hi.rd }

theorem rotate_inv {s : State} (hi : Inv s) :
    Inv { s with db := { s.db with mems := s.db.mems ++ [[]] }, wal := s.wal.cut } := by
  obtain ⟨ps, hm, _, hfl⟩ := hi.parts
  exact
  { parts := ⟨ps ++ [[]], by rw [List.map_append, ← hm]; rfl, by simp,
      by rw [cut_entries, ← hfl, List.flatten_append]; simp⟩
    cons := by rw [cut_entries]; exact hi.cons
    segs := forall_mem_snoc.mpr ⟨hi.segs, hi.act⟩
    act := fun e he => absurd he List.not_mem_nil
    wl := hi.wl, tbls := hi.tbls, le := hi.le, rd := hi.rd }

theorem write_inv {s s' : State} {del : Bool} {k v : Bytes} {rot : Bool} (hi : Inv s)
    (h : writeStep s del k v rot = some s') : Inv s' := by
  obtain ⟨db1, _, hw, rfl⟩ := writeStep_some h
  have ha := append_inv hi rfl hw
  cases rot
  · exact ha
  · exact rotate_inv ha

/-- the flushed memtables are a prefix of the parts; the new `LatestSeqNum`, the newest flushed record, separates them
from the parts that stay (`flush_split`), and the WAL loses only flushed records (`truncate_log`) -/
theorem flushCommit_inv {s s' : State} (hi : Inv s) (h : step s .flushCommit = some s') : Inv s' := by
  obtain ⟨snap, db', hfl, hst, rfl⟩ := step_flushCommit h
  obtain ⟨htake, hlen, rfl⟩ := lsm_flushCommit hfl hst
  obtain ⟨ps, hm, _, hflat⟩ := hi.parts
  obtain ⟨f, hc, hf1, hf2⟩ := hi.cons
  have hsnap : (ps.take snap.length).map fill = snap := by rw [List.map_take, ← hm]; exact htake
  generalize hL : max s.latest (runsMaxSeq snap) = L
  obtain ⟨hL1, hLle, htbl, hrest⟩ := flush_split _ f s.latest hc ps snap.length hflat (L := L) (by rw [hsnap]; exact hL)
  rw [hsnap] at htbl
  obtain ⟨m, hc', hf1', hf2', hfilt, hsegs'⟩ :=
    truncate_log s.wal f L hc (Nat.le_trans hf1 (Nat.succ_le_succ hL1)) hi.segs hi.act
  have hne : ps.drop snap.length ≠ [] := fun hnil => by
    rw [hm, List.length_map] at hlen
    exact Nat.not_le_of_lt hlen (List.drop_eq_nil_iff.mp hnil)
  exact
  { parts := ⟨ps.drop snap.length, by rw [hm, List.map_drop], hne, hrest.trans hfilt.symm⟩
    cons := ⟨f + m, hc', hf1', hf2'.trans hf2⟩
    segs := hsegs', act := hi.act, wl := hi.wl
    tbls := fun t ht e he => by
      show e.seq ≤ L
      rcases mem_addAt _ _ _ _ ht with ht | ht
      · exact Nat.le_trans (hi.tbls t ht e he) hL1
      · exact htbl t.run (mkTables_run_mem ht) e he
    le := hLle s.db.seq hi.le (Nat.le_of_eq hf2)
    rd := hi.rd }

/-- by the safety test (`safeCS_sub`) everything a compaction adds was in a table before -/
theorem compact_inv {s s' : State} {rm : List Nat} {lvl : Nat} {add : List Run} (hi : Inv s)
    (h : step s (.compact rm lvl add) = some s') : Inv s' := by
  obtain ⟨db', hst, rfl⟩ := step_compact h
  obtain ⟨hsafe, rfl⟩ := lsm_compact hst
  have hadd : ∀ r ∈ add, ∀ e ∈ r, e.seq ≤ s.latest := by
    intro r hr e he
    obtain ⟨t, ht, het⟩ := safeCS_sub _ _ _ _ hsafe e (List.mem_flatten.mpr ⟨r, hr, he⟩)
    exact hi.tbls t ht e het
  rw [Nat.max_eq_left (runsMaxSeq_le add s.latest hadd)]
  refine ⟨hi.parts, hi.cons, hi.segs, hi.act, hi.wl, ?_, hi.le, hi.rd⟩
  intro t ht e he
  rcases mem_addAt _ _ _ _ ht with ht | ht
  · exact hi.tbls t (mem_removeIds _ _ _ ht) e he
  · exact hadd t.run (mkTables_run_mem ht) e he

theorem le_levelsMaxSeq (lv : List (List Tbl)) : ∀ t ∈ lv.flatten, ∀ e ∈ t.run, e.seq ≤ tablesMaxSeq lv.flatten :=
  fun _ ht _ he => Nat.le_trans (le_runMaxSeq _ _ he) (le_tablesMaxSeq _ _ ht)

/-- the empty log counts from above everything the loaded tables hold -/
theorem restoreBase_inv (files : Files) (c : Ckpt) : Inv (restoreBase files c) :=
  { parts := ⟨[[]], rfl, List.cons_ne_nil _ _, rfl⟩
    cons := ⟨tablesMaxSeq c.levels.flatten + 1, trivial, Nat.le_refl _, rfl⟩
    segs := List.forall_mem_nil _
    act := List.forall_mem_nil _
    wl := Nat.zero_le _
    tbls := le_levelsMaxSeq c.levels
    le := Nat.le_refl _
    rd := rfl }

/-- the answer to a read of `k` once the records `pend` (oldest first) have been written on top of `db` -/
def readOver (db : Lsm.State) (pend : List Wal.Rec) (k : Bytes) : Option Bytes := answer (lastW (Lsm.get db k) pend k)

theorem readOver_write {s s1 : State} {r : Wal.Rec} {rot : Bool}
    (h : writeStep s r.del r.key r.val rot = some s1) (rs : List Wal.Rec) (k : Bytes) :
    readOver s1.db rs k = readOver s.db (r :: rs) k := by
  refine answer_lastW_congr (j := if r.key = k then some (recEntry r) else Lsm.get s.db k) rs k ?_
  rw [write_reads h k]
  by_cases hk : r.key = k
  · rw [if_pos hk, if_pos hk]
    rfl
  · rw [if_neg hk, if_neg hk]

theorem replay_inv (recs : List Wal.Rec) (rots : List Nat) (s s' : State) (hi : Inv s)
    (h : replay s recs rots = some s') : Inv s' :=
  replay_induct (P := fun s1 _ => Inv s1) (fun _ _ _ _ _ hw hp => write_inv hp hw) recs rots s s' h hi

theorem replay_reads (recs : List Wal.Rec) (rots : List Nat) (s s' : State) (h : replay s recs rots = some s')
    (k : Bytes) : answer (Lsm.get s'.db k) = readOver s.db recs k :=
  replay_induct (P := fun s1 rs => readOver s1.db rs k = readOver s.db recs k)
    (fun _ _ _ rs _ hw hp => (readOver_write hw rs k).trans hp) recs rots s s' h rfl

theorem capture_reads {sc : State} (hi : Inv sc) (files : Files) (id : Nat) :
    ∃ recs, walRead sc.wal.entries sc.latest = some recs ∧
      ∀ k, readOver (restoreBase files (capture sc id)).db recs k = answer (Lsm.get sc.db k) := by
  obtain ⟨f, hc, hf1, hf2⟩ := hi.cons
  refine ⟨_, walRead_consecutive f _ _ hc hf1 (by rw [hf2]; exact Nat.succ_le_succ hi.le), fun k => ?_⟩
  rw [inv_get hi k]
  exact congrArg answer (lastW_init (levelsGet sc.db.levels k) _ k)

theorem write_enabled {s : State} (hi : Inv s) (del : Bool) (k v : Bytes) (rot : Bool) :
    ∃ s', writeStep s del k v rot = some s' := by
  obtain ⟨ps, hm, hne, _⟩ := hi.parts
  exact writeStep_enabled hi.rd (fun h => hne (List.map_eq_nil_iff.mp (hm ▸ h))) del k v rot

theorem replay_enabled : ∀ (recs : List Wal.Rec) (rots : List Nat) (s : State), Inv s →
    ∃ s', replay s recs rots = some s' := by
  intro recs rots
  induction recs with
  | nil => intro s _; exact ⟨s, rfl⟩
  | cons r rs ih =>
    intro s hi
    obtain ⟨s1, h1⟩ := write_enabled hi r.del r.key r.val (rots.contains (s.db.seq + 1))
    obtain ⟨s', h'⟩ := ih s1 (write_inv hi h1)
    exact ⟨s', replay_cons.mpr ⟨s1, h1, h'⟩⟩

theorem restore_capture {sc : State} (hi : Inv sc) (files : Files) (id : Nat) (rots : List Nat) :
    ∃ r, restore files (capture sc id) rots = some r ∧ Inv r ∧
      ∀ k, answer (Lsm.get r.db k) = answer (Lsm.get sc.db k) := by
  obtain ⟨recs, hrecs, hreads⟩ := capture_reads hi files id
  have hb := restoreBase_inv files (capture sc id)
  obtain ⟨r, hr⟩ := replay_enabled recs rots _ hb
  exact ⟨r, restore_some.mpr ⟨recs, hrecs, hr⟩, replay_inv _ _ _ _ hb hr,
    fun k => (replay_reads _ _ _ _ hr k).trans (hreads k)⟩

end Rxn.Ckpt
