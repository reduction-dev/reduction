import RxnModel.Model.KeyedState
import RxnModel.Base.BytesOrder
/-! The composite keys of `keyed_state_store.go`: a subject key is a 7-byte head (key group, schema byte, 4-byte
length) followed by the key, a state key appends the length-prefixed namespace and the entry key. Both length prefixes
make the encoding a prefix code: hence injectivity, decoding and the order facts the grouping needs. -/
namespace Rxn.KeyedState
open Rxn Bytes

theorem u16be_length (n : Nat) : (u16be n).length = 2 := Bytes.u16be_length n

theorem u32be_inj {a b : Nat} (ha : a < 4294967296) (hb : b < 4294967296) (h : u32be a = u32be b) : a = b := by
  have := congrArg beNat h
  rwa [beNat_u32be, beNat_u32be, Nat.mod_eq_of_lt ha, Nat.mod_eq_of_lt hb] at this

theorem nsLen_toNat {ns : Bytes} (h : ns.length ≤ 255) : (UInt8.ofNat (ns.length % 256)).toNat = ns.length := by
  rw [Nat.mod_eq_of_lt (Nat.lt_succ_of_le h), UInt8.toNat_ofNat_of_lt' (Nat.lt_succ_of_le h)]

def subjectHead (kgc : Nat) (k : Bytes) : Bytes :=
  u16be (KeySpace.keyGroup kgc k) ++ [UInt8.ofNat Facts.schemaState] ++ u32be k.length

theorem subjectHead_length (kgc : Nat) (k : Bytes) : (subjectHead kgc k).length = 7 := rfl

theorem subjectKey_eq (kgc : Nat) (k : Bytes) : Keys.subjectKey kgc k = subjectHead kgc k ++ k := rfl

theorem dbKey_eq (kgc : Nat) (k ns d : Bytes) :
    Keys.dbKey kgc k ns d = Keys.subjectKey kgc k ++ (nsEnc ns ++ d) := by
  simp only [Keys.dbKey, nsEnc, List.append_assoc, List.cons_append, List.nil_append]

theorem dbKey_hasPrefix (kgc : Nat) (k ns d : Bytes) : hasPrefix (Keys.dbKey kgc k ns d) (Keys.subjectKey kgc k) = true := by
  rw [dbKey_eq]; exact hasPrefix_append _ _

theorem dbKey_hasPrefix_iff (kgc : Nat) (k₁ k₂ ns d : Bytes)
    (h1 : k₁.length < 4294967296) (h2 : k₂.length < 4294967296) :
    hasPrefix (Keys.dbKey kgc k₂ ns d) (Keys.subjectKey kgc k₁) = true ↔ k₁ = k₂ := by
  constructor
  · intro h
    obtain ⟨s, hs⟩ := hasPrefix_iff.mp h
    rw [dbKey_eq, subjectKey_eq, subjectKey_eq, List.append_assoc, List.append_assoc] at hs
    obtain ⟨e1, e2⟩ := List.append_inj hs ((subjectHead_length kgc k₂).trans (subjectHead_length kgc k₁).symm)
    -- the heads end in the 4-byte lengths of the keys
    have hl : k₂.length = k₁.length :=
      u32be_inj h2 h1 (List.append_inj' e1 ((u32be_length _).trans (u32be_length _).symm)).2
    exact ((List.append_inj e2 hl).1).symm
  · intro h; subst h; exact dbKey_hasPrefix kgc k₁ ns d

theorem nsEnc_inj {a b x y : Bytes} (ha : a.length ≤ 255) (hb : b.length ≤ 255)
    (h : nsEnc a ++ x = nsEnc b ++ y) : a = b ∧ x = y := by
  have h' : UInt8.ofNat (a.length % 256) :: (a ++ x) = UInt8.ofNat (b.length % 256) :: (b ++ y) := h
  obtain ⟨h0, h1⟩ := List.cons.inj h'
  have hl : a.length = b.length := by rw [← nsLen_toNat ha, ← nsLen_toNat hb, h0]
  exact List.append_inj h1 hl

theorem dbKey_inj {kgc : Nat} {k k' ns ns' d d' : Bytes}
    (hk : k.length < 4294967296) (hk' : k'.length < 4294967296) (hn : ns.length ≤ 255) (hn' : ns'.length ≤ 255)
    (h : Keys.dbKey kgc k ns d = Keys.dbKey kgc k' ns' d') : k = k' ∧ ns = ns' ∧ d = d' := by
  have hkk := (dbKey_hasPrefix_iff kgc k k' ns' d' hk hk').mp (h ▸ dbKey_hasPrefix kgc k ns d)
  subst hkk
  rw [dbKey_eq, dbKey_eq] at h
  exact ⟨rfl, nsEnc_inj hn hn' (List.append_cancel_left h)⟩

/-- `uint8(len(namespace))`: a namespace writes the composite keys of its first `len % 256` bytes, the rest going in
front of the entry key -/
theorem dbKey_norm (kgc : Nat) (s ns d : Bytes) :
    Keys.dbKey kgc s ns d = Keys.dbKey kgc s (ns.take (ns.length % 256)) (ns.drop (ns.length % 256) ++ d) := by
  have hl : (ns.take (ns.length % 256)).length % 256 = ns.length % 256 := by
    rw [List.length_take, Nat.min_eq_left (Nat.mod_le _ _), Nat.mod_mod]
  simp only [Keys.dbKey, hl, List.append_assoc]
  rw [← List.append_assoc (ns.take _), List.take_append_drop]

theorem timerKey_not_hasPrefix_subjectKey (kgc : Nat) (k k' : Bytes) (t : Nat) :
    hasPrefix (Keys.timerKey kgc k t) (Keys.subjectKey kgc k') = false := by
  have hne : (UInt8.ofNat Facts.schemaTimer == UInt8.ofNat Facts.schemaState) = false := by decide
  -- behind the two key-group bytes the schema bytes are compared
  simp only [Keys.timerKey, Keys.subjectKey, u16be, List.cons_append, List.nil_append, hasPrefix, hne,
    Bool.false_and, Bool.and_false]

theorem decodeKey_layout (h l k nl ns d : Bytes) (hh : h.length = Facts.ksDecodeSkip)
    (hl : l.length = Facts.ksDecodeLenBits / 8) (hlk : readLen l = k.length)
    (hnl : nl.length = Facts.ksDecodeNsBits / 8) (hns : readLen nl = ns.length) :
    decodeKey (h ++ (l ++ (k ++ (nl ++ (ns ++ d))))) = (ns, d) := by
  simp only [decodeKey]
  rw [List.drop_left' hh, List.take_left' hl, List.drop_left' hl, hlk, List.drop_left' rfl, List.take_left' hnl,
    List.drop_left' hnl, hns, List.take_left' rfl, List.drop_left' rfl]

/-- the encoder's layout is the one the regenerated facts of `decodeKey` describe: 3 bytes of key group and schema, a
big-endian 4-byte length, one length byte -/
theorem decode_dbKey (kgc : Nat) (k ns d : Bytes) (hk : k.length < 4294967296) (hn : ns.length ≤ 255) :
    decodeKey (Keys.dbKey kgc k ns d) = (ns, d) := by
  have hbe : ∀ x, readLen x = beNat x := fun x => if_pos (rfl : Facts.ksDecodeBigEndian = 1)
  have hlk : readLen (u32be k.length) = k.length := (hbe _).trans ((beNat_u32be _).trans (Nat.mod_eq_of_lt hk))
  have hns : readLen [UInt8.ofNat (ns.length % 256)] = ns.length :=
    (hbe _).trans ((Nat.zero_add _).trans (nsLen_toNat hn))
  rw [dbKey_eq, subjectKey_eq, subjectHead, List.append_assoc, List.append_assoc]
  exact decodeKey_layout _ _ k [_] ns d (rfl : 3 = Facts.ksDecodeSkip) (rfl : 4 = Facts.ksDecodeLenBits / 8) hlk
    (rfl : 1 = Facts.ksDecodeNsBits / 8) hns

theorem nsEnc_not_prefix {a b : Bytes} (ha : a.length ≤ 255) (hb : b.length ≤ 255) (hne : a ≠ b) :
    hasPrefix (nsEnc a) (nsEnc b) = false := by
  cases h : hasPrefix (nsEnc a) (nsEnc b) with
  | false => rfl
  | true =>
    obtain ⟨s, hs⟩ := hasPrefix_iff.mp h
    exact absurd (nsEnc_inj ha hb (x := []) (by rw [List.append_nil]; exact hs)).1 hne

theorem nsEnc_cmp {a b : Bytes} (x y : Bytes) (ha : a.length ≤ 255) (hb : b.length ≤ 255) (hne : a ≠ b) :
    cmp (nsEnc a ++ x) (nsEnc b ++ y) = cmp (nsEnc a) (nsEnc b) :=
  cmp_append_of_not_prefix _ _ x y (nsEnc_not_prefix ha hb hne) (nsEnc_not_prefix hb ha (Ne.symm hne))

end Rxn.KeyedState
