import RxnModel.Proofs.Compaction
/-!
The executable test `Lsm.safeCS` is the structural shape `StructOK` whenever some table is removed, so it lies in the
safe family; and the obligation `Lsm.CompactionSound` of the C07 refinement: every change set passing the test keeps
the refinement invariant.
-/
namespace Rxn.Compaction
open Rxn Rxn.Lsm

/-- removed tables that form an insertion-order prefix of a level (by ids) are closed towards the older ones, whatever
keys they hold (the case "an insertion-order prefix satisfies this" in the description of `Lsm.safeCS`) -/
theorem prefix_closed (rm : List Nat) (l : List Tbl)
    (h : (l.filter (rmP rm)).map (·.id) = (l.take (l.filter (rmP rm)).length).map (·.id)) :
    l.Pairwise (fun older newer => rmP rm newer = true → rmP rm older = true) := by
  induction l with
  | nil => exact List.Pairwise.nil
  | cons x xs ih =>
    cases hx : rmP rm x with
    | true =>
      rw [List.filter_cons_of_pos hx, List.length_cons, List.take_succ_cons, List.map_cons, List.map_cons] at h
      exact List.pairwise_cons.mpr ⟨fun _ _ _ => hx, ih (List.cons.inj h).2⟩
    | false =>
      rw [List.filter_cons_of_neg (by rw [hx]; exact Bool.false_ne_true)] at h
      cases hf : xs.filter (rmP rm) with
      | nil =>
        have hnone : ∀ b ∈ xs, ¬ rmP rm b = true := fun b hb hb' => by
          have := List.mem_filter.mpr ⟨hb, hb'⟩
          rw [hf] at this
          cases this
        refine List.pairwise_cons.mpr ⟨fun b hb hpb => absurd hpb (hnone b hb), ih ?_⟩
        rw [hf]
        rfl
      | cons y ys =>
        -- the first removed table of `xs` would carry the id of `x`
        rw [hf, List.length_cons, List.take_succ_cons, List.map_cons, List.map_cons] at h
        have hy : rmP rm y = true := (List.mem_filter.mp (by rw [hf]; exact List.mem_cons_self)).2
        unfold rmP at hx hy
        rw [(List.cons.inj h).1, hx] at hy
        cases hy

theorem chunksTest_iff (add : List Run) :
    (add.all (fun r => !r.isEmpty) || decide (add = [[]])) = true ↔ (∀ r ∈ add, r ≠ []) ∨ add = [[]] := by
  simp only [Bool.or_eq_true, List.all_eq_true, decide_eq_true_eq, Bool.not_eq_true', List.isEmpty_eq_false_iff]

/-- what `Lsm.safeCS` asks of level `i`, with `sh` the shallowest level holding a removed table -/
theorem levelTest_iff (rm : List Nat) (l : List Tbl) (sh lvl i : Nat) :
    (if i > lvl then !(l.any (fun t => rm.contains t.id))
     else if i == 0 then true
     else if sh < i || i == lvl then l.all (fun t => rm.contains t.id)
     else if i < sh then true else true) = true ↔
    (lvl < i → ∀ t ∈ l, rmP rm t = false) ∧ (1 ≤ i → i ≤ lvl → sh < i ∨ i = lvl → ∀ t ∈ l, rmP rm t = true) := by
  by_cases h1 : lvl < i
  · rw [if_pos h1, Bool.not_eq_true', List.any_eq_false]
    exact ⟨fun h => ⟨fun _ t ht => Bool.eq_false_iff.mpr (h t ht), fun _ h' => absurd h' (Nat.not_le_of_lt h1)⟩,
      fun h t ht => Bool.eq_false_iff.mp (h.1 h1 t ht)⟩
  · rw [if_neg h1]
    by_cases h2 : i = 0
    · subst h2
      exact iff_of_true rfl ⟨fun h => absurd h h1, fun h => absurd h (Nat.not_succ_le_zero 0)⟩
    · rw [if_neg (by rwa [beq_iff_eq])]
      have h3' : (decide (sh < i) || i == lvl) = true ↔ sh < i ∨ i = lvl := by
        rw [Bool.or_eq_true, decide_eq_true_eq, beq_iff_eq]
      by_cases h3 : sh < i ∨ i = lvl
      · rw [if_pos (h3'.mpr h3), List.all_eq_true]
        exact ⟨fun h => ⟨fun h' => absurd h' h1, fun _ _ _ => h⟩, fun h => h.2 (Nat.pos_of_ne_zero h2) (Nat.le_of_not_lt h1) h3⟩
      · rw [if_neg (mt h3'.mp h3)]
        exact iff_of_true (by split <;> rfl) ⟨fun h' => absurd h' h1, fun _ _ h' => absurd h' h3⟩

theorem noneRemoved_iff (rm : List Nat) (l : List Tbl) :
    (!l.any (fun t => rm.contains t.id)) = true ↔ ¬ ∃ t ∈ l, rmP rm t = true := by
  rw [Bool.not_eq_true', ← Bool.not_eq_true, List.any_eq_true]
  rfl

theorem safeCS_of_none {L : Levels} {rm : List Nat} {lvl : Nat} {add : List Run}
    (hno : ∀ t ∈ L.flatten, rmP rm t = false) : safeCS L rm lvl add = add.isEmpty := by
  have hfind : (List.range L.length).find? (fun i => (L.getD i []).any (fun t => rm.contains t.id)) = none := by
    rw [List.find?_range_eq_none]
    intro i _
    rw [noneRemoved_iff]
    rintro ⟨t, ht, hp⟩
    rw [hno t (getD_mem_flatten ht)] at hp
    cases hp
  unfold safeCS
  simp only [hfind]

theorem safeCS_iff_structOK {L : Levels} {rm : List Nat} {lvl : Nat} {add : List Run}
    (hex : ∃ t ∈ L.flatten, rmP rm t = true) : safeCS L rm lvl add = true ↔ StructOK L rm lvl add := by
  obtain ⟨sh, hfind, ⟨tq, htq, hpq⟩, hfirst⟩ : ∃ sh,
      (List.range L.length).find? (fun i => (L.getD i []).any (fun t => rm.contains t.id)) = some sh ∧
      (∃ t ∈ L.getD sh [], rmP rm t = true) ∧ ∀ j < sh, ¬ ∃ t ∈ L.getD j [], rmP rm t = true := by
    cases hf : (List.range L.length).find? (fun i => (L.getD i []).any (fun t => rm.contains t.id)) with
    | none =>
      obtain ⟨t, ht, hp⟩ := hex
      obtain ⟨i, hi, hti⟩ := mem_flatten_getD ht
      have := List.find?_range_eq_none.mp hf i hi
      rw [noneRemoved_iff] at this
      exact absurd ⟨t, hti, hp⟩ this
    | some sh =>
      obtain ⟨hq, _, hfirst⟩ := List.find?_range_eq_some.mp hf
      refine ⟨sh, rfl, List.any_eq_true.mp hq, fun j hj => ?_⟩
      have := hfirst j hj
      rwa [noneRemoved_iff] at this
  unfold safeCS
  simp only [hfind, Bool.and_eq_true, decide_eq_true_eq, List.all_eq_true, List.mem_range, levelTest_iff, chunksTest_iff]
  -- the conjuncts in the order of the `&&` chain of `safeCS`; its level-0 test is `StructOK.l0` with `rmP` unfolded
  constructor
  · rintro ⟨⟨⟨⟨⟨hadd, hchunks⟩, hl0⟩, hpos⟩, hlt⟩, hall⟩
    have hl0 : (L.headD []).Pairwise (fun older newer =>
        rmP rm newer = true → rmP rm older = false → DisjointKeys newer.run older.run) := hl0
    refine ⟨hpos, hlt, (hall lvl hlt).2 hpos (Nat.le_refl _) (Or.inr rfl), ?_, hl0, ?_, hadd, hchunks⟩
    · intro i hi t ht
      exact (hall i (mem_getD.mp ht).1).1 hi t ht
    · intro i j hij hj hexi
      have hsh : sh ≤ i := Nat.le_of_not_lt (fun h => hfirst i h hexi)
      exact (hall j (Nat.lt_trans hj hlt)).2 (Nat.zero_lt_of_lt hij) (Nat.le_of_lt hj) (Or.inl (Nat.lt_of_le_of_lt hsh hij))
  · intro h
    refine ⟨⟨⟨⟨⟨h.added, h.chunks⟩, h.l0⟩, h.lvl_pos⟩, h.lvl_lt⟩, fun i _ => ⟨h.below i, fun _ hi hc => ?_⟩⟩
    by_cases hil : i = lvl
    · rw [hil]; exact h.target
    · exact h.closed sh i (hc.resolve_right hil) (Nat.lt_of_le_of_ne hi hil) ⟨tq, htq, hpq⟩

theorem safeCS_sound {L : Levels} {rm : List Nat} {lvl : Nat} {add : List Run} (hv : WeakValid L)
    (h : safeCS L rm lvl add = true) :
    ((∀ t ∈ L.flatten, rmP rm t = false) ∧ add = []) ∨ SafeCS L rm lvl add := by
  by_cases hex : ∃ t ∈ L.flatten, rmP rm t = true
  · exact Or.inr (safe_of_structOK hv ((safeCS_iff_structOK hex).mp h))
  · have hno : ∀ t ∈ L.flatten, rmP rm t = false := fun t ht => Bool.eq_false_iff.mpr (fun hp => hex ⟨t, ht, hp⟩)
    rw [safeCS_of_none hno] at h
    exact Or.inl ⟨hno, List.isEmpty_iff.mp h⟩

theorem inv_iff {s : State} {m : Spec} : Inv s m ↔
    (s.mems ≠ [] ∧ (∀ r ∈ s.mems, r.Sorted) ∧ (∀ r ∈ s.mems, ∀ e ∈ r, e.seq ≤ s.seq) ∧ NewerAbove s.mems.reverse) ∧
    (s.levels ≠ [] ∧ WeakValid s.levels ∧ ∀ t ∈ s.levels.flatten, ∀ e ∈ t.run, e.seq ≤ s.seq) ∧
    (∀ r ∈ s.mems, ∀ e ∈ r, ∀ t ∈ s.levels.flatten, ∀ e' ∈ t.run, e'.key = e.key → e'.seq < e.seq) ∧
    ∀ k, firstHit (containers s) k = Spec.get m k := by
  have hT : ∀ {P : Run → Prop}, (∀ r ∈ (readOrder s.levels).map (·.run), P r) ↔ ∀ t ∈ s.levels.flatten, P t.run :=
    fun {P} => by simp only [List.forall_mem_map, readOrder_mem]
  have hM : ∀ {P : Run → Prop}, (∀ r ∈ s.mems.reverse, P r) ↔ ∀ r ∈ s.mems, P r :=
    fun {P} => by simp only [List.mem_reverse]
  constructor
  · intro h
    obtain ⟨hsM, hsT⟩ := List.forall_mem_append.mp h.sorted
    obtain ⟨hbM, hbT⟩ := List.forall_mem_append.mp h.seqBound
    obtain ⟨hnM, hnT, hx⟩ := newerAbove_append.mp h.newer
    exact ⟨⟨h.mems_ne, hM.mp hsM, hM.mp hbM, hnM⟩,
      ⟨h.levels_ne, ⟨hT.mp hsT, h.deep, (newerAbove_map_iff _).mp hnT⟩, hT.mp hbT⟩,
      fun r hr e he t ht => hT.mp (hx r (List.mem_reverse.mpr hr) e he) t ht, h.hit⟩
  · rintro ⟨⟨h1, h2, h3, h4⟩, ⟨h5, hv, h6⟩, h7, h8⟩
    exact ⟨h1, h5, List.forall_mem_append.mpr ⟨hM.mpr h2, hT.mpr hv.sorted⟩, h8,
      List.forall_mem_append.mpr ⟨hM.mpr h3, hT.mpr h6⟩,
      newerAbove_append.mpr ⟨h4, (newerAbove_map_iff _).mpr hv.newer,
        fun r hr e he => hT.mpr fun t ht => h7 r (List.mem_reverse.mp hr) e he t ht⟩, hv.deep⟩

theorem weakValid_of_inv {s : State} {m : Spec} (h : Inv s m) : WeakValid s.levels := (inv_iff.mp h).2.1.2.1

/-- an instance with one memtable over a valid level list, the memtable sorted and numbered above every table (`b`):
the invariant holds for the map "what the containers hold, in read order" (a freshly restored instance) -/
theorem inv_fresh {s : State} {mm : Run} (hmm : s.mems = [mm]) (hL : s.levels ≠ []) (hv : WeakValid s.levels)
    (hs : mm.Sorted) {b : Nat} (hb : ∀ t ∈ s.levels.flatten, ∀ e ∈ t.run, e.seq ≤ b) (hbq : b ≤ s.seq)
    (hm : ∀ e ∈ mm, b < e.seq ∧ e.seq ≤ s.seq) : Inv s (containers s).flatten :=
  inv_iff.mpr ⟨⟨hmm ▸ List.cons_ne_nil _ _, hmm ▸ List.forall_mem_singleton.mpr hs,
      hmm ▸ List.forall_mem_singleton.mpr fun e he => (hm e he).2, hmm ▸ ⟨nofun, trivial⟩⟩,
    ⟨hL, hv, fun t ht e he => Nat.le_trans (hb t ht e he) hbq⟩,
    hmm ▸ List.forall_mem_singleton.mpr fun e he t ht e' he' _ => Nat.lt_of_le_of_lt (hb t ht e' he') (hm e he).1,
    fun k => firstHit_flatten _ k⟩

/-- the refinement invariant reads the level list only through its point lookups, its validity and the entries it
holds -/
theorem inv_of_levels {s : State} {m : Spec} (h : Inv s m) {L' : Levels} (n' : Nat) (hne : L' ≠ [])
    (hv' : WeakValid L') (hhit : ∀ k, hit (readOrder L') k = hit (readOrder s.levels) k)
    (hold : ∀ t' ∈ L'.flatten, ∀ e ∈ t'.run, ∃ t ∈ s.levels.flatten, e ∈ t.run) :
    Inv { s with levels := L', nextId := n' } m := by
  obtain ⟨hM, ⟨_, _, hb⟩, hx, hh⟩ := inv_iff.mp h
  refine inv_iff.mpr ⟨hM, ⟨hne, hv', fun t' ht' e he => ?_⟩, fun r hr e he t' ht' e' he' => ?_, fun k => ?_⟩
  · obtain ⟨t, ht, het⟩ := hold t' ht' e he
    exact hb t ht e het
  · obtain ⟨t, ht, het⟩ := hold t' ht' e' he'
    exact hx r hr e he t ht e' het
  · have hk := hhit k
    rw [hit_eq_firstHit, hit_eq_firstHit, firstHit, firstHit] at hk
    rw [← hh k, firstHit, firstHit, containers, containers, firstSome_append, firstSome_append, hk]

/-- **every change set that passes the executable safety test keeps the refinement invariant of the DKV**:
point lookups (`hit`), and with them scans (`Proofs/LsmScan.scan_spec`), the ordering invariants of the levels and
"newer above" -/
theorem compactionSound : CompactionSound := by
  intro s m rm lvl add h hsafe
  have hv := weakValid_of_inv h
  rcases safeCS_sound hv hsafe with ⟨hno, rfl⟩ | hs
  · rw [applyCS_noop lvl s.nextId hno]
    exact h.of_eq rfl rfl rfl
  · obtain ⟨hhit, hv', hold⟩ := safe_core s.nextId hv hs
    have hlen := applyCS_length s.levels s.nextId ⟨rm, lvl, add⟩
    exact inv_of_levels h _ (List.ne_nil_of_length_pos (hlen ▸ Nat.zero_lt_of_lt hs.lvl_lt)) hv' hhit hold

theorem lsm_step {s s' : Lsm.State} {m : Spec} (a : Lsm.Act) (h : Inv s m) (hr : ReadInv s m)
    (hstep : Lsm.step s a = some s') : Inv s' (specStep m s.seq a) ∧ ReadInv s' (specStep m s.seq a) :=
  step_inv a (fun _ _ _ _ => compactionSound) h hr hstep

end Rxn.Compaction
