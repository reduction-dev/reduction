import RxnModel.Model.ZipTree
import RxnModel.Base.BytesOrder
import RxnModel.Proofs.Containers
/-! The zip tree refines a strictly ascending association list, whatever ranks are drawn: each tree function is
characterised by what it does to the in-order contents `toList`, the stack walk of `AscendPrefix` by what its stack will
still visit (`stackSeq`). -/
namespace Rxn.ZipTree
open Tree

abbrev KV := Bytes × Bytes

def KLt (a b : KV) : Prop := Bytes.cmp a.1 b.1 = .lt
def Sorted (l : List KV) : Prop := l.Pairwise KLt
/-- binary-search-tree order: the in-order contents are strictly ascending -/
def BST (t : Tree) : Prop := Sorted (toList t)

theorem toList_node (l : Tree) (k v : Bytes) (rk : Nat) (r : Tree) :
    toList (node l k v rk r) = toList l ++ (k, v) :: toList r := rfl

theorem bst_node {l r : Tree} {k v : Bytes} {rk : Nat} (h : BST (node l k v rk r)) :
    BST l ∧ BST r ∧ (∀ e ∈ toList l, Bytes.cmp e.1 k = .lt) ∧ (∀ e ∈ toList r, Bytes.cmp k e.1 = .lt) := by
  unfold BST Sorted at *
  simp only [toList_node] at h
  rw [List.pairwise_append] at h
  obtain ⟨h1, h2, h3⟩ := h
  rw [List.pairwise_cons] at h2
  exact ⟨h1, h2.2, fun e he => h3 e he (k, v) List.mem_cons_self, fun e he => h2.1 e he⟩

theorem specPut_append_lt (k v : Bytes) (xs ys : List KV) (h : ∀ e ∈ xs, Bytes.cmp e.1 k = .lt) :
    specPut k v (xs ++ ys) = xs ++ specPut k v ys := by
  induction xs with
  | nil => rfl
  | cons x xs ih =>
    obtain ⟨k', v'⟩ := x
    have hx : Bytes.cmp k k' = .gt := Bytes.cmp_lt_iff_gt.mp (h (k', v') List.mem_cons_self)
    simp only [List.cons_append, specPut, hx]
    rw [ih (fun e he => h e (List.mem_cons_of_mem _ he))]

theorem specPut_append_head (k v ck cv : Bytes) (xs ys : List KV) (h : Bytes.cmp k ck = .lt) :
    specPut k v (xs ++ (ck, cv) :: ys) = specPut k v xs ++ (ck, cv) :: ys := by
  induction xs with
  | nil => simp [specPut, h]
  | cons x xs ih =>
    obtain ⟨k', v'⟩ := x
    simp only [List.cons_append, specPut]
    cases hc : Bytes.cmp k k' with
    | lt => rfl
    | eq => rfl
    | gt => exact congrArg _ ih

theorem specPut_node_gt (k v ck cv : Bytes) (xs ys : List KV) (hxs : ∀ e ∈ xs, Bytes.cmp e.1 ck = .lt)
    (h : Bytes.cmp ck k = .lt) : specPut k v (xs ++ (ck, cv) :: ys) = xs ++ (ck, cv) :: specPut k v ys := by
  rw [specPut_append_lt k v xs _ (fun e he => Bytes.cmp_lt_trans (hxs e he) h)]
  simp only [specPut, Bytes.cmp_lt_iff_gt.mp h]

theorem specPut_above (k v : Bytes) (ys : List KV) (h : ∀ e ∈ ys, Bytes.cmp k e.1 = .lt) :
    specPut k v ys = (k, v) :: ys := by
  cases ys with
  | nil => rfl
  | cons y ys =>
    obtain ⟨k', v'⟩ := y
    simp [specPut, h (k', v') List.mem_cons_self]

theorem specPut_mem (k v : Bytes) (l : List KV) (e : KV) (he : e ∈ specPut k v l) : e = (k, v) ∨ e ∈ l := by
  induction l with
  | nil => simp [specPut] at he; exact Or.inl he
  | cons x xs ih =>
    obtain ⟨k', v'⟩ := x
    simp only [specPut] at he
    cases hc : Bytes.cmp k k' with
    | lt => rw [hc] at he; exact List.mem_cons.mp he
    | eq => rw [hc] at he; exact (List.mem_cons.mp he).imp_right (List.mem_cons_of_mem _)
    | gt =>
      rw [hc] at he
      rcases List.mem_cons.mp he with h | h
      · exact .inr (h ▸ List.mem_cons_self)
      · exact (ih h).imp_right (List.mem_cons_of_mem _)

/-- on the keys `specPut` is the B-tree's `ReplaceOrInsert` -/
theorem specPut_keys (k v : Bytes) (l : List KV) :
    (specPut k v l).map Prod.fst = (SortedCache.replaceOrInsert k (l.map Prod.fst)).2 := by
  induction l with
  | nil => rfl
  | cons x xs ih =>
    obtain ⟨k', v'⟩ := x
    simp only [specPut, List.map_cons, SortedCache.replaceOrInsert_cons]
    cases Bytes.cmp k k' with
    | lt => rfl
    | eq => rfl
    | gt => exact congrArg _ ih

theorem specPut_sorted (k v : Bytes) (l : List KV) (h : Sorted l) : Sorted (specPut k v l) := by
  have := (SortedCache.replaceOrInsert_spec k (l.map Prod.fst) (List.pairwise_map.mpr h)).1
  rw [← specPut_keys k v l, SortedCache.Asc, List.pairwise_map] at this
  exact this

theorem specGet_cons_self (k v : Bytes) (l : List KV) : specGet k ((k, v) :: l) = some v := by
  simp [specGet]

theorem specGet_cons_ne {k k' : Bytes} (v : Bytes) (l : List KV) (h : k' ≠ k) :
    specGet k ((k', v) :: l) = specGet k l := by
  simp [specGet, h]

theorem specGet_eq_find? (k : Bytes) (l : List KV) : specGet k l = (l.find? (fun e => e.1 == k)).map (·.2) := by
  induction l with
  | nil => rfl
  | cons x xs ih =>
    obtain ⟨k', v'⟩ := x
    simp only [specGet, List.find?_cons]
    cases k' == k
    · exact ih
    · rfl

theorem specGet_append (k : Bytes) (xs ys : List KV) : specGet k (xs ++ ys) = (specGet k xs).or (specGet k ys) := by
  rw [specGet_eq_find?, specGet_eq_find?, specGet_eq_find?, List.find?_append, Option.map_or]

theorem specGet_eq_none_iff {k : Bytes} {l : List KV} : specGet k l = none ↔ ∀ e ∈ l, e.1 ≠ k := by
  rw [specGet_eq_find?, Option.map_eq_none_iff, List.find?_eq_none]
  exact forall₂_congr fun e _ => not_congr beq_iff_eq

theorem specGet_specPut_self (k v : Bytes) (l : List KV) : specGet k (specPut k v l) = some v := by
  induction l with
  | nil => exact specGet_cons_self k v []
  | cons x xs ih =>
    obtain ⟨k', v'⟩ := x
    simp only [specPut]
    cases hc : Bytes.cmp k k' with
    | lt => exact specGet_cons_self k v _
    | eq => exact specGet_cons_self k v _
    | gt => exact (specGet_cons_ne _ _ (Bytes.ne_of_cmp_lt (Bytes.cmp_gt_iff_lt.mp hc))).trans ih

theorem specGet_specPut_ne (k v : Bytes) (l : List KV) {k' : Bytes} (hk : k' ≠ k) :
    specGet k' (specPut k v l) = specGet k' l := by
  induction l with
  | nil => exact specGet_cons_ne _ _ (Ne.symm hk)
  | cons x xs ih =>
    obtain ⟨k2, v2⟩ := x
    simp only [specPut]
    cases hc : Bytes.cmp k k2 with
    | lt => exact specGet_cons_ne _ _ (Ne.symm hk)
    | eq =>
      have hk2 : k2 ≠ k' := by rw [← Bytes.cmp_eq_iff.mp hc]; exact Ne.symm hk
      exact (specGet_cons_ne _ _ (Ne.symm hk)).trans (specGet_cons_ne _ _ hk2).symm
    | gt => simp only [specGet]; rw [ih]

theorem get_node (k : Bytes) (l : Tree) (ck cv : Bytes) (cr : Nat) (r : Tree) :
    get k (node l ck cv cr r) = match Bytes.cmp k ck with | .gt => get k r | .lt => get k l | .eq => some cv := rfl

theorem get_eq (k : Bytes) (t : Tree) (h : BST t) : get k t = specGet k (toList t) := by
  induction t with
  | nil => rfl
  | node l ck cv cr r ihl ihr =>
    obtain ⟨hl, hr, hlk, hrk⟩ := bst_node h
    simp only [get_node, toList_node]
    cases hc : Bytes.cmp k ck with
    | gt =>
      have hck := Bytes.cmp_gt_iff_lt.mp hc
      dsimp only
      rw [ihr hr, specGet_append, specGet_eq_none_iff.mpr fun e he => Bytes.ne_of_cmp_lt (Bytes.cmp_lt_trans (hlk e he) hck),
        Option.none_or, specGet_cons_ne _ _ (Bytes.ne_of_cmp_lt hck)]
    | lt =>
      dsimp only
      have hr' : specGet k ((ck, cv) :: toList r) = none := specGet_eq_none_iff.mpr fun e he => by
        rcases List.mem_cons.mp he with rfl | he
        · exact fun e => Bytes.ne_of_cmp_lt hc e.symm
        · exact fun e2 => Bytes.ne_of_cmp_lt (Bytes.cmp_lt_trans hc (hrk e he)) e2.symm
      rw [ihl hl, specGet_append, hr', Option.or_none]
    | eq =>
      dsimp only
      have hk : k = ck := Bytes.cmp_eq_iff.mp hc
      rw [specGet_append, specGet_eq_none_iff.mpr fun e he => by rw [hk]; exact Bytes.ne_of_cmp_lt (hlk e he), Option.none_or,
        ← hk, specGet_cons_self]

theorem unzip_node (k : Bytes) (l : Tree) (ck cv : Bytes) (cr : Nat) (r : Tree) :
    unzip k (node l ck cv cr r) =
      if Bytes.cmp ck k == .lt then (node l ck cv cr (unzip k r).1, (unzip k r).2)
      else ((unzip k l).1, node (unzip k l).2 ck cv cr r) := rfl

theorem unzip_spec (k : Bytes) (t : Tree) (h : BST t) :
    toList (unzip k t).1 ++ toList (unzip k t).2 = toList t ∧
    (∀ e ∈ toList (unzip k t).1, Bytes.cmp e.1 k = .lt) ∧
    (∀ e ∈ toList (unzip k t).2, Bytes.cmp e.1 k ≠ .lt) := by
  induction t with
  | nil => exact ⟨rfl, fun _ he => (List.not_mem_nil he).elim, fun _ he => (List.not_mem_nil he).elim⟩
  | node l ck cv cr r ihl ihr =>
    obtain ⟨hl, hr, hlk, hrk⟩ := bst_node h
    rw [unzip_node]
    by_cases hc : (Bytes.cmp ck k == .lt) = true
    · rw [if_pos hc]
      have hc' : Bytes.cmp ck k = .lt := by simpa using hc
      obtain ⟨a, b, c⟩ := ihr hr
      refine ⟨?_, ?_, c⟩
      · simp only [toList_node, List.append_assoc, List.cons_append]; rw [a]
      · intro e he
        simp only [toList_node, List.mem_append, List.mem_cons] at he
        rcases he with he | rfl | he
        · exact Bytes.cmp_lt_trans (hlk e he) hc'
        · exact hc'
        · exact b e he
    · rw [if_neg hc]
      have hc' : Bytes.cmp ck k ≠ .lt := by simpa using hc
      obtain ⟨a, b, c⟩ := ihl hl
      refine ⟨?_, b, ?_⟩
      · simp only [toList_node]; rw [← List.append_assoc, a]
      · intro e he
        simp only [toList_node, List.mem_append, List.mem_cons] at he
        rcases he with he | rfl | he
        · exact c e he
        · exact hc'
        · intro h2; exact hc' (Bytes.cmp_lt_trans (hrk e he) h2)

theorem insert_node (k v : Bytes) (rank : Nat) (l : Tree) (ck cv : Bytes) (cr : Nat) (r : Tree) :
    insert k v rank (node l ck cv cr r) =
      if rank < cr || (rank == cr && Bytes.cmp k ck == .gt) then
        if Bytes.cmp k ck == .lt then node (insert k v rank l) ck cv cr r else node l ck cv cr (insert k v rank r)
      else node (unzip k (node l ck cv cr r)).1 k v rank (unzip k (node l ck cv cr r)).2 := rfl

theorem insert_toList (k v : Bytes) (rank : Nat) (t : Tree) (h : BST t) (habs : ∀ e ∈ toList t, e.1 ≠ k) :
    toList (insert k v rank t) = specPut k v (toList t) := by
  induction t with
  | nil => rfl
  | node l ck cv cr r ihl ihr =>
    obtain ⟨hl, hr, hlk, hrk⟩ := bst_node h
    have habsl : ∀ e ∈ toList l, e.1 ≠ k := fun e he => habs e (by simp [toList_node, he])
    have habsr : ∀ e ∈ toList r, e.1 ≠ k := fun e he => habs e (by simp [toList_node, he])
    have hck : ck ≠ k := habs (ck, cv) (by simp [toList_node])
    rw [insert_node]
    split
    · split
      · rename_i hlt
        have hlt' : Bytes.cmp k ck = .lt := by simpa using hlt
        simp only [toList_node]
        rw [ihl hl habsl, specPut_append_head k v ck cv _ _ hlt']
      · rename_i hlt
        have hgt : Bytes.cmp ck k = .lt := Bytes.cmp_lt_of_ne_of_not_gt hck (fun e => hlt (by rw [e]; rfl))
        simp only [toList_node]
        rw [ihr hr habsr, specPut_node_gt k v ck cv _ _ hlk hgt]
    · obtain ⟨a, b, c⟩ := unzip_spec k (node l ck cv cr r) h
      simp only [toList_node] at a ⊢
      rw [← a, specPut_append_lt k v _ _ b, specPut_above]
      -- the upper part holds keys that are not below `k` and, `k` being absent, not `k`
      intro e he
      have hm : e ∈ toList (node l ck cv cr r) := by
        simp only [toList_node]; rw [← a]; exact List.mem_append_right _ he
      exact Bytes.cmp_lt_of_ne_of_not_gt (fun e' => habs e hm e'.symm) (c e he)

theorem replace_node (k v : Bytes) (l : Tree) (ck cv : Bytes) (cr : Nat) (r : Tree) :
    replace k v (node l ck cv cr r) =
      match Bytes.cmp k ck with
      | .eq => node l k v cr r
      | .lt => node (replace k v l) ck cv cr r
      | .gt => node l ck cv cr (replace k v r) := rfl

theorem replace_toList (k v : Bytes) (t : Tree) (h : BST t) (old : Bytes) (hg : get k t = some old) :
    toList (replace k v t) = specPut k v (toList t) := by
  induction t with
  | nil => cases hg
  | node l ck cv cr r ihl ihr =>
    obtain ⟨hl, hr, hlk, hrk⟩ := bst_node h
    rw [get_node] at hg
    rw [replace_node]
    cases hc : Bytes.cmp k ck with
    | eq =>
      simp only [toList_node]
      have hk : k = ck := Bytes.cmp_eq_iff.mp hc
      rw [specPut_append_lt k v _ _ (fun e he => by rw [hk]; exact hlk e he)]
      simp [specPut, hc]
    | lt =>
      rw [hc] at hg
      simp only [toList_node]
      rw [ihl hl hg, specPut_append_head k v ck cv _ _ hc]
    | gt =>
      rw [hc] at hg
      simp only [toList_node]
      rw [ihr hr hg, specPut_node_gt k v ck cv _ _ hlk (Bytes.cmp_gt_iff_lt.mp hc)]

theorem put_spec (k v : Bytes) (rank : Nat) (t : Tree) (h : BST t) :
    (put k v rank t).1 = specGet k (toList t) ∧
    BST (put k v rank t).2 ∧ toList (put k v rank t).2 = specPut k v (toList t) := by
  have hget := get_eq k t h
  unfold put
  cases hg : get k t with
  | some old =>
    dsimp only
    have := replace_toList k v t h old hg
    refine ⟨by rw [← hget, hg], ?_, this⟩
    unfold BST; rw [this]; exact specPut_sorted k v _ h
  | none =>
    dsimp only
    have habs := specGet_eq_none_iff.mp (hget.symm.trans hg)
    have := insert_toList k v rank t h habs
    refine ⟨by rw [← hget, hg], ?_, this⟩
    unfold BST; rw [this]; exact specPut_sorted k v _ h

/-- what a stack of pending nodes will still visit: each node, then its right subtree -/
def stackSeq : List Tree → List KV
  | [] => []
  | nil :: s => stackSeq s
  | node _ k v _ r :: s => (k, v) :: (toList r ++ stackSeq s)

/-- pops the walk can still perform -/
def weight : List Tree → Nat
  | [] => 0
  | nil :: s => 1 + weight s
  | node _ _ _ _ r :: s => 1 + size r + weight s

theorem weight_cons_pos (t : Tree) (s : List Tree) : 0 < weight (t :: s) := by
  cases t <;> simp only [weight] <;> omega

theorem pushLeft_seq (t : Tree) (s : List Tree) : stackSeq (pushLeft t s) = toList t ++ stackSeq s := by
  induction t generalizing s with
  | nil => rfl
  | node l k v rk r ihl _ => simp [pushLeft, ihl, stackSeq, toList_node]

theorem pushLeft_weight (t : Tree) (s : List Tree) : weight (pushLeft t s) = size t + weight s := by
  induction t generalizing s with
  | nil => simp [pushLeft, size]
  | node l k v rk r ihl _ => simp [pushLeft, ihl, weight, size]; omega

def hasPfx (p : Bytes) (e : KV) : Bool := Bytes.hasPrefix e.1 p
def keyBelow (p : Bytes) (e : KV) : Bool := Bytes.cmp e.1 p == .lt

theorem walk_node (p : Bytes) (fuel : Nat) (l : Tree) (k v : Bytes) (rk : Nat) (r : Tree) (s : List Tree) :
    walk p (fuel + 1) (node l k v rk r :: s) =
      if Bytes.hasPrefix k p then (k, v) :: walk p fuel (pushLeft r s) else [] := rfl

theorem walk_eq (p : Bytes) (fuel : Nat) (s : List Tree) (h : weight s ≤ fuel) :
    walk p fuel s = (stackSeq s).takeWhile (hasPfx p) := by
  induction fuel generalizing s with
  | zero =>
    cases s with
    | nil => rfl
    | cons t s => exact absurd h (Nat.not_le_of_gt (weight_cons_pos t s))
  | succ fuel ih =>
    cases s with
    | nil => rfl
    | cons t s =>
      cases t with
      | nil => exact ih s (by simp [weight] at h; omega)
      | node l k v rk r =>
        rw [walk_node]
        simp only [stackSeq]
        by_cases hk : Bytes.hasPrefix k p = true
        · rw [if_pos hk, List.takeWhile_cons_of_pos (by simpa [hasPfx] using hk)]
          rw [ih _ (by rw [pushLeft_weight]; simp [weight] at h; omega), pushLeft_seq]
        · rw [if_neg hk, List.takeWhile_cons_of_neg (by simpa [hasPfx] using hk)]

theorem seek_weight (p : Bytes) (t : Tree) (s : List Tree) : weight (seek p t s) ≤ size t + weight s := by
  induction t generalizing s with
  | nil => exact Nat.le_add_left _ _
  | node l k v rk r ihl ihr =>
    unfold seek
    split
    · simp only [weight, size]; omega
    · split
      · have := ihl (node l k v rk r :: s)
        simp only [weight, size] at this ⊢
        omega
      · have := ihr s
        simp only [size]
        omega

theorem seek_seq (p : Bytes) (t : Tree) (s : List Tree) (h : BST t) :
    stackSeq (seek p t s) = (toList t).dropWhile (keyBelow p) ++ stackSeq s := by
  have hbelow : ∀ {e : KV}, Bytes.cmp e.1 p = .lt → keyBelow p e = true := fun h => by rw [keyBelow, h]; rfl
  induction t generalizing s with
  | nil => rfl
  | node l k v rk r ihl ihr =>
    obtain ⟨hl, hr, hlk, hrk⟩ := bst_node h
    unfold seek
    by_cases hkp : (k == p) = true
    · rw [if_pos hkp]
      have hkp' : k = p := eq_of_beq hkp
      show (k, v) :: (toList r ++ stackSeq s) = (toList l ++ (k, v) :: toList r).dropWhile (keyBelow p) ++ stackSeq s
      rw [List.dropWhile_append_of_pos (fun e he => hbelow (hkp' ▸ hlk e he)),
        List.dropWhile_cons_of_neg (by rw [keyBelow, hkp', Bytes.cmp_self]; decide), List.cons_append]
    · rw [if_neg hkp]
      by_cases hlt : (Bytes.cmp p k == .lt) = true
      · rw [if_pos hlt, ihl (node l k v rk r :: s) hl]
        show _ ++ (k, v) :: (toList r ++ stackSeq s) = (toList l ++ (k, v) :: toList r).dropWhile (keyBelow p) ++ stackSeq s
        rw [dropWhile_append_stop (keyBelow p) _ _ _ (by rw [keyBelow, Bytes.cmp_lt_iff_gt.mp (eq_of_beq hlt)]; rfl), List.append_assoc,
          List.cons_append]
      · rw [if_neg hlt, ihr s hr]
        have hgt : Bytes.cmp k p = .lt :=
          Bytes.cmp_lt_of_ne_of_not_gt (fun e => hkp (e ▸ beq_self_eq_true k)) (fun e => hlt (by rw [e]; rfl))
        show _ = (toList l ++ (k, v) :: toList r).dropWhile (keyBelow p) ++ stackSeq s
        rw [List.dropWhile_append_of_pos (fun e he => hbelow (Bytes.cmp_lt_trans (hlk e he) hgt)),
          List.dropWhile_cons_of_pos (hbelow hgt)]

theorem ascendPrefix_eq (t : Tree) (h : BST t) (p : Bytes) :
    ascendPrefix t p = (toList t).filter (fun e => Bytes.hasPrefix e.1 p) := by
  unfold ascendPrefix
  have b := seek_weight p t []
  rw [walk_eq p _ _ (by simp [weight] at b; omega), seek_seq p t [] h]
  simp only [stackSeq, List.append_nil]
  -- in ascending order: keys below `p` lack the prefix, keys behind one that is not below `p` are not below it either, and
  -- the keys with the prefix form an interval that begins at `p`
  have hnb : ∀ {e : KV}, keyBelow p e = false → Bytes.cmp p e.1 ≠ .gt := fun he hgt => by
    rw [keyBelow, Bytes.cmp_gt_iff_lt.mp hgt] at he; cases he
  refine takeWhile_dropWhile_eq_filter (q := hasPfx p) (fun e _ he => Bytes.not_prefix_of_lt (eq_of_beq he))
    (List.Pairwise.imp ?_ h)
  intro x y hxy hx
  refine ⟨?_, fun hy => Bytes.prefix_interval (Bytes.hasPrefix_self p) hy (hnb hx) (by rw [hxy]; exact nofun)⟩
  cases hby : keyBelow p y with
  | false => rfl
  | true => exact absurd (Bytes.cmp_lt_iff_gt.mp (Bytes.cmp_lt_trans hxy (eq_of_beq hby))) (hnb hx)

theorem map_replace_of_absent (k v : Bytes) (l : List KV) (h : ∀ e ∈ l, e.1 ≠ k) :
    l.map (fun e => if e.1 = k then (k, v) else e) = l := by
  induction l with
  | nil => rfl
  | cons x xs ih =>
    simp only [List.map_cons, if_neg (h x List.mem_cons_self)]
    rw [ih (fun e he => h e (List.mem_cons_of_mem _ he))]

/-- `replace` as a map, also for an absent key (`replace_toList` needs the key present): the form that composes over
`ascendPut`'s fold -/
theorem replace_toList_map (k v : Bytes) (t : Tree) (h : BST t) :
    toList (replace k v t) = (toList t).map (fun e => if e.1 = k then (k, v) else e) := by
  induction t with
  | nil => rfl
  | node l ck cv cr r ihl ihr =>
    obtain ⟨hl, hr, hlk, hrk⟩ := bst_node h
    rw [replace_node]
    cases hc : Bytes.cmp k ck with
    | eq =>
      have hk : k = ck := Bytes.cmp_eq_iff.mp hc
      simp only [toList_node, List.map_append, List.map_cons]
      rw [map_replace_of_absent k v _ (fun e he => by rw [hk]; exact Bytes.ne_of_cmp_lt (hlk e he)),
        map_replace_of_absent k v _ (fun e he => by rw [hk]; exact fun e2 => Bytes.ne_of_cmp_lt (hrk e he) e2.symm)]
      simp [hk]
    | lt =>
      simp only [toList_node, List.map_append, List.map_cons]
      rw [ihl hl, map_replace_of_absent k v (toList r)
        (fun e he => fun e2 => Bytes.ne_of_cmp_lt (Bytes.cmp_lt_trans hc (hrk e he)) e2.symm)]
      have : ck ≠ k := fun e => Bytes.ne_of_cmp_lt hc e.symm
      simp [this]
    | gt =>
      have hgt := Bytes.cmp_gt_iff_lt.mp hc
      simp only [toList_node, List.map_append, List.map_cons]
      rw [ihr hr, map_replace_of_absent k v (toList l) (fun e he => Bytes.ne_of_cmp_lt (Bytes.cmp_lt_trans (hlk e he) hgt))]
      have : ck ≠ k := Bytes.ne_of_cmp_lt hgt
      simp [this]

theorem sorted_map_keys (l : List KV) (g : KV → KV) (hg : ∀ e, (g e).1 = e.1) (h : Sorted l) : Sorted (l.map g) := by
  unfold Sorted at *
  rw [List.pairwise_map]
  exact h.imp (fun hab => by unfold KLt at *; rw [hg, hg]; exact hab)

theorem replace_bst (k v : Bytes) (t : Tree) (h : BST t) : BST (replace k v t) := by
  unfold BST
  rw [replace_toList_map k v t h]
  refine sorted_map_keys _ (fun e => if e.1 = k then (k, v) else e) (fun e => ?_) h
  split
  next he => exact he.symm
  next => rfl

theorem reput_spec (k v : Bytes) (t : Tree) (h : BST t) :
    (reput k v t).1 = (specGet k (toList t)).map (fun _ => v) ∧
    BST (reput k v t).2 ∧ toList (reput k v t).2 = specStep (toList t) (.reput k v) := by
  have hget := get_eq k t h
  unfold reput
  cases hg : get k t with
  | some old =>
    simp only [specStep]
    rw [← hget, hg]
    refine ⟨rfl, replace_bst k v t h, ?_⟩
    simp only [Option.isSome_some, if_true]
    exact replace_toList k v t h old hg
  | none =>
    simp only [specStep]
    rw [← hget, hg]
    exact ⟨rfl, h, by simp⟩

theorem fold_replace (v : Bytes) (ks : List Bytes) (t : Tree) (h : BST t) :
    BST (ks.foldl (fun t k => replace k v t) t) ∧
    toList (ks.foldl (fun t k => replace k v t) t) = (toList t).map (fun e => if e.1 ∈ ks then (e.1, v) else e) := by
  induction ks generalizing t with
  | nil => simp [h]
  | cons k ks ih =>
    simp only [List.foldl_cons]
    obtain ⟨a, b⟩ := ih (replace k v t) (replace_bst k v t h)
    refine ⟨a, ?_⟩
    rw [b, replace_toList_map k v t h, List.map_map]
    apply List.map_congr_left
    intro e _
    simp only [Function.comp_def, List.mem_cons]
    by_cases hk : e.1 = k
    · simp [hk]
    · simp [hk]

theorem ascendPut_spec (p v : Bytes) (t : Tree) (h : BST t) :
    (ascendPut p v t).1 = (toList t).filter (fun e => Bytes.hasPrefix e.1 p) ∧
    BST (ascendPut p v t).2 ∧ toList (ascendPut p v t).2 = specStep (toList t) (.ascPut p v) := by
  have hasc := ascendPrefix_eq t h p
  unfold ascendPut
  dsimp only
  obtain ⟨a, b⟩ := fold_replace v ((ascendPrefix t p).map Prod.fst) t h
  rw [List.foldl_map] at a b
  refine ⟨hasc, a, ?_⟩
  rw [b]
  simp only [specStep]
  apply List.map_congr_left
  intro e he
  have : e.1 ∈ (ascendPrefix t p).map Prod.fst ↔ Bytes.hasPrefix e.1 p = true := by
    rw [hasc]
    simp only [List.mem_map, List.mem_filter]
    constructor
    · rintro ⟨e', ⟨_, hp⟩, he'⟩; rw [← he']; exact hp
    · intro hp; exact ⟨e, ⟨he, hp⟩, rfl⟩
  by_cases hp : Bytes.hasPrefix e.1 p = true
  · rw [if_pos (this.mpr hp), if_pos hp]
  · rw [if_neg (fun hh => hp (this.mp hh)), if_neg hp]

theorem step_spec (t : Tree) (o : Op) (h : BST t) :
    BST (step t o) ∧ toList (step t o) = specStep (toList t) o := by
  cases o with
  | put k v rank => exact (put_spec k v rank t h).2
  | reput k v => exact (reput_spec k v t h).2
  | ascPut p v => exact (ascendPut_spec p v t h).2

theorem runOps_spec (ops : List Op) : BST (runOps ops) ∧ toList (runOps ops) = specRunOps ops := by
  refine List.foldl_rel (r := fun t l => BST t ∧ toList t = l) ⟨List.Pairwise.nil, rfl⟩ fun o _ t l h => ?_
  obtain ⟨c, d⟩ := step_spec t o h.1
  exact ⟨c, by rw [d, h.2]⟩

theorem run_eq_runOps (ops : List (Bytes × Bytes × Nat)) :
    run ops = runOps (ops.map fun o => .put o.1 o.2.1 o.2.2) ∧
    specRun ops = specRunOps (ops.map fun o => .put o.1 o.2.1 o.2.2) := by
  unfold run runOps specRun specRunOps
  rw [List.foldl_map, List.foldl_map]
  exact ⟨rfl, rfl⟩

theorem walkN_node (p : Bytes) (fuel n : Nat) (l : Tree) (k v : Bytes) (rk : Nat) (r : Tree) (s : List Tree) :
    walkN p (fuel + 1) n (node l k v rk r :: s) =
      if Bytes.hasPrefix k p then (if n ≤ 1 then [(k, v)] else (k, v) :: walkN p fuel (n - 1) (pushLeft r s))
      else [] := rfl

theorem walkN_eq (p : Bytes) (fuel n : Nat) (hn : 1 ≤ n) (s : List Tree) :
    walkN p fuel n s = (walk p fuel s).take n := by
  obtain ⟨m, rfl⟩ : ∃ m, n = m + 1 := ⟨n - 1, by omega⟩
  clear hn
  induction fuel generalizing m s with
  | zero => rfl
  | succ fuel ih =>
    cases s with
    | nil => rfl
    | cons t s =>
      cases t with
      | nil => exact ih _ _
      | node l k v rk r =>
        rw [walkN_node, walk_node, Nat.add_sub_cancel]
        by_cases hk : Bytes.hasPrefix k p = true
        · rw [if_pos hk, if_pos hk, List.take_succ_cons]
          cases m with
          | zero => rfl
          | succ m => rw [if_neg (by omega)]; exact congrArg _ (ih _ _)
        · rw [if_neg hk, if_neg hk]; rfl

theorem ascendPrefixN_eq (t : Tree) (p : Bytes) (n : Nat) (hn : 1 ≤ n) :
    ascendPrefixN t p n = (ascendPrefix t p).take n := walkN_eq p _ n hn _

end Rxn.ZipTree
