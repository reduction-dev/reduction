import RxnModel.Proofs.SplitsTracker
/-!
`Inv`, the invariant of the splitter with its stream (`Model/Splits.lean`, C16), kept by every step; beside it `Clean`
(`keep = true` never taints) and `Tame` (tracked shards are unfinished while `wild = false`); completeness of an assignment round.
-/
namespace Rxn.Splits

/- The clauses of `Inv` that a restore needs, as they held of the tracker when the checkpoint was taken (`clean` for
"untainted", `L2` for the assigned shards only); `G` is the meaning of `Ckpt.good`. -/
structure CkInv (stream : List Shard) (c : Ckpt) : Prop where
  K1 : ∀ sh ∈ c.tr.known, stream[sh.id]? = some sh
  K2 : (c.tr.known.map (·.id)).Nodup
  W : ∀ sh ∈ c.tr.known, sh.id ∈ c.tr.assigned → ∀ p ∈ sh.parents, knownId c.tr.known p = false
  L2 : ∀ sh ∈ c.tr.known, sh.id ∈ c.tr.assigned → sh.id < c.tr.next
  N : c.tr.next ≤ stream.length
  Q : c.clean = true → ∀ i, i < c.tr.next → knownId c.tr.known i = true ∨ i ∈ c.done
  R : c.clean = true → ∀ sh ∈ c.tr.known, ∀ i, i < sh.id → knownId c.tr.known i = true ∨ i ∈ c.done
  G : c.good = true → ∀ sh ∈ c.tr.known, sh.id ∈ c.tr.assigned ∨ c.tr.next ≤ sh.id

structure Inv (s : Sp) : Prop where
  E1 : ∀ (i : Nat) (sh : Shard), s.stream[i]? = some sh → sh.id = i ∧ ∀ p ∈ sh.parents, p < i
  K1 : ∀ sh ∈ s.tr.known, s.stream[sh.id]? = some sh
  K2 : (s.tr.known.map (·.id)).Nodup
  A2 : ∀ i ∈ s.tr.assigned, i ∈ s.log
  L1 : s.log.Nodup
  L2 : ∀ i ∈ s.log, i < s.tr.next
  L3 : ∀ sh ∈ s.tr.known, sh.id ∈ s.log → sh.id ∈ s.tr.assigned
  W : ∀ sh ∈ s.tr.known, sh.id ∈ s.tr.assigned → ∀ p ∈ sh.parents, knownId s.tr.known p = false
  N : s.tr.next ≤ s.stream.length
  Q : s.tainted = false → ∀ i, i < s.tr.next → knownId s.tr.known i = true ∨ i ∈ s.done
  R : s.tainted = false → ∀ sh ∈ s.tr.known, ∀ i, i < sh.id → knownId s.tr.known i = true ∨ i ∈ s.done
  D : s.tainted = false → ∀ i ∈ s.log, ∀ sh : Shard, s.stream[i]? = some sh → ∀ p ∈ sh.parents, p ∈ s.done
  CK : ∀ c, s.ck = some c → CkInv s.stream c

theorem stream_unique (stream : List Shard) (a b : Shard) (ha : stream[a.id]? = some a) (hb : stream[b.id]? = some b)
    (e : a.id = b.id) : a = b := by
  rw [e, hb] at ha
  exact (Option.some.inj ha).symm

theorem mem_of_knownId (stream known : List Shard) (hK : ∀ t ∈ known, stream[t.id]? = some t) (sh : Shard)
    (hs : stream[sh.id]? = some sh) (hk : knownId known sh.id = true) : sh ∈ known := by
  obtain ⟨t, ht, e⟩ := (knownId_iff _ _).mp hk
  exact stream_unique stream t sh (hK t ht) hs e ▸ ht

theorem mem_drop_stream (s : Sp) (h : Inv s) (n : Nat) (sh : Shard) (hm : sh ∈ s.stream.drop n) :
    s.stream[sh.id]? = some sh ∧ n ≤ sh.id := by
  obtain ⟨j, hj⟩ := List.mem_iff_getElem?.mp hm
  rw [List.getElem?_drop] at hj
  rw [(h.E1 _ _ hj).1]; exact ⟨hj, Nat.le_add_right _ _⟩

theorem mem_stream (s : Sp) (h : Inv s) (sh : Shard) (hm : sh ∈ s.stream) : s.stream[sh.id]? = some sh :=
  (mem_drop_stream s h 0 sh hm).1

theorem mem_discover (s : Sp) (h : Inv s) (sh : Shard) (hs : sh ∈ (discover s).tr.known) :
    sh ∈ s.tr.known ∨ (s.stream[sh.id]? = some sh ∧ s.tr.next ≤ sh.id) :=
  (mem_addSplits _ _ _ hs).imp id (mem_drop_stream s h _ sh)

theorem knownId_discover (s : Sp) (h : Inv s) (i : Nat) :
    knownId (discover s).tr.known i = true ↔ knownId s.tr.known i = true ∨ (s.tr.next ≤ i ∧ i < s.stream.length) := by
  refine (knownId_addSplits _ _ i).trans (or_congr_right ⟨?_, ?_⟩)
  · rintro ⟨t, ht, rfl⟩
    have := mem_drop_stream s h _ t ht
    exact ⟨this.2, (List.getElem?_eq_some_iff.mp this.1).1⟩
  · rintro ⟨h1, h2⟩
    have hg : s.stream[i]? = some s.stream[i] := List.getElem?_eq_getElem h2
    refine ⟨s.stream[i], List.mem_iff_getElem?.mpr ⟨i - s.tr.next, ?_⟩, (h.E1 _ _ hg).1⟩
    rw [List.getElem?_drop, Nat.add_sub_cancel' h1]; exact hg

theorem Inv.discover (s : Sp) (h : Inv s) : Inv (discover s) := by
  have hmem := mem_discover s h
  have hk := knownId_discover s h
  have hQ : s.tainted = false → ∀ i, i < s.tr.next → knownId (Splits.discover s).tr.known i = true ∨ i ∈ s.done :=
    fun ht i hi => (h.Q ht i hi).imp (fun h1 => (hk i).mpr (Or.inl h1)) id
  refine { h with K1 := ?_, K2 := nodup_addSplits _ _ h.K2, L3 := ?_, W := ?_, Q := hQ, R := ?_ }
  · intro sh hs; exact (hmem sh hs).elim (h.K1 sh) And.left
  · intro sh hs hl
    rcases hmem sh hs with h1 | h1
    · exact h.L3 sh h1 hl
    · -- newly discovered shards lie at or above `next`, the log below it
      have := h.L2 _ hl; omega
  · intro sh hs ha p hp
    have hlt : sh.id < s.tr.next := h.L2 _ (h.A2 _ ha)
    rcases hmem sh hs with h1 | h1
    · -- a parent is older than `sh`, which is below `next`: discovery does not list it
      have hpl : p < sh.id := (h.E1 _ _ (h.K1 sh h1)).2 p hp
      apply Bool.eq_false_iff.mpr
      intro hc
      rcases (hk p).mp hc with h2 | h2
      · rw [h.W sh h1 ha p hp] at h2; exact Bool.noConfusion h2
      · omega
    · -- an assigned shard is below `next` (`hlt`), a newly discovered one is not
      omega
  · intro ht sh hs i hi
    have hsl : sh.id < s.stream.length := (List.getElem?_eq_some_iff.mp ((hmem sh hs).elim (h.K1 sh) And.left)).1
    by_cases hn : i < s.tr.next
    · exact hQ ht i hn
    · exact Or.inl ((hk i).mpr (Or.inr ⟨by omega, by omega⟩))

/-- what `Inv.D` rests on: a parent is older, so tracked or finished (`R`), and an available shard has no tracked parent -/
theorem available_parents_done (s : Sp) (h : Inv s) (ht : s.tainted = false) (sh : Shard) (hs : sh ∈ available s.tr) :
    ∀ p ∈ sh.parents, p ∈ s.done := by
  intro p hp
  have htm := (mem_available _ sh).mp hs
  have hpl : p < sh.id := (h.E1 _ _ (h.K1 sh htm.1)).2 p hp
  rcases h.R ht sh htm.1 p hpl with h2 | h2
  · rw [htm.2.2 p hp] at h2; exact Bool.noConfusion h2
  · exact h2

theorem Inv.assignAvail (s : Sp) (h : Inv s) : Inv (assignAvail s).1 := by
  rw [assignAvail_fst]
  have hb := mem_available s.tr
  refine { h with A2 := ?_, L1 := ?_, L2 := ?_, L3 := ?_, W := ?_, N := ?_, Q := ?_, D := ?_ }
  · intro i hi
    rcases List.mem_append.mp hi with h1 | h1
    · exact List.mem_append_right _ h1
    · exact List.mem_append_left _ (h.A2 i h1)
  · show (s.log ++ (available s.tr).map (·.id)).Nodup
    rw [List.nodup_append]
    refine ⟨h.L1, (List.filter_sublist.map _).nodup h.K2, ?_⟩
    intro a ha b hb' e
    subst e
    obtain ⟨sh, hs, rfl⟩ := List.mem_map.mp hb'
    have := (hb sh).mp hs
    exact this.2.1 (h.L3 sh this.1 ha)
  · intro i hi
    show i < nextOf s.tr.next (available s.tr)
    rcases List.mem_append.mp hi with h1 | h1
    · exact Nat.lt_of_lt_of_le (h.L2 i h1) (nextOf_ge _ _)
    · obtain ⟨sh, hs, rfl⟩ := List.mem_map.mp h1
      exact nextOf_mem _ _ sh hs
  · intro sh hs hl
    show sh.id ∈ (available s.tr).map (·.id) ++ s.tr.assigned
    rcases List.mem_append.mp hl with h1 | h1
    · exact List.mem_append_right _ (h.L3 sh hs h1)
    · exact List.mem_append_left _ h1
  · intro sh hs ha p hp
    show knownId s.tr.known p = false
    rcases List.mem_append.mp ha with h1 | h1
    · obtain ⟨t, ht, e⟩ := List.mem_map.mp h1
      have htm := (hb t).mp ht
      have : t = sh := stream_unique _ t sh (h.K1 t htm.1) (h.K1 sh hs) e
      subst this
      exact htm.2.2 p hp
    · exact h.W sh hs h1 p hp
  · show nextOf s.tr.next (available s.tr) ≤ s.stream.length
    apply nextOf_le _ _ _ h.N
    intro sh hs
    exact (List.getElem?_eq_some_iff.mp (h.K1 sh ((hb sh).mp hs).1)).1
  · intro ht i hi
    show knownId s.tr.known i = true ∨ i ∈ s.done
    -- `next` jumps past the batch: an id below it is below the old `next`, or in the batch, or below a member of it (`R`)
    rcases nextOf_lt _ _ i hi with h1 | ⟨sh, hs, e⟩
    · exact h.Q ht i h1
    · have hsk := ((hb sh).mp hs).1
      by_cases e' : i = sh.id
      · exact Or.inl ((knownId_iff _ _).mpr ⟨sh, hsk, e'.symm⟩)
      · exact h.R ht sh hsk i (by omega)
  · intro ht i hi sh hsi p hp
    show p ∈ s.done
    rcases List.mem_append.mp hi with h1 | h1
    · exact h.D ht i h1 sh hsi p hp
    · obtain ⟨t, hts, e⟩ := List.mem_map.mp h1
      have hst := h.K1 t ((hb t).mp hts).1
      rw [e, hsi] at hst
      cases hst
      exact available_parents_done s h ht sh hts p hp

theorem Inv.remove (s : Sp) (h : Inv s) (ids : List Nat) : Inv (remove s ids) := by
  have hsub : ∀ sh, sh ∈ (Splits.remove s ids).tr.known ↔ sh ∈ s.tr.known ∧ sh.id ∉ ids :=
    fun sh => List.mem_filter.trans (and_congr_right fun _ => not_contains)
  have hk : ∀ i, knownId s.tr.known i = true ∨ i ∈ s.done →
      knownId (Splits.remove s ids).tr.known i = true ∨ i ∈ s.done ++ ids := by
    rintro i (hi | hi)
    · obtain ⟨sh, hs, e⟩ := (knownId_iff _ _).mp hi
      by_cases hm : i ∈ ids
      · exact Or.inr (List.mem_append_right _ hm)
      · exact Or.inl ((knownId_iff _ _).mpr ⟨sh, (hsub sh).mpr ⟨hs, e ▸ hm⟩, e⟩)
    · exact Or.inr (List.mem_append_left _ hi)
  refine { h with K1 := ?_, K2 := (List.filter_sublist.map _).nodup h.K2, A2 := ?_, L3 := ?_, W := ?_, Q := ?_, R := ?_, D := ?_ }
  · intro sh hs; exact h.K1 sh ((hsub sh).mp hs).1
  · intro i hi; exact h.A2 i (List.mem_filter.mp hi).1
  · intro sh hs hl
    have := (hsub sh).mp hs
    exact List.mem_filter.mpr ⟨h.L3 sh this.1 hl, not_contains.mpr this.2⟩
  · intro sh hs ha p hp
    have := h.W sh ((hsub sh).mp hs).1 (List.mem_filter.mp ha).1 p hp
    exact (knownId_false_iff _ _).mpr fun t ht => (knownId_false_iff _ _).mp this t ((hsub t).mp ht).1
  · intro ht i hi; exact hk i (h.Q ht i hi)
  · intro ht sh hs i hi; exact hk i (h.R ht sh ((hsub sh).mp hs).1 i hi)
  · intro ht i hi sh hsi p hp
    exact List.mem_append_left _ (h.D ht i hi sh hsi p hp)

theorem Inv.checkpoint (s : Sp) (h : Inv s) (states : List (Nat × Nat)) : Inv (checkpoint s states) := by
  refine { h with CK := checkpoint_ck ?_ }
  refine { K1 := h.K1, K2 := h.K2, W := h.W, L2 := fun sh _ ha => h.L2 _ (h.A2 _ ha), N := h.N,
           Q := fun hcl => h.Q (by simpa using hcl), R := fun hcl => h.R (by simpa using hcl), G := ?_ }
  intro hg sh hs
  have := (List.all_eq_true.mp hg) sh hs
  simp only [isAssigned, Bool.or_eq_true, decide_eq_true_eq] at this
  exact this.imp List.contains_iff_mem.mp id

theorem CkInv.append (stream new : List Shard) (c : Ckpt) (h : CkInv stream c) : CkInv (stream ++ new) c := by
  refine { h with K1 := ?_, N := ?_ }
  · intro sh hs; exact getElem?_append_of_some new (h.K1 sh hs)
  · have := h.N; simp only [List.length_append]; omega

theorem Inv.append (s : Sp) (h : Inv s) (new : List Shard) (cl : List Nat)
    (hnew : ∀ (j : Nat) (sh : Shard), new[j]? = some sh →
      sh.id = s.stream.length + j ∧ ∀ p ∈ sh.parents, p < s.stream.length + j) :
    Inv { s with stream := s.stream ++ new, closed := cl } := by
  refine { h with E1 := ?_, K1 := ?_, N := ?_, D := ?_, CK := ?_ }
  · intro i sh hi
    by_cases hl : i < s.stream.length
    · rw [List.getElem?_append_left hl] at hi; exact h.E1 i sh hi
    · rw [List.getElem?_append_right (by omega)] at hi
      have := hnew _ sh hi
      rw [Nat.add_sub_cancel' (Nat.le_of_not_lt hl)] at this; exact this
  · intro sh hs; exact getElem?_append_of_some new (h.K1 sh hs)
  · have := h.N; show s.tr.next ≤ (s.stream ++ new).length; simp only [List.length_append]; omega
  · intro ht i hi sh hsi p hp
    have hl : i < s.stream.length := Nat.lt_of_lt_of_le (h.L2 i hi) h.N
    have hsi' : (s.stream ++ new)[i]? = some sh := hsi
    rw [List.getElem?_append_left hl] at hsi'
    exact h.D ht i hi sh hsi' p hp
  · intro c hc; exact CkInv.append _ _ _ (h.CK c hc)

theorem Inv.appends (s s' : Sp) (h : Inv s) (ha : Appends s s') : Inv s' := by
  obtain ⟨new, cl, rfl, hnew⟩ := ha
  exact Inv.append s h new cl hnew

theorem Inv.fresh (s : Sp)
    (hE : ∀ (i : Nat) (sh : Shard), s.stream[i]? = some sh → sh.id = i ∧ ∀ p ∈ sh.parents, p < i)
    (hck : ∀ c, s.ck = some c → CkInv s.stream c) : Inv { s with tr := {}, log := [] } :=
  { E1 := hE, K1 := fun _ => nil_elim, K2 := .nil, A2 := fun _ => nil_elim, L1 := .nil, L2 := fun _ => nil_elim,
    L3 := fun _ => nil_elim, W := fun _ => nil_elim, N := Nat.zero_le _,
    Q := fun _ i hi => (Nat.not_lt_zero i hi).elim, R := fun _ _ => nil_elim, D := fun _ _ => nil_elim, CK := hck }

theorem Inv.init (shards runners : Nat) : Inv (initSp shards runners) := by
  refine Inv.fresh (initSp shards runners) ?_ (fun _ => nofun)
  intro i sh hi
  simp only [initSp, rootShards, List.getElem?_map] at hi
  cases hr : (List.range shards)[i]? with
  | none => rw [hr] at hi; simp at hi
  | some j =>
    rw [hr] at hi
    simp only [Option.map_some, Option.some.injEq] at hi
    have hj : j = i := by
      have hl := (List.getElem?_eq_some_iff.mp hr).1
      rw [List.getElem?_eq_getElem hl, List.getElem_range] at hr
      exact (Option.some.inj hr).symm
    subst hi; subst hj
    exact ⟨rfl, by intro p hp; simp at hp⟩

theorem knownId_loaded (keep readd : Bool) (stream : List Shard) (c : Ckpt) (t : Shard)
    (ht : t ∈ loaded keep readd stream c) : knownId (addSplits [] (loaded keep readd stream c)) t.id = true :=
  (knownId_addSplits _ _ _).mpr (Or.inr ⟨t, ht, rfl⟩)

/-- a load that drops withheld shards needs `hG` (`CkInv.G` of a good checkpoint): there was none below `next` -/
theorem load_carries (keep readd : Bool) (stream : List Shard) (c : Ckpt)
    (hG : keep = false → ∀ sh ∈ c.tr.known, sh.id ∈ c.tr.assigned ∨ c.tr.next ≤ sh.id)
    (i : Nat) (hi : i < c.tr.next ∨ keep = true) (hkd : knownId c.tr.known i = true ∨ i ∈ c.done) :
    knownId (addSplits [] (loaded keep readd stream c)) i = true ∨ i ∈ loadedDone readd stream c := by
  rcases hkd with h1 | h1
  · obtain ⟨sh, hs, rfl⟩ := (knownId_iff _ _).mp h1
    refine Or.inl (knownId_loaded _ _ _ _ _ ((mem_loaded _ _ _ _ _).mpr (Or.inl ⟨hs, ?_⟩)))
    cases hk : keep with
    | true => exact Or.inr rfl
    | false =>
      rcases hG hk sh hs with h2 | h2
      · exact Or.inl h2
      · rcases hi with hi | hi
        · omega
        · rw [hk] at hi; exact Bool.noConfusion hi
  · by_cases hm : readd = true ∧ i ∈ (readdList stream c).map (·.id)
    · obtain ⟨sh, hs, e⟩ := List.mem_map.mp hm.2
      exact Or.inl (e ▸ knownId_loaded _ _ _ _ sh ((mem_loaded _ _ _ _ _).mpr (Or.inr ⟨hm.1, hs⟩)))
    · exact Or.inr ((mem_loadedDone _ _ _ _).mpr ⟨h1, fun hr hx => hm ⟨hr, hx⟩⟩)

theorem Inv.load (keep readd : Bool) (s : Sp) (h : Inv s) : Inv (load keep readd s) := by
  cases hck : s.ck with
  | none =>
    rw [load_none keep readd s hck]
    exact Inv.fresh { s with cursors := [], done := [] } h.E1 h.CK
  | some c =>
    rw [load_some keep readd s c hck]
    have hc := h.CK c hck
    have untainted : (s.tainted || !c.clean || (!keep && !c.good)) = false → c.clean = true ∧
        ∀ i, (i < c.tr.next ∨ keep = true) → (knownId c.tr.known i = true ∨ i ∈ c.done) →
          knownId (addSplits [] (loaded keep readd s.stream c)) i = true ∨ i ∈ loadedDone readd s.stream c := by
      intro ht
      obtain ⟨_, hcl, hg⟩ := (restore_untainted_iff _ _ _ _).mp ht
      exact ⟨hcl, load_carries keep readd s.stream c fun hk => hc.G (hg hk)⟩
    refine { h with
      K1 := ?_, K2 := nodup_addSplits _ _ .nil, A2 := fun _ => nil_elim, L1 := .nil, L2 := fun _ => nil_elim,
      L3 := fun _ _ => nil_elim, W := fun _ _ => nil_elim, N := hc.N, Q := ?_, R := ?_, D := fun _ _ => nil_elim }
    · intro sh hs
      rcases (mem_loaded _ _ _ _ _).mp (mem_addSplits_nil _ sh hs) with h1 | h1
      · exact hc.K1 sh h1.1
      · exact mem_stream s h sh ((mem_readdList _ _ _).mp h1.2).1
    · intro ht i hi
      obtain ⟨hcl, carry⟩ := untainted ht
      exact carry i (Or.inl hi) (hc.Q hcl i hi)
    · intro ht sh hs i hi
      obtain ⟨hcl, carry⟩ := untainted ht
      rcases (mem_loaded _ _ _ _ _).mp (mem_addSplits_nil _ sh hs) with ⟨h1, h3 | h3⟩ | ⟨_, h1⟩
      · have := hc.L2 sh h1 h3
        exact carry i (Or.inl (by omega)) (hc.R hcl sh h1 i hi)
      · exact carry i (Or.inr h3) (hc.R hcl sh h1 i hi)
      · -- a re-added shard need not have been tracked at the checkpoint, but lies below `next`: `Q` in place of `R`
        have := ((mem_readdList _ _ _).mp h1).2.2.2
        exact carry i (Or.inl (by omega)) (hc.Q hcl i (by omega))

theorem Inv.restart (keep readd : Bool) (s : Sp) (h : Inv s) : Inv (restart keep readd s).1 :=
  Inv.assignAvail _ (Inv.discover _ (Inv.load keep readd s h))

theorem Inv.step (keep readd : Bool) (s : Sp) (h : Inv s) (a : Act) : Inv (step keep readd s a).1 := by
  cases a with
  | start => exact Inv.restart keep readd s h
  | tick => exact Inv.assignAvail _ (Inv.discover s h)
  | finish ids => exact Inv.assignAvail _ (Inv.remove s h ids)
  | ckpt st => exact Inv.checkpoint s h st
  | split i a => exact Inv.appends s _ h (envSplit_appends s i a)
  | merge i j => exact Inv.appends s _ h (envMerge_appends s i j)

theorem Inv.run (keep readd : Bool) (as : List Act) (s : Sp) (h : Inv s) : Inv (run keep readd s as) :=
  List.foldlRecOn (motive := Inv) as _ h fun s hs a _ => Inv.step keep readd s hs a

/-- kept by every step when `keep = true`: a splitter that persists the withheld shards never loses one -/
structure Clean (s : Sp) : Prop where
  untainted : s.tainted = false
  ckClean : ∀ c, s.ck = some c → c.clean = true

theorem Clean.init (shards runners : Nat) : Clean (initSp shards runners) :=
  ⟨rfl, fun _ => nofun⟩

theorem Clean.step (readd : Bool) (s : Sp) (h : Clean s) (a : Act) : Clean (Splits.step true readd s a).1 := by
  constructor
  · apply Bool.eq_false_iff.mpr
    intro h'
    obtain ⟨_, c, hc, h1 | h1⟩ := step_taints true readd s a h.untainted h'
    · exact Bool.noConfusion ((h.ckClean c hc).symm.trans h1)
    · exact Bool.noConfusion h1.1
  · intro c hc
    rw [step_ck] at hc
    cases a with
    | ckpt st => exact checkpoint_ck (P := fun c => c.clean = true) (by simp [h.untainted]) c hc
    | _ => exact h.ckClean c hc

theorem Clean.run (readd : Bool) (as : List Act) (s : Sp) (h : Clean s) : Clean (run true readd s as) :=
  List.foldlRecOn (motive := Clean) as _ h fun s hs a _ => Clean.step readd s hs a

theorem restart_hands_out (keep readd : Bool) (s : Sp) (sh : Shard)
    (hs : sh ∈ (discover (load keep readd s)).tr.known) :
    (∃ call ∈ (restart keep readd s).2,
        (uidx sh.lo sh.hi (load keep readd s).runners, sh.id, cursorOf (load keep readd s).cursors sh.id) ∈ call) ∨
    ∃ p ∈ sh.parents, knownId (discover (load keep readd s)).tr.known p = true := by
  rcases tracked_cases _ sh hs with h1 | h1 | h1
  · exact nil_elim (load_assigned keep readd s ▸ (h1 : sh.id ∈ (load keep readd s).tr.assigned))
  · exact Or.inl (mem_assignAvail_call _ sh h1)
  · exact Or.inr h1

theorem mem_discover_load (keep readd : Bool) (s : Sp) (h : Inv s) (c : Ckpt) (hck : s.ck = some c) (t : Shard)
    (hts : s.stream[t.id]? = some t) (ht : t ∈ loaded keep readd s.stream c ∨ c.tr.next ≤ t.id) :
    t ∈ (discover (load keep readd s)).tr.known := by
  have hL := Inv.load keep readd s h
  have hk := knownId_discover _ hL t.id
  have hK := (Inv.discover _ hL).K1
  rw [load_some keep readd s c hck] at hk hK ⊢
  exact mem_of_knownId _ _ hK t hts
    (hk.mpr (ht.imp (knownId_loaded _ _ _ _ t) fun hn => ⟨hn, (List.getElem?_eq_some_iff.mp hts).1⟩))

/-- restore hands out every shard that was assigned at the checkpoint, unless (`readd = true`) a parent of it is
resumed whose reported position had been dropped from the tracker -/
theorem restart_assigns (keep readd : Bool) (s : Sp) (h : Inv s) (c : Ckpt) (hck : s.ck = some c)
    (sh : Shard) (hs : sh ∈ c.tr.known) (ha : sh.id ∈ c.tr.assigned) :
    (∃ call ∈ (restart keep readd s).2, (uidx sh.lo sh.hi s.runners, sh.id, cursorOf c.states sh.id) ∈ call) ∨
    (readd = true ∧ ∃ p ∈ sh.parents, p ∈ (readdList s.stream c).map (·.id)) := by
  have hc := h.CK c hck
  have hk : sh ∈ (discover (load keep readd s)).tr.known :=
    mem_discover_load keep readd s h c hck sh (hc.K1 sh hs) (Or.inl ((mem_loaded _ _ _ _ _).mpr (Or.inl ⟨hs, Or.inl ha⟩)))
  have hout := restart_hands_out keep readd s sh hk
  have hdrop := mem_drop_stream _ (Inv.load keep readd s h)
  rw [load_some keep readd s c hck] at hout hdrop
  rcases hout with h1 | ⟨p, hp, hk⟩
  · exact Or.inl h1
  · -- a tracked parent: not one that was tracked at the checkpoint, not a newly discovered one
    rcases (knownId_addSplits _ _ _).mp hk with h1 | ⟨t, ht, e⟩
    · obtain ⟨t, ht, e⟩ := (knownId_iff _ _).mp h1
      rcases (mem_loaded _ _ _ _ _).mp (mem_addSplits_nil _ t ht) with h2 | h2
      · have := hc.W sh hs ha p hp
        rw [(knownId_iff _ _).mpr ⟨t, h2.1, e⟩] at this
        exact Bool.noConfusion this
      · exact Or.inr ⟨h2.1, p, hp, List.mem_map.mpr ⟨t, h2.2, e⟩⟩
    · -- `p = t.id` is older than `sh`, which was assigned, so below `next`; discovery lists from `next` on
      exfalso
      have hpl : p < sh.id := (h.E1 _ _ (hc.K1 sh hs)).2 p hp
      have h1 : c.tr.next ≤ t.id := (hdrop _ t ht).2
      have h2 := hc.L2 sh hs ha
      omega

/-- **every reported position is resumed**: a shard for which the checkpoint holds a position is handed out by the
restart with that position or waits for a tracked parent — provided it was still tracked and assigned at the splitter
checkpoint (or tracked and `keep`), or not yet passed by discovery, or `readd` -/
theorem reported_resumed (keep readd : Bool) (s : Sp) (h : Inv s) (c : Ckpt) (hck : s.ck = some c)
    (i : Nat) (sh : Shard) (hsh : s.stream[i]? = some sh) (hst : i ∈ c.states.map (·.1))
    (hB : (knownId c.tr.known i = true ∧ (i ∈ c.tr.assigned ∨ keep = true)) ∨ c.tr.next ≤ i ∨ readd = true) :
    (∃ call ∈ (restart keep readd s).2, (uidx sh.lo sh.hi s.runners, i, cursorOf c.states i) ∈ call) ∨
    ∃ p ∈ sh.parents, knownId (discover (load keep readd s)).tr.known p = true := by
  have hc := h.CK c hck
  have hid : sh.id = i := (h.E1 _ _ hsh).1
  subst hid
  have hmem : sh ∈ s.stream := List.mem_iff_getElem?.mpr ⟨_, hsh⟩
  have hk : sh ∈ (discover (load keep readd s)).tr.known := by
    apply mem_discover_load keep readd s h c hck sh hsh
    have tracked : knownId c.tr.known sh.id = true ∧ (sh.id ∈ c.tr.assigned ∨ keep = true) →
        sh ∈ loaded keep readd s.stream c := fun hA =>
      (mem_loaded _ _ _ _ _).mpr (Or.inl ⟨mem_of_knownId _ _ hc.K1 sh hsh hA.1, hA.2⟩)
    rcases hB with hA | hn | hr
    · exact Or.inl (tracked hA)
    · exact Or.inr hn
    · -- re-added, unless it is tracked and assigned or discovery lists it anyway
      by_cases hn : sh.id < c.tr.next
      · by_cases hA : knownId c.tr.known sh.id = true ∧ sh.id ∈ c.tr.assigned
        · exact Or.inl (tracked ⟨hA.1, Or.inl hA.2⟩)
        · refine Or.inl ((mem_loaded _ _ _ _ _).mpr (Or.inr ⟨hr, (mem_readdList _ _ _).mpr ⟨hmem, hst, ?_, hn⟩⟩))
          by_cases ha : sh.id ∈ c.tr.assigned
          · exact Or.inr (Bool.eq_false_iff.mpr fun hk => hA ⟨hk, ha⟩)
          · exact Or.inl ha
      · exact Or.inr (Nat.le_of_not_lt hn)
  have hout := restart_hands_out keep readd s sh hk
  rw [load_some keep readd s c hck] at hout ⊢
  exact hout

/-! ### tracked shards are unfinished (as long as readers only finish shards they were given) -/

structure Tame (s : Sp) : Prop where
  X : s.wild = false → ∀ sh ∈ s.tr.known, sh.id ∉ s.done
  Y : s.wild = false → ∀ i ∈ s.done, i < s.tr.next
  CX : s.wild = false → ∀ c, s.ck = some c → (∀ sh ∈ c.tr.known, sh.id ∉ c.done) ∧ ∀ i ∈ c.done, i < c.tr.next

theorem Tame.init (shards runners : Nat) : Tame (initSp shards runners) :=
  ⟨fun _ _ => nil_elim, fun _ _ => nil_elim, fun _ _ => nofun⟩

theorem Tame.discover (s : Sp) (hI : Inv s) (h : Tame s) : Tame (discover s) := by
  refine ⟨?_, h.Y, h.CX⟩
  intro hw sh hs
  rcases mem_discover s hI sh hs with h1 | h1
  · exact h.X hw sh h1
  · -- a finished shard is below `next`, a newly discovered one is not
    intro hd
    have := h.Y hw _ hd
    omega

theorem Tame.assignAvail (s : Sp) (h : Tame s) : Tame (assignAvail s).1 := by
  rw [assignAvail_fst]
  exact ⟨h.X, fun hw i hi => Nat.lt_of_lt_of_le (h.Y hw i hi) (nextOf_ge _ _), h.CX⟩

theorem Tame.remove (s : Sp) (hI : Inv s) (h : Tame s) (ids : List Nat) : Tame (remove s ids) := by
  have hsplit : (Splits.remove s ids).wild = false → s.wild = false ∧ ∀ i ∈ ids, i ∈ s.tr.assigned := by
    intro hw
    simp only [Splits.remove, Bool.or_eq_false_iff] at hw
    refine ⟨hw.1, ?_⟩
    intro i hi
    have := List.any_eq_false.mp hw.2 i hi
    exact List.contains_iff_mem.mp (by simpa using this)
  refine ⟨?_, ?_, ?_⟩
  · intro hw sh hs hd
    have hm := List.mem_filter.mp hs
    rcases List.mem_append.mp hd with h1 | h1
    · exact h.X (hsplit hw).1 sh hm.1 h1
    · exact not_contains.mp hm.2 h1
  · intro hw i hi
    obtain ⟨hw0, hass⟩ := hsplit hw
    rcases List.mem_append.mp hi with h1 | h1
    · exact h.Y hw0 i h1
    · exact hI.L2 _ (hI.A2 _ (hass i h1))
  · intro hw c hc
    exact h.CX (hsplit hw).1 c hc

theorem Tame.checkpoint (s : Sp) (h : Tame s) (st : List (Nat × Nat)) : Tame (checkpoint s st) :=
  ⟨h.X, h.Y, fun hw => checkpoint_ck ⟨h.X hw, h.Y hw⟩⟩

theorem Tame.load (keep readd : Bool) (s : Sp) (h : Tame s) : Tame (load keep readd s) := by
  cases hck : s.ck with
  | none =>
    rw [load_none keep readd s hck]
    exact ⟨fun _ _ => nil_elim, fun _ _ => nil_elim, h.CX⟩
  | some c =>
    rw [load_some keep readd s c hck]
    refine ⟨?_, ?_, h.CX⟩
    · intro hw sh hs hd
      obtain ⟨hd1, hd2⟩ := (mem_loadedDone _ _ _ _).mp hd
      rcases (mem_loaded _ _ _ _ _).mp (mem_addSplits_nil _ sh hs) with h1 | h1
      · exact (h.CX hw c hck).1 sh h1.1 hd1
      · exact hd2 h1.1 (List.mem_map_of_mem h1.2)
    · intro hw i hi
      exact (h.CX hw c hck).2 i ((mem_loadedDone _ _ _ _).mp hi).1

theorem Tame.appends (s s' : Sp) (h : Tame s) (ha : Appends s s') : Tame s' := by
  obtain ⟨new, cl, rfl, _⟩ := ha
  exact ⟨h.X, h.Y, h.CX⟩

theorem Tame.step (keep readd : Bool) (s : Sp) (hI : Inv s) (h : Tame s) (a : Act) : Tame (step keep readd s a).1 := by
  cases a with
  | start => exact Tame.assignAvail _ (Tame.discover _ (Inv.load keep readd s hI) (Tame.load keep readd s h))
  | tick => exact Tame.assignAvail _ (Tame.discover s hI h)
  | finish ids => exact Tame.assignAvail _ (Tame.remove s hI h ids)
  | ckpt st => exact Tame.checkpoint s h st
  | split i a => exact Tame.appends s _ h (envSplit_appends s i a)
  | merge i j => exact Tame.appends s _ h (envMerge_appends s i j)

theorem Tame.run (keep readd : Bool) (as : List Act) (s : Sp) (hI : Inv s) (h : Tame s) : Tame (run keep readd s as) :=
  (List.foldlRecOn (motive := fun s => Inv s ∧ Tame s) as _ ⟨hI, h⟩
    fun s hs a _ => ⟨Inv.step keep readd s hs.1 a, Tame.step keep readd s hs.1 hs.2 a⟩).2

theorem available_after_assign (s : Sp) : available (assignAvail s).1.tr = [] := by
  rw [assignAvail_fst]
  apply List.eq_nil_iff_forall_not_mem.mpr
  intro sh hs
  have h1 := (mem_available _ sh).mp hs
  have h2 : sh ∈ available s.tr :=
    (mem_available _ sh).mpr ⟨h1.1, fun hm => h1.2.1 (List.mem_append_right _ hm), h1.2.2⟩
  exact h1.2.1 (List.mem_append_left _ (List.mem_map_of_mem h2))

theorem round_complete (s : Sp) (h : Inv s) (ht : s.tainted = false) (i : Nat) (sh : Shard)
    (hi : (assignAvail (discover s)).1.stream[i]? = some sh) :
    i ∈ (assignAvail (discover s)).1.done ∨ i ∈ (assignAvail (discover s)).1.log ∨
      ∃ p ∈ sh.parents, knownId (assignAvail (discover s)).1.tr.known p = true := by
  have h1 : Inv (discover s) := Inv.discover s h
  have h2 := Inv.assignAvail _ h1
  have hna := available_after_assign (discover s)
  rw [assignAvail_fst] at hi h2 hna ⊢
  have hi0 : s.stream[i]? = some sh := hi
  have hid : sh.id = i := (h.E1 _ _ hi0).1
  subst hid
  have hkd : knownId (discover s).tr.known sh.id = true ∨ sh.id ∈ s.done := by
    by_cases hn : sh.id < s.tr.next
    · exact (h.Q ht _ hn).imp (fun a => (knownId_discover s h _).mpr (Or.inl a)) id
    · exact Or.inl ((knownId_discover s h _).mpr (Or.inr ⟨by omega, (List.getElem?_eq_some_iff.mp hi0).1⟩))
  rcases hkd with hk | hd
  · -- tracked and, after the round, not available: handed out or a parent is tracked
    rcases tracked_cases (trackAssigned (discover s).tr (available (discover s).tr)) sh
      (mem_of_knownId _ _ h1.K1 sh hi0 hk) with ha | ha | ha
    · exact Or.inr (Or.inl (h2.A2 _ ha))
    · rw [hna] at ha; exact nil_elim ha
    · exact Or.inr (Or.inr ha)
  · exact Or.inl hd

theorem step_complete (keep readd : Bool) (s : Sp) (h : Inv s) (a : Act) (ha : a = .start ∨ a = .tick)
    (ht : (step keep readd s a).1.tainted = false) (i : Nat) (sh : Shard)
    (hi : (step keep readd s a).1.stream[i]? = some sh) :
    i ∈ (step keep readd s a).1.done ∨ i ∈ (step keep readd s a).1.log ∨
      ∃ p ∈ sh.parents, knownId (step keep readd s a).1.tr.known p = true := by
  rcases ha with rfl | rfl
  · exact round_complete (load keep readd s) (Inv.load keep readd s h)
      ((step_tainted keep readd s .start).symm.trans ht) i sh hi
  · exact round_complete s h ((step_tainted keep readd s .tick).symm.trans ht) i sh hi

theorem step_assignable (keep readd : Bool) (s : Sp) (hI : Inv s) (hT : Tame s) (a : Act) (ha : a = .start ∨ a = .tick)
    (ht : (step keep readd s a).1.tainted = false) (hw : (step keep readd s a).1.wild = false) (i : Nat) (sh : Shard)
    (hi : (step keep readd s a).1.stream[i]? = some sh) (hpar : ∀ p ∈ sh.parents, p ∈ (step keep readd s a).1.done)
    (hnd : i ∉ (step keep readd s a).1.done) : i ∈ (step keep readd s a).1.log := by
  rcases step_complete keep readd s hI a ha ht i sh hi with h1 | h1 | ⟨p, hp, hk⟩
  · exact absurd h1 hnd
  · exact h1
  · -- a tracked parent is not finished
    obtain ⟨t, hts, e⟩ := (knownId_iff _ _).mp hk
    exact absurd (e ▸ hpar p hp) ((Tame.step keep readd s hI hT a).X hw t hts)

end Rxn.Splits
