import RxnModel.Model.Runner
import RxnModel.Proofs.Batcher
/-! For C04: `step` of `Model/Runner.lean` as a relation, and its inductive invariants. -/
namespace Rxn.Runner
variable {ρ : Type}

theorem expand_append (c : Cfg ρ) (a b : List (Item ρ)) : expand c (a ++ b) = expand c a ++ expand c b := by
  simp [expand]

theorem project_append (c : Cfg ρ) (o : Nat) (a b : List (Item ρ)) :
    project c o (a ++ b) = project c o a ++ project c o b := by
  simp [project, expand_append]

theorem project_cons (c : Cfg ρ) (o : Nat) (a : Item ρ) (b : List (Item ρ)) :
    project c o (a :: b) = (expand1 c a).filter (keep c o) ++ project c o b := by
  simp [project, expand]

theorem project_nil (c : Cfg ρ) (o : Nat) : project c o [] = [] := rfl

theorem count_project (c : Cfg ρ) (q : Nat) (l : List (Item ρ)) (e : KEv) :
    (project c q l).count (.keyed e) = if c.route e.key = q then (expand c l).count (.keyed e) else 0 := by
  by_cases h : c.route e.key = q
  · rw [if_pos h, project, List.count_filter (by simp [keep, h])]
  · rw [if_neg h]
    exact List.count_eq_zero.mpr fun hm => by simpa [keep, h] using (List.mem_filter.mp hm).2

theorem prefix_through_first {β : Type} {d rest X Y : List β} {b : β} (h : d ++ rest = X ++ b :: Y) (hX : b ∉ X)
    (hd : b ∈ d) : ∃ rest', d = X ++ b :: rest' := by
  rcases List.append_eq_append_iff.mp h with ⟨a', h1, _⟩ | ⟨c', h1, h2⟩
  · -- `d` is a prefix of `X`
    exact absurd (h1 ▸ List.mem_append_left a' hd) hX
  · cases c' with
    | nil => rw [h1, List.append_nil] at hd; exact absurd hd hX
    | cons x xs =>
      obtain ⟨rfl, _⟩ := List.cons.inj h2
      exact ⟨xs, h1⟩

theorem bcast_filter (n q : Nat) (ev : Ev) :
    (((List.range n).map (fun o => (o, ev))).filter (fun p => p.1 == q)).map (·.2) = if q < n then [ev] else [] := by
  rw [List.filter_map, List.map_map]
  show ((List.range n).filter (· == q)).map (fun _ => ev) = _
  rw [List.filter_beq, List.count_range]
  split <;> rfl

theorem targets_filter (c : Cfg ρ) (q : Nat) (hq : q < c.nOps) (it : Item ρ) (res : List KEv)
    (hres : ∀ r, it = .record r → res = c.keyOf r) :
    ((targetsOf c res it).filter (fun p => p.1 == q)).map (·.2) = (expand1 c it).filter (keep c q) := by
  cases it with
  | record r =>
    rw [hres r rfl]
    simp only [targetsOf, expand1, List.filter_map, List.map_map]
    rfl
  | wm | barrier id => simp [targetsOf, expand1, bcast_filter, hq]; rfl

/-- one constructor per enabled branch of `step`: `takeRecord`/`takeBcast` are the branches of `sTake`,
`sSendSlot`/`sSend` the buffered and the unbuffered `sSend` -/
inductive Step (c : Cfg ρ) (s : St ρ) : Act ρ → St ρ → Prop
  | fetch (rs : List ρ) (hb : s.readBuf = []) :
    Step c s (.fetch rs) { s with readBuf := rs, cursor := s.cursor + rs.length }
  | enq {r : ρ} {rest : List ρ} (hb : s.readBuf = r :: rest) :
    Step c s .enq { s with readBuf := rest, logical := s.logical ++ [.record r], stream := s.stream ++ [.record r],
                           rfPending := s.rfPending ++ [c.keyOf r] }
  | tick (hb : s.readBuf = []) : Step c s .tick { s with logical := s.logical ++ [.wm], stream := s.stream ++ [.wm] }
  | barrier (id : Nat) (hb : s.readBuf = []) :
    Step c s (.barrier id) { s with logical := s.logical ++ [.barrier id], stream := s.stream ++ [.barrier id],
                                    ckpts := s.ckpts ++ [(id, s.cursor)] }
  | rfEmit {x : List KEv} {rest : List (List KEv)} (hp : s.rfPending = x :: rest) :
    Step c s .rfEmit { s with rfPending := rest, rfOut := s.rfOut ++ [x] }
  | takeRecord {r : ρ} {rest : List (Item ρ)} {res : List KEv} {outRest : List (List KEv)} (hpc : s.spc = .idle)
      (htodo : s.todo = []) (hst : s.stream = .record r :: rest) (hout : s.rfOut = res :: outRest) :
    Step c s .sTake { s with stream := rest, rfOut := outRest, todo := targetsOf c res (.record r) }
  | takeBcast {it : Item ρ} {rest : List (Item ρ)} (hnr : ∀ r, it ≠ .record r) (hpc : s.spc = .idle)
      (htodo : s.todo = []) (hst : s.stream = it :: rest) :
    Step c s .sTake { s with stream := rest, todo := targetsOf c [] it }
  | sAdd {o : Nat} {e : Ev} {rest : List (Nat × Ev)} (hpc : s.spc = .idle) (htodo : s.todo = (o, e) :: rest) :
    Step c s .sAdd { setOp s o { s.ops o with b := Batcher.add (s.ops o).b e } with todo := rest, spc := .added o }
  | sIsFull {o : Nat} (hpc : s.spc = .added o) :
    Step c s .sIsFull { s with spc := if Batcher.isFull (s.ops o).b then .full o else .idle }
  | sFlush {o : Nat} (hpc : s.spc = .full o) :
    Step c s .sFlush { setOp s o { s.ops o with b := (Batcher.flush (s.ops o).b .cur).1 } with
                       spc := .handoff o (Batcher.flush (s.ops o).b .cur).2 }
  | sSendSlot {o : Nat} {batch : List Ev} (hbuf : c.handoffBuffered = true) (hpc : s.spc = .handoff o batch)
      (hslot : (s.ops o).slot = none) :
    Step c s .sSend { setOp s o { s.ops o with slot := some batch } with spc := .idle }
  | sSend {o : Nat} {batch : List Ev} (hbuf : c.handoffBuffered = false) (hpc : s.spc = .handoff o batch)
      (hopc : (s.ops o).pc = .idle) :
    Step c s .sSend { setOp s o { s.ops o with pc := .handling, recv := (s.ops o).recv ++ [batch] } with spc := .idle }
  | fire (o : Nat) {t : Nat} (hf : Batcher.fire (s.ops o).b = some t) :
    Step c s (.fire o) (setOp s o { s.ops o with tokens := (s.ops o).tokens ++ [t] })
  | stale (o : Nat) {t : Nat} (hf : Batcher.stale (s.ops o).b = some t) :
    Step c s (.stale o) (setOp s o { s.ops o with tokens := (s.ops o).tokens ++ [t] })
  | staleTok (o t : Nat) {l : Nat} (hf : Batcher.stale (s.ops o).b = some l) (hle : t ≤ l) :
    Step c s (.staleTok o t) (setOp s o { s.ops o with tokens := (s.ops o).tokens ++ [t] })
  | oTok (o : Nat) {t : Nat} {rest : List Nat} (hpc : (s.ops o).pc = .idle) (htok : (s.ops o).tokens = t :: rest) :
    Step c s (.oTok o) (setOp s o { s.ops o with pc := .gotTok t, tokens := rest })
  | oTFlush (o : Nat) {t : Nat} (hpc : (s.ops o).pc = .gotTok t) :
    Step c s (.oTFlush o)
      (setOp s o { s.ops o with b := (Batcher.flush (s.ops o).b (.tok t)).1, pc := .handling,
                                recv := (s.ops o).recv ++ [(Batcher.flush (s.ops o).b (.tok t)).2] })
  | oDone (o : Nat) (hpc : (s.ops o).pc = .handling) : Step c s (.oDone o) (setOp s o { s.ops o with pc := .idle })
  | oRecv (o : Nat) {batch : List Ev} (hbuf : c.handoffBuffered = true) (hpc : (s.ops o).pc = .idle)
      (hslot : (s.ops o).slot = some batch) :
    Step c s (.oRecv o) (setOp s o { s.ops o with pc := .handling, slot := none, recv := (s.ops o).recv ++ [batch] })

theorem Step.of_step {c : Cfg ρ} {s s' : St ρ} {a : Act ρ} (h : step c s a = some s') : Step c s a s' := by
  -- `split` leaves the pattern equations and `if` conditions of the branch in the context: the constructor's hypotheses
  cases a with
  | fetch rs => simp only [step] at h; split at h <;> cases h; exact .fetch rs ‹_›
  | enq => simp only [step] at h; split at h <;> cases h; exact .enq ‹_›
  | tick => simp only [step] at h; split at h <;> cases h; exact .tick ‹_›
  | barrier id => simp only [step] at h; split at h <;> cases h; exact .barrier id ‹_›
  | rfEmit => simp only [step] at h; split at h <;> cases h; exact .rfEmit ‹_›
  | sTake =>
    simp only [step] at h; split at h
    · split at h <;> cases h; exact .takeRecord ‹_› ‹_› ‹_› ‹_›
    · next hnr _ _ _ => cases h; exact .takeBcast (fun r hr => hnr r hr) ‹_› ‹_› ‹_›
    · cases h
  | sAdd => simp only [step] at h; split at h <;> cases h; exact .sAdd ‹_› ‹_›
  | sIsFull => simp only [step] at h; split at h <;> cases h; exact .sIsFull ‹_›
  | sFlush => simp only [step] at h; split at h <;> cases h; exact .sFlush ‹_›
  | sSend =>
    simp only [step] at h; split at h
    · split at h
      · split at h <;> cases h; exact .sSendSlot ‹_› ‹_› ‹_›
      · cases h
    · split at h
      · split at h <;> cases h; exact .sSend (eq_false_of_ne_true ‹_›) ‹_› ‹_›
      · cases h
  | fire o => simp only [step] at h; split at h <;> cases h; exact .fire o ‹_›
  | stale o => simp only [step] at h; split at h <;> cases h; exact .stale o ‹_›
  | staleTok o t =>
    simp only [step] at h; split at h
    · split at h <;> cases h; exact .staleTok o t ‹_› ‹_›
    · cases h
  | oTok o => simp only [step] at h; split at h <;> cases h; exact .oTok o ‹_› ‹_›
  | oTFlush o => simp only [step] at h; split at h <;> cases h; exact .oTFlush o ‹_›
  | oDone o => simp only [step] at h; split at h <;> cases h; exact .oDone o ‹_›
  | oRecv o =>
    simp only [step] at h; split at h
    · split at h <;> cases h; exact .oRecv o ‹_› ‹_› ‹_›
    · cases h

/-- `join`: the fetcher's results, emitted or not, are those of the record placeholders still on `outputStream`, in
order, so the result the router takes with a record placeholder is that record's. `hand`: while the router is blocked
handing a batch to `o` the batcher of `o` is empty, so a time-out of `o` then flushes nothing that could overtake it. -/
structure Inv (c : Cfg ρ) (s : St ρ) : Prop where
  join : (s.stream.filterMap recOf).map c.keyOf = s.rfOut ++ s.rfPending
  main : ∀ q, q < c.nOps → delivered s q ++ pendingFor s q ++ project c q s.stream = project c q s.logical
  hand : ∀ o b, s.spc = .handoff o b → (s.ops o).b.batch = []

theorem main_append {c : Cfg ρ} {s : St ρ} {q : Nat}
    (hm : delivered s q ++ pendingFor s q ++ project c q s.stream = project c q s.logical) (it : Item ρ) :
    delivered s q ++ pendingFor s q ++ project c q (s.stream ++ [it]) = project c q (s.logical ++ [it]) := by
  rw [project_append, project_append, ← hm]; simp [List.append_assoc]

/-- for the steps that leave `stream` and `logical` alone: there the `main` clause of the new state is this statement
up to unfolding the new state's two fields -/
theorem Inv.main_congr {c : Cfg ρ} {s s' : St ρ} (h : Inv c s)
    (hq : ∀ q, delivered s' q ++ pendingFor s' q = delivered s q ++ pendingFor s q) (q : Nat) (hq' : q < c.nOps) :
    delivered s' q ++ pendingFor s' q ++ project c q s.stream = project c q s.logical := by
  rw [hq]; exact h.main q hq'

theorem inHand_setOp (s : St ρ) (o : Nat) (x : OpSt) (q : Nat) : inHand (setOp s o x) q = inHand s q := rfl

theorem inv_setOp (c : Cfg ρ) (s : St ρ) (h : Inv c s) (o : Nat) (x : OpSt)
    (hb : x.b = (s.ops o).b) (hr : x.recv = (s.ops o).recv) : Inv c (setOp s o x) := by
  refine ⟨h.join, h.main_congr fun q => ?_, ?_⟩
  · simp only [delivered, pendingFor, inHand_setOp]
    by_cases hqo : q = o
    · subst hqo; simp [setOp, hb, hr]
    · simp [setOp, hqo]
  · intro o' b hb'
    have := h.hand o' b hb'
    simp only [setOp]
    by_cases hoo : o' = o
    · subst hoo; simp [hb, this]
    · simp [hoo, this]

theorem Inv.main_take {c : Cfg ρ} {s : St ρ} {it : Item ρ} {rest : List (Item ρ)} {res : List KEv} (ro : List (List KEv))
    (h : Inv c s) (hpc : s.spc = .idle) (htodo : s.todo = []) (hst : s.stream = it :: rest)
    (hres : ∀ r, it = .record r → res = c.keyOf r) (q : Nat) (hq : q < c.nOps) :
    delivered { s with stream := rest, rfOut := ro, todo := targetsOf c res it } q ++
      pendingFor { s with stream := rest, rfOut := ro, todo := targetsOf c res it } q ++ project c q rest =
      project c q s.logical := by
  have hm := h.main q hq
  rw [hst, project_cons] at hm
  rw [← hm]
  simp only [delivered, pendingFor, inHand, hpc, htodo, targets_filter c q hq it res hres]
  simp [List.append_assoc]

theorem Inv.inHand_or_batch {c : Cfg ρ} {s : St ρ} (h : Inv c s) (q : Nat) : inHand s q = [] ∨ (s.ops q).b.batch = [] := by
  cases hspc : s.spc with
  | handoff o batch =>
    by_cases hoq : o = q
    · exact .inr (hoq ▸ h.hand o batch hspc)
    · exact .inl (by simp [inHand, hspc, hoq])
  | _ => exact .inl (by simp [inHand, hspc])

theorem inv_step (c : Cfg ρ) (hunbuf : c.handoffBuffered = false) (s s' : St ρ) (a : Act ρ) (h : Inv c s)
    (hs : step c s a = some s') : Inv c s' := by
  cases Step.of_step hs with
  | fetch rs hb => exact ⟨h.join, h.main, h.hand⟩
  | enq _ | tick _ | barrier _ _ =>
    exact ⟨by simp [List.filterMap_append, recOf, h.join], fun q hq => main_append (h.main q hq) _, h.hand⟩
  | rfEmit hp => exact ⟨by simp [h.join, hp], h.main, h.hand⟩
  | takeRecord hpc htodo hst hout =>
    -- the result taken from `Output` is the one of this record: both are the oldest
    have hj := h.join
    rw [hst, hout] at hj
    simp [recOf] at hj
    exact ⟨by simpa using hj.2,
      h.main_take _ hpc htodo hst (by intro r' hr; cases hr; exact hj.1.symm),
      by intro o b hb; simp [hpc] at hb⟩
  | @takeBcast it rest hnr hpc htodo hst =>
    refine ⟨?_, h.main_take s.rfOut hpc htodo hst (by intro r' hr; exact absurd hr (hnr r')),
      by intro o b hb; simp [hpc] at hb⟩
    have hj := h.join
    rw [hst] at hj
    cases it with
    | record r => exact absurd rfl (hnr r)
    | wm | barrier id => simpa [List.filterMap_cons, recOf] using hj
  | @sAdd o e rest hpc htodo =>
    refine ⟨h.join, h.main_congr fun q => ?_, by intro o' b hb; simp at hb⟩
    simp only [delivered, pendingFor, inHand, hpc, htodo, setOp]
    by_cases hqo : q = o
    · subst hqo; simp [Batcher.add_batch, List.append_assoc]
    · simp [hqo, Ne.symm hqo]
  | @sIsFull o hpc =>
    refine ⟨h.join, h.main_congr fun q => ?_, by intro o' b hb; dsimp only at hb; split at hb <;> simp at hb⟩
    simp only [delivered, pendingFor, inHand, hpc]
    cases hf : Batcher.isFull (s.ops o).b <;> simp
  | @sFlush o hpc =>
    refine ⟨h.join, h.main_congr fun q => ?_, ?_⟩
    · simp only [delivered, pendingFor, inHand, hpc, setOp]
      by_cases hqo : q = o
      · subst hqo
        simp [← Batcher.flush_concat (s.ops q).b .cur, List.append_assoc]
      · simp [hqo, Ne.symm hqo]
    · intro o' b hb
      simp at hb
      obtain ⟨rfl, _⟩ := hb
      simp [setOp, Batcher.flush_cur_batch]
  | sSendSlot hbuf | oRecv _ hbuf => rw [hunbuf] at hbuf; cases hbuf
  | @sSend o batch _ hpc hopc =>
    refine ⟨h.join, h.main_congr fun q => ?_, by intro o' b hb; simp at hb⟩
    simp only [delivered, pendingFor, inHand, hpc, setOp]
    by_cases hqo : q = o
    · subst hqo; simp [List.append_assoc]
    · simp [hqo, Ne.symm hqo]
  | fire o _ | stale o _ | staleTok o _ _ _ | oTok o _ _ | oDone o _ => exact inv_setOp c s h o _ rfl rfl
  | @oTFlush o t hpc =>
    refine ⟨h.join, h.main_congr fun q => ?_, ?_⟩
    · simp only [delivered, pendingFor, inHand_setOp]
      by_cases hqo : q = o
      · subst hqo
        rcases h.inHand_or_batch q with hh | hb
        · simp [setOp, hh, ← Batcher.flush_concat (s.ops q).b (.tok t), List.append_assoc]
        · -- the router holds `q`'s batch: `q`'s batcher is empty and the time-out flushes nothing
          simp [setOp, Batcher.flush_of_nil _ _ hb, hb]
      · simp [setOp, hqo]
    · intro o' b hb
      have hb0 := h.hand o' b hb
      simp only [setOp]
      by_cases hoo : o' = o
      · subst hoo
        simp [Batcher.flush_of_nil _ _ hb0, hb0]
      · simp [hoo, hb0]

theorem recordsOf_append (a b : List (Item ρ)) : recordsOf (a ++ b) = recordsOf a ++ recordsOf b := by
  simp [recordsOf, List.filterMap_append]

@[simp] theorem recordsOf_nil : recordsOf ([] : List (Item ρ)) = [] := rfl
@[simp] theorem recordsOf_record (r : ρ) (l : List (Item ρ)) : recordsOf (.record r :: l) = r :: recordsOf l := rfl
@[simp] theorem recordsOf_wm (l : List (Item ρ)) : recordsOf (.wm :: l) = recordsOf l := rfl
@[simp] theorem recordsOf_barrier (id : Nat) (l : List (Item ρ)) : recordsOf (.barrier id :: l) = recordsOf l := rfl

theorem cutsOf_nil (n : Nat) : cutsOf ([] : List (Item ρ)) n = [] := rfl
theorem cutsOf_record (r : ρ) (l : List (Item ρ)) (n : Nat) : cutsOf (.record r :: l) n = cutsOf l (n + 1) := rfl
theorem cutsOf_wm (l : List (Item ρ)) (n : Nat) : cutsOf (.wm :: l) n = cutsOf l n := rfl
theorem cutsOf_barrier (id : Nat) (l : List (Item ρ)) (n : Nat) : cutsOf (.barrier id :: l) n = (id, n) :: cutsOf l n := rfl

theorem cutsOf_append (a b : List (Item ρ)) : ∀ n, cutsOf (a ++ b) n = cutsOf a n ++ cutsOf b (n + (recordsOf a).length) := by
  induction a with
  | nil => intro n; simp [cutsOf_nil]
  | cons x xs ih =>
    intro n
    cases x with
    | record r =>
      simp only [List.cons_append, cutsOf_record, ih, recordsOf_record, List.length_cons]
      congr 2; omega
    | wm => simp only [List.cons_append, cutsOf_wm, ih, recordsOf_wm]
    | barrier id => simp only [List.cons_append, cutsOf_barrier, ih, recordsOf_barrier, List.cons_append]

structure CutInv (s : St ρ) : Prop where
  cur : (recordsOf s.logical).length + s.readBuf.length = s.cursor
  cuts : cutsOf s.logical 0 = s.ckpts

theorem cut_step (c : Cfg ρ) (s s' : St ρ) (a : Act ρ) (h : CutInv s) (hs : step c s a = some s') : CutInv s' := by
  have hc := h.cur
  cases Step.of_step hs with
  | fetch rs hb => exact ⟨by rw [hb] at hc; simp at hc ⊢; omega, h.cuts⟩
  | enq hb => exact ⟨by rw [hb] at hc; simp [recordsOf_append] at hc ⊢; omega, by simp [cutsOf_append, cutsOf_record, cutsOf_nil, h.cuts]⟩
  | tick hb => exact ⟨by simpa [recordsOf_append] using hc, by simp [cutsOf_append, cutsOf_wm, cutsOf_nil, h.cuts]⟩
  | barrier id hb =>
    rw [hb] at hc; simp at hc
    exact ⟨by simpa [recordsOf_append, hb] using hc, by simp [cutsOf_append, cutsOf_barrier, cutsOf_nil, h.cuts, hc]⟩
  | _ => exact ⟨hc, h.cuts⟩

theorem fetchedOf_nil : fetchedOf ([] : List (Act ρ)) = [] := rfl
theorem fetchedOf_fetch (rs : List ρ) (as : List (Act ρ)) : fetchedOf (.fetch rs :: as) = rs ++ fetchedOf as := rfl
theorem fetchedOf_cons_of_ne {a : Act ρ} (h : ∀ rs, a ≠ .fetch rs) (as : List (Act ρ)) : fetchedOf (a :: as) = fetchedOf as := by
  cases a <;> first | rfl | exact absurd rfl (h _)

theorem fetchedOf_append (a b : List (Act ρ)) : fetchedOf (a ++ b) = fetchedOf a ++ fetchedOf b := by
  induction a with
  | nil => rfl
  | cons x xs ih =>
    by_cases h : ∃ rs, x = .fetch rs
    · obtain ⟨rs, rfl⟩ := h
      simp only [List.cons_append, fetchedOf_fetch, ih, List.append_assoc]
    · have h : ∀ rs, x ≠ .fetch rs := fun rs e => h ⟨rs, e⟩
      rw [List.cons_append, fetchedOf_cons_of_ne h, fetchedOf_cons_of_ne h, ih]

theorem step_fetched (c : Cfg ρ) (s s' : St ρ) (a : Act ρ) (hs : step c s a = some s') :
    recordsOf s'.logical ++ s'.readBuf = recordsOf s.logical ++ s.readBuf ++ fetchedOf [a] := by
  cases Step.of_step hs with
  | fetch rs hb => simp [fetchedOf_fetch, fetchedOf_nil, hb]
  | enq hb => show _ = _ ++ []; simp [hb, recordsOf_append]
  | tick _ | barrier _ _ => show _ = _ ++ []; simp [recordsOf_append]
  | _ => exact (List.append_nil _).symm

theorem exec_nil (c : Cfg ρ) (s : St ρ) : exec c s [] = some s := rfl
theorem exec_cons (c : Cfg ρ) (s : St ρ) (a : Act ρ) (as : List (Act ρ)) :
    exec c s (a :: as) = match step c s a with | none => none | some s' => exec c s' as := rfl

theorem exec_snoc (c : Cfg ρ) (as : List (Act ρ)) (a : Act ρ) :
    ∀ s : St ρ, exec c s (as ++ [a]) = (exec c s as).bind (fun s1 => step c s1 a) := by
  induction as with
  | nil =>
    intro s
    cases h : step c s a <;> simp [exec_cons, exec_nil, h]
  | cons x xs ih =>
    intro s
    cases h : step c s x with
    | none => simp [exec_cons, h]
    | some s1 => simp only [List.cons_append, exec_cons, h]; exact ih _

theorem exec_induction {c : Cfg ρ} {P : St ρ → Prop} (hstep : ∀ s a s', P s → step c s a = some s' → P s')
    (as : List (Act ρ)) : ∀ s s', exec c s as = some s' → P s → P s' := by
  induction as with
  | nil => intro s s' he h; cases he; exact h
  | cons a as ih =>
    intro s s' he h
    rw [exec_cons] at he
    split at he
    · cases he
    · next s1 hs1 => exact ih s1 s' he (hstep s a s1 h hs1)

theorem exec_inv (c : Cfg ρ) (hunbuf : c.handoffBuffered = false) (as : List (Act ρ)) (s s' : St ρ) (h : Inv c s)
    (he : exec c s as = some s') : Inv c s' :=
  exec_induction (fun s a s' h hs => inv_step c hunbuf s s' a h hs) as s s' he h

theorem exec_cut (c : Cfg ρ) (as : List (Act ρ)) (s s' : St ρ) (h : CutInv s) (he : exec c s as = some s') : CutInv s' :=
  exec_induction (fun s a s' h hs => cut_step c s s' a h hs) as s s' he h

theorem exec_fetched (c : Cfg ρ) (as : List (Act ρ)) : ∀ s s', exec c s as = some s' →
    recordsOf s'.logical ++ s'.readBuf = recordsOf s.logical ++ s.readBuf ++ fetchedOf as := by
  induction as with
  | nil => intro s s' he; cases he; simp [fetchedOf_nil]
  | cons a as ih =>
    intro s s' he
    rw [exec_cons] at he
    split at he
    · cases he
    · next s1 hs1 =>
      rw [ih s1 s' he, step_fetched c s s1 a hs1, List.append_assoc, ← fetchedOf_append]; rfl

theorem init_cut (maxSize : Nat) (hasDelay : Bool) : CutInv (init maxSize hasDelay : St ρ) :=
  ⟨rfl, rfl⟩

theorem init_inv (c : Cfg ρ) (maxSize : Nat) (hasDelay : Bool) : Inv c (init maxSize hasDelay : St ρ) := by
  refine ⟨rfl, ?_, by intro o b hb; simp [init] at hb⟩
  intro q hq
  simp [delivered, pendingFor, inHand, init, project_nil, Batcher.new]

theorem pendingFor_of_quiescent {s : St ρ} (h : quiescent s) (q : Nat) : pendingFor s q = [] := by
  obtain ⟨_, h2, h3, h4⟩ := h
  cases hs : s.spc with
  | idle => simp [pendingFor, inHand, hs, h2, h4 q]
  | _ => rw [hs] at h3; exact h3.elim

theorem Inv.delivered_of_quiescent {c : Cfg ρ} {s : St ρ} (h : Inv c s) (hquiet : quiescent s) (q : Nat) (hq : q < c.nOps) :
    delivered s q = project c q s.logical := by
  have hm := h.main q hq
  rw [pendingFor_of_quiescent hquiet q, hquiet.1] at hm
  simpa [project_nil] using hm

end Rxn.Runner
