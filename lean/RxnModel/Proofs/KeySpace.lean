import RxnModel.Model.KeySpace
/-! `ranges kgc n` is the list of the intervals `[startOf i, startOf (i + 1))`, with `startOf` monotone from 0 to `kgc`. In the lookup
table later writes win: an entry is the index of the last range that includes it, which makes `RangeIndex` of a key the index of the
range that holds the key's group. -/
namespace Rxn

namespace KGRange

theorem includes_iff {r : KGRange} {g : Nat} : r.includes g = true ↔ r.start ≤ g ∧ g < r.stop := by
  simp only [includes, Gen.kgIncludes, Bool.and_eq_true, decide_eq_true_eq, ge_iff_le]

theorem size_eq (r : KGRange) : r.size = r.stop - r.start := rfl

/-- the form `fillRange` and `KeyGroups()` use: `Size()` positions from `Start` -/
theorem includes_iff_lt_size {r : KGRange} {g : Nat} : r.includes g = true ↔ r.start ≤ g ∧ g < r.start + r.size := by
  rw [includes_iff, size_eq]
  exact and_congr_right fun h => (Nat.sub_lt_sub_iff_right h).symm.trans (Nat.sub_lt_iff_lt_add' h)

theorem overlaps_iff {r o : KGRange} : r.overlaps o = true ↔ o.start < r.stop ∧ r.start < o.stop := by
  simp only [overlaps, Gen.kgOverlaps, Bool.and_eq_true, decide_eq_true_eq, gt_iff_lt]

theorem overlaps_false_iff (a b : KGRange) : a.overlaps b = false ↔ a.stop ≤ b.start ∨ b.stop ≤ a.start := by
  rw [← Bool.not_eq_true, overlaps_iff, Decidable.not_and_iff_not_or_not, Nat.not_lt, Nat.not_lt]

theorem overlaps_comm (a b : KGRange) : a.overlaps b = b.overlaps a := by
  simp only [overlaps, Gen.kgOverlaps, gt_iff_lt]
  exact Bool.and_comm _ _

/-- the converse needs both non-empty: `C05.overlaps_iff_common_group` -/
theorem overlaps_of_includes {r o : KGRange} {g : Nat} (hr : r.includes g = true) (ho : o.includes g = true) :
    r.overlaps o = true := by
  rw [includes_iff] at hr ho
  exact overlaps_iff.mpr ⟨Nat.lt_of_le_of_lt ho.1 hr.2, Nat.lt_of_le_of_lt hr.1 ho.2⟩

end KGRange

namespace KeySpace

theorem startOf_zero (kgc n : Nat) : startOf kgc n 0 = 0 := by
  rw [startOf, Nat.zero_mul, Nat.zero_min]

theorem startOf_n (kgc n : Nat) (hn : 0 < n) : startOf kgc n n = kgc := by
  rw [startOf, Nat.min_eq_right (Nat.le_of_lt (Nat.mod_lt _ hn))]
  exact Nat.div_add_mod kgc n

/-- `startOf` grows as the loop's `kgIndex` does -/
theorem startOf_step (kgc n i : Nat) :
    startOf kgc n (i + 1) = startOf kgc n i + kgc / n + (if i < kgc % n then 1 else 0) := by
  have hmin : min (i + 1) (kgc % n) = min i (kgc % n) + (if i < kgc % n then 1 else 0) := by
    by_cases h : i < kgc % n
    · rw [if_pos h, Nat.min_eq_left h, Nat.min_eq_left (Nat.le_of_lt h)]
    · have hb := Nat.le_of_not_lt h
      rw [if_neg h, Nat.min_eq_right hb, Nat.min_eq_right (Nat.le_succ_of_le hb), Nat.add_zero]
  rw [startOf, startOf, Nat.succ_mul, hmin, ← Nat.add_assoc, Nat.add_right_comm (i * (kgc / n))]

theorem startOf_succ_sub (kgc n i : Nat) :
    startOf kgc n (i + 1) - startOf kgc n i = kgc / n + (if i < kgc % n then 1 else 0) := by
  rw [startOf_step, Nat.add_assoc, Nat.add_sub_cancel_left]

theorem startOf_mono (kgc n : Nat) {i j : Nat} (h : i ≤ j) : startOf kgc n i ≤ startOf kgc n j := by
  induction h with
  | refl => exact Nat.le_refl _
  | step _ ih =>
    rw [startOf_step, Nat.add_assoc]
    exact Nat.le_trans ih (Nat.le_add_right _ _)

theorem lt_of_startOf_lt {kgc n i j : Nat} (h : startOf kgc n i < startOf kgc n j) : i < j :=
  Nat.lt_of_not_le fun hji => Nat.not_le_of_gt h (startOf_mono kgc n hji)

theorem startOf_index_unique {kgc n i j : Nat}
    (h1 : startOf kgc n i < startOf kgc n (j + 1)) (h2 : startOf kgc n j < startOf kgc n (i + 1)) : i = j :=
  Nat.le_antisymm (Nat.le_of_lt_succ (lt_of_startOf_lt h1)) (Nat.le_of_lt_succ (lt_of_startOf_lt h2))

theorem startOf_of_div_eq_zero {kgc n : Nat} (hd : kgc / n = 0) (i : Nat) : startOf kgc n i = min i kgc := by
  have hm : kgc % n = kgc := by
    have := Nat.div_add_mod kgc n
    rwa [hd, Nat.mul_zero, Nat.zero_add] at this
  rw [startOf, hd, hm, Nat.mul_zero, Nat.zero_add]

theorem le_startOf_of_lt {kgc n i : Nat} (h : startOf kgc n i < kgc) : i ≤ startOf kgc n i := by
  by_cases hd : kgc / n = 0
  · rw [startOf_of_div_eq_zero hd] at h ⊢
    by_cases hik : i ≤ kgc
    · rw [Nat.min_eq_left hik]
      exact Nat.le_refl i
    · rw [Nat.min_eq_right (Nat.le_of_not_le hik)] at h
      exact absurd h (Nat.lt_irrefl kgc)
  · exact Nat.le_trans (Nat.le_mul_of_pos_right i (Nat.pos_of_ne_zero hd)) (Nat.le_add_right _ _)

theorem exists_range (kgc n g : Nat) (hn : 0 < n) (hg : g < kgc) :
    ∃ i, i < n ∧ startOf kgc n i ≤ g ∧ g < startOf kgc n (i + 1) := by
  suffices h : ∀ m, g < startOf kgc n m → ∃ i, i < m ∧ startOf kgc n i ≤ g ∧ g < startOf kgc n (i + 1) from
    h n (by rw [startOf_n kgc n hn]; exact hg)
  intro m
  induction m with
  | zero => intro h; rw [startOf_zero] at h; exact absurd h (Nat.not_lt_zero g)
  | succ m ih =>
    intro h
    by_cases hg : g < startOf kgc n m
    · obtain ⟨i, hi, h12⟩ := ih hg
      exact ⟨i, Nat.lt_succ_of_lt hi, h12⟩
    · exact ⟨m, Nat.lt_succ_self m, Nat.le_of_not_lt hg, h⟩

theorem rangesLoop_closed (m b : Nat) (f : Nat → Nat)
    (hf : ∀ i, f (i + 1) = f i + m + (if i < b then 1 else 0)) : ∀ (fuel i : Nat),
    rangesLoop m b fuel i (f i) = (List.range' i fuel).map (fun j => ⟨f j, f (j + 1)⟩) := by
  intro fuel
  induction fuel with
  | zero => intro i; rfl
  | succ fuel ih =>
    intro i
    rw [List.range'_succ, List.map_cons, ← ih, hf]
    rfl

theorem ranges_closed_form (kgc n : Nat) :
    ranges kgc n = (List.range n).map (fun i => ⟨startOf kgc n i, startOf kgc n (i + 1)⟩) := by
  have := rangesLoop_closed (kgc / n) (kgc % n) (startOf kgc n) (startOf_step kgc n) n 0
  rw [startOf_zero] at this
  rw [ranges, this, List.range_eq_range']

theorem ranges_length (kgc n : Nat) : (ranges kgc n).length = n := by
  rw [ranges_closed_form, List.length_map, List.length_range]

theorem ranges_get (kgc n i : Nat) (hi : i < n) :
    (ranges kgc n)[i]? = some ⟨startOf kgc n i, startOf kgc n (i + 1)⟩ := by
  rw [ranges_closed_form, List.getElem?_map, List.getElem?_range hi]
  rfl

theorem eq_of_ranges_get {kgc n j : Nat} {r : KGRange} (h : (ranges kgc n)[j]? = some r) :
    j < n ∧ r = ⟨startOf kgc n j, startOf kgc n (j + 1)⟩ := by
  have hj : j < n := by
    rw [← ranges_length kgc n]
    exact (List.getElem?_eq_some_iff.mp h).1
  rw [ranges_get kgc n j hj] at h
  exact ⟨hj, (Option.some.inj h).symm⟩

theorem fillRange_length (tbl : List Nat) (i : Nat) : ∀ c j, (fillRange tbl i c j).length = tbl.length := by
  intro c
  induction c generalizing tbl with
  | zero => intro j; rfl
  | succ c ih => intro j; rw [fillRange, ih, List.length_set]

theorem fillAll_length : ∀ (rs : List KGRange) (tbl : List Nat) (i : Nat), (fillAll tbl i rs).length = tbl.length := by
  intro rs
  induction rs with
  | nil => intro tbl i; rfl
  | cons r rs ih => intro tbl i; rw [fillAll, ih, fillRange_length]

theorem fillRange_getElem? (i : Nat) : ∀ (c : Nat) (tbl : List Nat) (j g : Nat),
    (fillRange tbl i c j)[g]? =
      if j ≤ g ∧ g < j + c then tbl[g]?.map (fun _ => i % 65536) else tbl[g]? := by
  intro c
  induction c with
  | zero =>
    intro tbl j g
    rw [fillRange, if_neg fun h => Nat.not_lt_of_le h.1 h.2]
  | succ c ih =>
    intro tbl j g
    rw [fillRange, ih, List.getElem?_set']
    by_cases hg : j = g
    · -- the position written in this step is not written again
      subst hg
      rw [if_neg fun h => Nat.lt_irrefl j h.1, if_pos rfl, if_pos ⟨Nat.le_refl j, Nat.lt_add_of_pos_right (Nat.succ_pos c)⟩]
      rfl
    · have h : (j + 1 ≤ g ∧ g < j + 1 + c) ↔ (j ≤ g ∧ g < j + (c + 1)) := by
        rw [Nat.add_right_comm j 1 c]
        exact and_congr_left' ⟨Nat.le_of_succ_le, fun h => Nat.lt_of_le_of_ne h hg⟩
      simp only [h, if_neg hg]

theorem fillRange_range_getElem? (tbl : List Nat) (i g : Nat) (r : KGRange) :
    (fillRange tbl i (r.stop - r.start) r.start)[g]? =
      if r.includes g = true then tbl[g]?.map (fun _ => i % 65536) else tbl[g]? := by
  rw [fillRange_getElem?, ← KGRange.size_eq]
  simp only [KGRange.includes_iff_lt_size]

theorem fillAll_getElem?_of_not_includes (g : Nat) : ∀ (rs : List KGRange) (tbl : List Nat) (i : Nat),
    (∀ r ∈ rs, ¬ r.includes g = true) → (fillAll tbl i rs)[g]? = tbl[g]? := by
  intro rs
  induction rs with
  | nil => intro tbl i _; rfl
  | cons r rs ih =>
    intro tbl i h
    rw [fillAll, ih _ _ fun r' hr' => h r' (List.mem_cons_of_mem _ hr'), fillRange_range_getElem?,
      if_neg (h r (List.mem_cons_self ..))]

theorem fillAll_getElem?_of_last (g : Nat) : ∀ (rs : List KGRange) (tbl : List Nat) (i k : Nat) (r : KGRange),
    rs[k]? = some r → r.includes g = true →
    (∀ k' r', rs[k']? = some r' → r'.includes g = true → k' ≤ k) →
    (fillAll tbl i rs)[g]? = tbl[g]?.map fun _ => (i + k) % 65536 := by
  intro rs
  induction rs with
  | nil => intro tbl i k r hk; cases hk
  | cons r0 rs ih =>
    intro tbl i k r hk hinc hlast
    rw [fillAll]
    cases k with
    | zero =>
      cases hk
      have hrest : ∀ r' ∈ rs, ¬ r'.includes g = true := by
        intro r' hr' hinc'
        obtain ⟨k', hk'⟩ := List.getElem?_of_mem hr'
        exact absurd (hlast (k' + 1) r' hk' hinc') (Nat.not_succ_le_zero k')
      rw [fillAll_getElem?_of_not_includes g rs _ _ hrest, fillRange_range_getElem?, if_pos hinc]
      rfl
    | succ k =>
      rw [ih _ (i + 1) k r hk hinc fun k' r' hk' hinc' => Nat.le_of_succ_le_succ (hlast (k' + 1) r' hk' hinc'),
        Nat.add_assoc, Nat.add_comm 1 k, fillRange_range_getElem?]
      -- an earlier write to the same position is overwritten
      split
      · rw [Option.map_map]; rfl
      · rfl

theorem lookupTable_getD (kgc n i g : Nat) (hi : i < n) (h1 : startOf kgc n i ≤ g) (h2 : g < startOf kgc n (i + 1)) :
    (lookupTable kgc n).getD g 0 = i % 65536 := by
  have hg : g < kgc := by
    rw [← startOf_n kgc n (Nat.zero_lt_of_lt hi)]
    exact Nat.lt_of_lt_of_le h2 (startOf_mono kgc n hi)
  have hlast : ∀ k' r', (ranges kgc n)[k']? = some r' → r'.includes g = true → k' ≤ i := by
    intro k' r' hk' hinc'
    obtain ⟨_, rfl⟩ := eq_of_ranges_get hk'
    exact Nat.le_of_lt_succ (lt_of_startOf_lt (Nat.lt_of_le_of_lt (KGRange.includes_iff.mp hinc').1 h2))
  rw [lookupTable, List.getD_eq_getElem?_getD,
    fillAll_getElem?_of_last g _ _ 0 i _ (ranges_get kgc n i hi) (KGRange.includes_iff.mpr ⟨h1, h2⟩) hlast,
    List.getElem?_replicate_of_lt hg, Nat.zero_add]
  rfl

theorem rangeIndex_eq {kgc n i : Nat} {key : Bytes} (hk : 0 < kgc) (hk2 : kgc ≤ 65535) (hi : i < n)
    (h1 : startOf kgc n i ≤ keyGroup kgc key) (h2 : keyGroup kgc key < startOf kgc n (i + 1)) :
    rangeIndex kgc n key = i := by
  have hg : keyGroup kgc key < kgc := Nat.mod_lt _ hk
  have hg16 : keyGroup kgc key < 65536 := Nat.lt_of_lt_of_le hg (Nat.le_succ_of_le hk2)
  rw [rangeIndex, Nat.mod_eq_of_lt hg16, lookupTable_getD kgc n i _ hi h1 h2]
  -- the `uint16` entry is the index itself: `i ≤ startOf i ≤ g < kgc`
  have hi1 : i ≤ startOf kgc n i := le_startOf_of_lt (Nat.lt_of_le_of_lt h1 hg)
  exact Nat.mod_eq_of_lt (Nat.lt_of_le_of_lt (Nat.le_trans hi1 h1) hg16)

theorem rangeIndex_spec {kgc n : Nat} (hk : 0 < kgc) (hk2 : kgc ≤ 65535) (hn : 0 < n) (key : Bytes) :
    rangeIndex kgc n key < n ∧ startOf kgc n (rangeIndex kgc n key) ≤ keyGroup kgc key ∧
      keyGroup kgc key < startOf kgc n (rangeIndex kgc n key + 1) := by
  obtain ⟨i, hi, h1, h2⟩ := exists_range kgc n (keyGroup kgc key) hn (Nat.mod_lt _ hk)
  rw [rangeIndex_eq hk hk2 hi h1 h2]
  exact ⟨hi, h1, h2⟩

theorem includes_iff_rangeIndex_eq {kgc n j : Nat} {r : KGRange} (hk : 0 < kgc) (hk2 : kgc ≤ 65535) (key : Bytes)
    (hj : (ranges kgc n)[j]? = some r) : r.includes (keyGroup kgc key) = true ↔ rangeIndex kgc n key = j := by
  obtain ⟨hjn, rfl⟩ := eq_of_ranges_get hj
  rw [KGRange.includes_iff]
  constructor
  · intro ⟨h1, h2⟩; exact rangeIndex_eq hk hk2 hjn h1 h2
  · intro h; subst h; exact (rangeIndex_spec hk hk2 (Nat.zero_lt_of_lt hjn) key).2

end KeySpace
end Rxn
