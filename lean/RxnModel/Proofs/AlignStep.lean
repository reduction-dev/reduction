import RxnModel.Proofs.AlignTrace
/-!
The transition function of the alignment model (C02), taken apart once: what batching does (`Ext`; with the timer
store, `Batch`), the barrier handlers branch by branch, the shapes of a step and of the consumer's event function
(`step_cases`, `process_cases`), what every event function guarantees whatever the state (`Served`). The properties
of runs proved here need no state invariant.
-/
namespace Rxn.Align

theorem ite_both {α : Type} {P : α → Prop} (c : Prop) [Decidable c] {x y : α} (hx : P x) (hy : P y) :
    P (if c then x else y) :=
  iteInduction (fun _ => hx) (fun _ => hy)

/-! ## batching: entries only move from `pending` to the handler, in order -/

/-- `s'` is reached from `s` by adding the entries `es` to the batcher, possibly flushing on the way; `o` holds
the handler calls made (and ghost timer firings) -/
structure Ext (s s' : St) (o : List Obs) (es : List Entry) : Prop where
  k : s'.k = s.k
  z : s'.z = s.z
  maxSize : s'.maxSize = s.maxSize
  slots : s'.slots = s.slots
  ckpt : s'.ckpt = s.ckpt
  af : s'.ackFails = s.ackFails
  onlyH : OnlyH o
  ents : entriesOf o ++ s'.pending = s.pending ++ es
  kv : s'.kv = (entriesOf o).foldl applyRec s.kv

theorem Ext.refl (s : St) : Ext s s [] [] :=
  ⟨rfl, rfl, rfl, rfl, rfl, rfl, OnlyH.nil, (List.append_nil s.pending).symm, rfl⟩

theorem Ext.trans {s s1 s2 : St} {o1 o2 : List Obs} {e1 e2 : List Entry}
    (h1 : Ext s s1 o1 e1) (h2 : Ext s1 s2 o2 e2) : Ext s s2 (o1 ++ o2) (e1 ++ e2) := by
  refine ⟨h2.k.trans h1.k, h2.z.trans h1.z, h2.maxSize.trans h1.maxSize, h2.slots.trans h1.slots, h2.ckpt.trans h1.ckpt,
    h2.af.trans h1.af, h1.onlyH.append h2.onlyH, ?_, ?_⟩
  · rw [entriesOf_append, List.append_assoc, h2.ents, ← List.append_assoc, h1.ents, List.append_assoc]
  · rw [entriesOf_append, List.foldl_append, ← h1.kv, h2.kv]

/-- `Ext`, and the timer store is the one replayed from `o`: the handler calls set timers, a fired timer leaves it -/
structure Batch (s s' : St) (o : List Obs) (es : List Entry) : Prop extends Ext s s' o es where
  timers : s'.timers = timersOf s.timers o

theorem Batch.refl (s : St) : Batch s s [] [] := ⟨Ext.refl s, rfl⟩

theorem Batch.trans {s s1 s2 : St} {o1 o2 : List Obs} {e1 e2 : List Entry}
    (h1 : Batch s s1 o1 e1) (h2 : Batch s1 s2 o2 e2) : Batch s s2 (o1 ++ o2) (e1 ++ e2) :=
  ⟨h1.toExt.trans h2.toExt, by rw [timersOf_append, ← h1.timers]; exact h2.timers⟩

theorem flush_batch (s : St) : Batch s (flush s).1 (flush s).2 [] := by
  unfold flush
  split
  · exact Batch.refl s
  · have he : entriesOf [Obs.handler s.pending s.watermark (givenOf s.kv s.pending)] = s.pending :=
      List.append_nil s.pending
    exact ⟨⟨rfl, rfl, rfl, rfl, rfl, rfl, OnlyH.nil.cons_handler, by rw [he], by rw [he]⟩, rfl⟩

theorem flush_ext (s : St) : Ext s (flush s).1 (flush s).2 [] := (flush_batch s).toExt

theorem flush_pending (s : St) : (flush s).1.pending = [] := by
  unfold flush
  split
  · rename_i h
    simpa using h
  · rfl

theorem flush_ckpt (s : St) (c : Option (Nat × List Nat)) :
    flush { s with ckpt := c } = ({ (flush s).1 with ckpt := c }, (flush s).2) := by
  unfold flush
  split <;> rfl

theorem push_batch (s : St) (e : Entry) : Batch s (push s e) [] [e] := by
  unfold push
  split
  · rename_i hp
    have hp' : s.pending = [] := by simpa using hp
    exact ⟨⟨rfl, rfl, rfl, rfl, rfl, rfl, OnlyH.nil, by rw [hp']; rfl, rfl⟩, rfl⟩
  · exact ⟨⟨rfl, rfl, rfl, rfl, rfl, rfl, OnlyH.nil, rfl, rfl⟩, rfl⟩

theorem maybeFlush_batch (s : St) : Batch s (maybeFlush s).1 (maybeFlush s).2 [] := by
  unfold maybeFlush
  split
  · exact flush_batch s
  · exact Batch.refl s

theorem addEntry_batch (s : St) (e : Entry) : Batch s (addEntry s e).1 (addEntry s e).2 [e] :=
  (push_batch s e).trans (maybeFlush_batch (push s e))

theorem fireLoop_nil {s : St} (h : s.timers = []) (sr w n : Nat) (o : List Obs) :
    fireLoop sr w (n + 1) s o = (s, o) := by
  cases s
  cases h
  rfl

theorem fireLoop_cons {s : St} {ts : Nat} {key : Bytes} {rest : Timers} (h : s.timers = (ts, key) :: rest)
    (sr w n : Nat) (o : List Obs) :
    fireLoop sr w (n + 1) s o =
      if w < ts then (s, o)
      else fireLoop sr w n (addEntry { s with timers := rest } (.timer sr key ts)).1
        (o ++ .fired key ts :: (addEntry { s with timers := rest } (.timer sr key ts)).2) := by
  cases s
  cases h
  rfl

theorem fire_batch {s : St} {ts : Nat} {key : Bytes} {rest : Timers} (hts : s.timers = (ts, key) :: rest) (sr : Nat) :
    Batch s (addEntry { s with timers := rest } (.timer sr key ts)).1
      (.fired key ts :: (addEntry { s with timers := rest } (.timer sr key ts)).2) [.timer sr key ts] :=
  have hleave : Batch s { s with timers := rest } [.fired key ts] [] :=
    ⟨⟨rfl, rfl, rfl, rfl, rfl, rfl, OnlyH.nil.cons_fired, (List.append_nil _).symm, rfl⟩,
     by rw [hts]; exact (List.erase_cons_head ..).symm⟩
  hleave.trans (addEntry_batch _ _)

theorem fireLoop_batch (sr w : Nat) : ∀ (n : Nat) (s : St) (o0 : List Obs),
    ∃ o es, (fireLoop sr w n s o0).2 = o0 ++ o ∧ Batch s (fireLoop sr w n s o0).1 o es ∧ userOf es = [] := by
  intro n
  induction n with
  | zero => intro s o0; exact ⟨[], [], (List.append_nil o0).symm, Batch.refl s, rfl⟩
  | succ n ih =>
    intro s o0
    cases hts : s.timers with
    | nil =>
      rw [fireLoop_nil hts]
      exact ⟨[], [], (List.append_nil o0).symm, Batch.refl s, rfl⟩
    | cons tk rest =>
      obtain ⟨ts, key⟩ := tk
      rw [fireLoop_cons hts]
      split
      · exact ⟨[], [], (List.append_nil o0).symm, Batch.refl s, rfl⟩
      · have h1 := fire_batch hts sr
        generalize addEntry { s with timers := rest } (.timer sr key ts) = r at h1 ⊢
        obtain ⟨o, es, ho, hb, hu⟩ := ih r.1 (o0 ++ .fired key ts :: r.2)
        exact ⟨.fired key ts :: r.2 ++ o, [.timer sr key ts] ++ es, by rw [ho, List.append_assoc], h1.trans hb, hu⟩

theorem timeout_batch (s : St) (t : Option Nat) : Batch s (timeout s t).1 (timeout s t).2 [] := by
  unfold timeout
  split
  · split
    · exact flush_batch s
    · exact Batch.refl s
  · exact Batch.refl s

theorem virtCk_none {s : St} (hc : s.ckpt = none) (id : Nat) : virtCk s id = (id, List.range s.k) := by
  rw [virtCk, hc]
  rfl

theorem virtCk_some {s : St} {c : Nat × List Nat} (hc : s.ckpt = some c) (id : Nat) : virtCk s id = c := by
  rw [virtCk, hc]
  rfl

theorem barrier_reject {s : St} {sr id : Nat} (h : id ≠ (virtCk s id).1) :
    barrier s sr id = ({ s with ckpt := some (virtCk s id) }, [.reject sr id (virtCk s id).1]) :=
  if_pos h

theorem barrier_reg {s : St} {sr id : Nat} (h : id = (virtCk s id).1)
    (hm : ((virtCk s id).2.filter (· ≠ sr)).isEmpty = false) :
    barrier s sr id =
      ({ s with ckpt := some ((virtCk s id).1, (virtCk s id).2.filter (· ≠ sr)) }, [.reg sr id]) :=
  (if_neg (not_not_intro h)).trans (if_neg (by rw [hm]; exact Bool.false_ne_true))

theorem barrier_done {s : St} {sr id : Nat} (h : id = (virtCk s id).1)
    (hm : ((virtCk s id).2.filter (· ≠ sr)).isEmpty = true) (haf : s.ackFails = false) :
    barrier s sr id =
      ({ (flush s).1 with ckpt := none, slots := release (flush s).1.slots },
       [.reg sr id] ++ (flush s).2 ++
         [.snap (virtCk s id).1 (flush s).1.kv (flush s).1.timers, .ack (virtCk s id).1, .released (parkedList s)]) :=
  (if_neg (not_not_intro h)).trans ((if_pos hm).trans (if_neg (by rw [haf]; exact Bool.false_ne_true)))

theorem barrier_failed {s : St} {sr id : Nat} (h : id = (virtCk s id).1)
    (hm : ((virtCk s id).2.filter (· ≠ sr)).isEmpty = true) (haf : s.ackFails = true) :
    barrier s sr id =
      ({ (flush s).1 with ckpt := some ((virtCk s id).1, []), slots := release (flush s).1.slots, ackFails := false,
                            dbFails := false },
       [.reg sr id] ++ (flush s).2 ++
         (if s.dbFails then [] else [.snap (virtCk s id).1 (flush s).1.kv (flush s).1.timers]) ++
         [.ackfail (virtCk s id).1, .released (parkedList s)]) :=
  (if_neg (not_not_intro h)).trans ((if_pos hm).trans (if_pos haf))

theorem barrierU_none {s : St} {sr id : Nat} (hc : s.ckpt = none) (hk : 0 < s.k) :
    barrierU s sr id = ({ s with ckpt := some (id, List.range s.k) }, []) := by
  have hv := virtCk_none hc id
  have hne : ¬ (List.range s.k).isEmpty = true := by
    rw [List.isEmpty_iff]
    exact List.range_ne_nil.mpr (Nat.ne_of_gt hk)
  exact ((if_neg (by rw [hv]; exact not_not_intro rfl)).trans (if_neg (by rw [hv]; exact hne))).trans (by rw [hv])

theorem barrierU_reject {s : St} {sr id i : Nat} {m : List Nat} (hc : s.ckpt = some (i, m)) (hne : id ≠ i) :
    barrierU s sr id = ({ s with ckpt := some (i, m) }, [.reject sr id i]) := by
  have hv := virtCk_some hc id
  exact (if_pos (by rw [hv]; exact hne)).trans (by rw [hv])

theorem barrierU_keep {s : St} {sr id i : Nat} {m : List Nat} (hc : s.ckpt = some (i, m)) (heq : id = i)
    (hm : m ≠ []) : barrierU s sr id = ({ s with ckpt := some (i, m) }, []) := by
  have hv := virtCk_some hc id
  exact ((if_neg (by rw [hv]; exact not_not_intro heq)).trans
    (if_neg (by rw [hv, List.isEmpty_iff]; exact hm))).trans (by rw [hv])

theorem barrierU_plain {s : St} (sr id : Nat) (hne : (virtCk s id).2.isEmpty = false ∨ id ≠ (virtCk s id).1) :
    (barrierU s sr id).1 = { s with ckpt := some (virtCk s id) } ∧
    ((barrierU s sr id).2 = [] ∨ (barrierU s sr id).2 = [.reject sr id (virtCk s id).1]) := by
  unfold barrierU
  simp only []
  by_cases h1 : id ≠ (virtCk s id).1
  · rw [if_pos h1]; exact ⟨rfl, Or.inr rfl⟩
  · rw [if_neg h1]
    rcases hne with h2 | h2
    · rw [if_neg (by simp [h2])]; exact ⟨rfl, Or.inl rfl⟩
    · exact absurd h2 h1

theorem step_live {s : St} (hlive : s.stopped = false) (a : Act) : step s a = stepLive s a := by
  unfold step
  rw [hlive]
  rfl

theorem step_redeploy {s : St} (hlive : s.stopped = false) : step s .redeploy = redeploy s := step_live hlive _

theorem stepLive_go_run {s : St} {sr : Nat} {it : Item} (hsr : sr < s.k + s.z) (hslot : s.slots sr = some (it, true)) :
    stepLive s (.go sr) =
      ({ (process s sr it).1 with slots := fun i => if i = sr then none else (process s sr it).1.slots i },
       .proc sr it :: (process s sr it).2) :=
  (if_pos hsr).trans (by rw [hslot])

theorem stepLive_go_noop {s : St} {sr : Nat} (h : ¬ sr < s.k + s.z ∨ ∀ it, s.slots sr ≠ some (it, true)) :
    stepLive s (.go sr) = (s, []) := by
  rcases h with h | h
  · exact if_neg h
  · refine ite_both (P := (· = (s, []))) _ ?_ rfl
    cases hs : s.slots sr with
    | none => rfl
    | some v =>
      obtain ⟨it, b⟩ := v
      cases b with
      | false => rfl
      | true => exact absurd hs (h it)

/-- the actions of normal operation: everything but the injected failures and the redeploy -/
def Act.plain : Act → Bool
  | .armFail => false
  | .armDbFail => false
  | .redeploy => false
  | _ => true

theorem step_cases (s : St) {P : Act → St × List Obs → Prop}
    (noop : ∀ a, P a (s, []))
    (busy : ∀ sr it, P (.align sr it) (s, [.busy sr]))
    (aligned : ∀ sr it, s.slots sr = none →
      P (.align sr it) ({ s with slots := fun i => if i = sr then some (it, passes s sr) else s.slots i },
        [.aligned sr (passes s sr)]))
    (go : ∀ sr it, sr < s.k + s.z → s.slots sr = some (it, true) →
      P (.go sr) ({ (process s sr it).1 with slots := fun i => if i = sr then none else (process s sr it).1.slots i },
        .proc sr it :: (process s sr it).2))
    (timeout : ∀ a t, P a (timeout s t))
    (armFail : P .armFail ({ s with ackFails := true }, []))
    (armDbFail : P .armDbFail ({ s with ackFails := true, dbFails := true }, []))
    (redeploy : P .redeploy (redeploy s)) : ∀ a, P a (step s a) := by
  intro a
  refine ite_both (P := P a) _ (noop a) ?_
  cases a with
  | align sr it =>
    refine ite_both (P := P (.align sr it)) _ ?_ (noop _)
    cases hs : s.slots sr with
    | some _ => exact busy sr it
    | none => exact aligned sr it hs
  | go sr =>
    refine iteInduction (motive := P (.go sr)) (fun hsr => ?_) (fun _ => noop _)
    cases hs : s.slots sr with
    | none => exact noop _
    | some v =>
      obtain ⟨it, b⟩ := v
      cases b with
      | false => exact noop _
      | true => exact go sr it hsr hs
  | tick => exact timeout _ _
  | stale => exact timeout _ _
  | armFail => exact armFail
  | armDbFail => exact armDbFail
  | cancel sr => exact noop _
  | redeploy => exact redeploy

theorem passes_eq_false {s : St} {sr : Nat} :
    passes s sr = false ↔ ∃ id m, s.ckpt = some (id, m) ∧ sr ∉ m ∧ m ≠ [] := by
  unfold passes
  cases s.ckpt with
  | none => simp
  | some c =>
    obtain ⟨id, m⟩ := c
    constructor
    · intro h
      exact ⟨id, m, rfl, by simpa using h⟩
    · rintro ⟨_, _, e, h⟩
      cases e
      simpa using h

theorem isParked_iff {s : St} {x : Nat} : isParked s x = true ↔ ∃ it, s.slots x = some (it, false) := by
  unfold isParked
  split
  · rename_i it hs
    exact ⟨fun _ => ⟨it, hs⟩, fun _ => rfl⟩
  · rename_i hn
    exact ⟨(fun h => nomatch h), fun ⟨it, e⟩ => absurd e (hn it)⟩

theorem redeploy_slots_eq_some {s : St} {x : Nat} {v : Item × Bool} :
    (redeploy s).1.slots x = some v ↔ s.slots x = some v ∧ v.2 = true := by
  show (match s.slots x with | some (_, false) => none | y => y) = some v ↔ _
  cases s.slots x with
  | none => exact ⟨nofun, fun e => nomatch e.1⟩
  | some w =>
    obtain ⟨it, b⟩ := w
    cases b
    · exact ⟨nofun, fun ⟨e, hv⟩ => by cases e; cases hv⟩
    · exact ⟨fun e => ⟨e, by cases e; rfl⟩, And.left⟩

theorem release_none {f : Nat → Option (Item × Bool)} {x : Nat} (h : f x = none) : release f x = none := by
  unfold release
  rw [h]
  rfl

/-- `close(allBarriersReceived)` leaves nobody parked -/
theorem release_ne_parked (f : Nat → Option (Item × Bool)) (x : Nat) (it : Item) :
    release f x ≠ some (it, false) := by
  unfold release
  cases f x <;> simp

theorem process_bar (s : St) (sr id : Nat) :
    process s sr (.bar id) = if sr < s.k then barrier s sr id else barrierU s sr id := rfl

theorem process_done (s : St) (sr : Nat) : process s sr .done =
    ({ (flush s).1 with active := (flush s).1.active.filter (· ≠ sr),
                        stopped := ((flush s).1.active.filter (· ≠ sr)).isEmpty },
     (flush s).2 ++ .completed sr :: (if ((flush s).1.active.filter (· ≠ sr)).isEmpty then [.stopped] else [])) := rfl

/-- Whatever is no barrier batches (`Batch`) and then emits a tail `tl` of `completed sr` and `stopped` at most. That
is said as "`tl` lies in every class `q` of observations that holds these two": each user has a class of its own. -/
theorem process_cases (s : St) (sr : Nat) {P : Item → St × List Obs → Prop}
    (bar : ∀ id, sr < s.k → P (.bar id) (barrier s sr id))
    (barU : ∀ id, ¬ sr < s.k → P (.bar id) (barrierU s sr id))
    (batch : ∀ it s' o es tl, Batch s s' o es → userOf es = userProcs [(sr, it)] →
      (∀ q : Obs → Bool, q (.completed sr) = true → q .stopped = true → tl.all q = true) → P it (s', o ++ tl)) :
    ∀ it, P it (process s sr it) := by
  intro it
  cases it with
  | ev key pl t =>
    have h := batch (.ev key pl t) _ _ _ [] (addEntry_batch s (.user sr key pl t)) rfl fun _ _ _ => rfl
    rw [List.append_nil] at h
    exact h
  | wm ts =>
    obtain ⟨o, es, ho, hb, hu⟩ := fireLoop_batch sr
      (wmState s sr ts).watermark s.timers.length (wmState s sr ts) []
    -- the watermarks are nothing `Batch` looks at: `hb`, about `wmState s sr ts`, is about `s`
    have h := batch (.wm ts) _ o es []
      ⟨⟨hb.k, hb.z, hb.maxSize, hb.slots, hb.ckpt, hb.af, hb.onlyH, hb.ents, hb.kv⟩, hb.timers⟩ hu fun _ _ _ => rfl
    rw [List.append_nil, ← List.nil_append o, ← ho] at h
    exact h
  | bar id => exact iteInduction (motive := P (.bar id)) (bar id) (barU id)
  | done =>
    have hf := flush_batch s
    rw [process_done]
    -- nor are `active` and `stopped`
    refine batch .done _ _ [] _
      ⟨⟨hf.k, hf.z, hf.maxSize, hf.slots, hf.ckpt, hf.af, hf.onlyH, hf.ents, hf.kv⟩, hf.timers⟩ rfl fun q h1 h2 => ?_
    cases ((flush s).1.active.filter (· ≠ sr)).isEmpty
    · simp [h1]
    · simp [h1, h2]

theorem step_go_reject {s : St} {sr id cid : Nat} {m : List Nat} (hlive : s.stopped = false) (hsr : sr < s.k + s.z)
    (hslot : s.slots sr = some (.bar id, true)) (hc : s.ckpt = some (cid, m)) (hne : id ≠ cid) :
    step s (.go sr) =
      ({ s with slots := fun i => if i = sr then none else s.slots i }, [.proc sr (.bar id), .reject sr id cid]) := by
  have hp : process s sr (.bar id) = ({ s with ckpt := some (cid, m) }, [.reject sr id cid]) := by
    rw [process_bar]
    split
    · rw [barrier_reject (by rw [virtCk_some hc]; exact hne), virtCk_some hc]
    · exact barrierU_reject hc hne
  rw [step_live hlive, stepLive_go_run hsr hslot, hp, ← hc]

structure Served (s : St) (r : St × List Obs) : Prop where
  k : r.1.k = s.k
  z : r.1.z = s.z
  slots : ∀ x, s.slots x = none → r.1.slots x = none
  quiet : Quiet r.2
  timers : r.1.timers = timersOf s.timers r.2
  snaps : timersOK s.timers r.2

theorem Batch.served {s s' : St} {o : List Obs} {es : List Entry} (hx : Batch s s' o es) : Served s (s', o) :=
  ⟨hx.k, hx.z, fun x h => by rw [hx.slots]; exact h, hx.onlyH.quiet, hx.timers, hx.onlyH.timersOK _⟩

theorem timeout_served (s : St) (t : Option Nat) : Served s (timeout s t) :=
  (timeout_batch s t).served

theorem Served.trans {s : St} {r1 r2 : St × List Obs} (h1 : Served s r1) (h2 : Served r1.1 r2) :
    Served s (r2.1, r1.2 ++ r2.2) :=
  ⟨h2.k.trans h1.k, h2.z.trans h1.z, fun x h => h2.slots x (h1.slots x h), h1.quiet.append h2.quiet,
   by rw [timersOf_append, ← h1.timers]; exact h2.timers,
   by rw [timersOK_append, ← h1.timers]; exact ⟨h1.snaps, h2.snaps⟩⟩

/-- observations that `Quiet` allows and that neither change nor show the timer store -/
def Obs.isNote : Obs → Bool
  | .busy _ => true
  | .reg _ _ => true
  | .reject _ _ _ => true
  | .ack _ => true
  | .released _ => true
  | .ackfail _ => true
  | .completed _ => true
  | .stopped => true
  | _ => false

theorem served_notes (s : St) {o : List Obs} (ho : o.all Obs.isNote = true) : Served s (s, o) := by
  have h : Quiet o ∧ ∀ t, timersOf t o = t ∧ timersOK t o := by
    refine forall_mem_induct (P := fun o => Quiet o ∧ ∀ t, timersOf t o = t ∧ timersOK t o)
      ⟨Quiet.nil, fun _ => ⟨rfl, trivial⟩⟩ (fun x r hx ⟨hq, ht⟩ => ⟨?_, ?_⟩) (List.all_eq_true.mp ho)
    · have hne : ∀ y : Obs, y.isNote = false → x ≠ y := fun y hy e => by rw [e, hy] at hx; cases hx
      exact Quiet.cons ⟨fun _ _ => hne _ rfl, fun _ _ => hne _ rfl, fun _ => hne _ rfl⟩ hq
    · cases x with
      | handler _ _ _ => cases hx
      | fired _ _ => cases hx
      | snap _ _ _ => cases hx
      | _ => exact fun t => ⟨(ht t).1, trivial, (ht t).2⟩
  exact ⟨rfl, rfl, fun _ hs => hs, h.1, (h.2 _).1.symm, (h.2 _).2⟩

theorem served_notes_ckpt (s : St) (c : Option (Nat × List Nat)) {o : List Obs} (ho : o.all Obs.isNote = true) :
    Served s ({ s with ckpt := c }, o) :=
  have h := served_notes s ho
  ⟨h.k, h.z, h.slots, h.quiet, h.timers, h.snaps⟩

theorem served_snap (s : St) (id : Nat) (S : KVf) : Served s (s, [.snap id S s.timers]) :=
  ⟨rfl, rfl, fun _ h => h, Quiet.cons ⟨nofun, nofun, nofun⟩ Quiet.nil, rfl, rfl, trivial⟩

theorem barrier_served (s : St) (sr id : Nat) : Served s (barrier s sr id) := by
  -- the completing barrier: `reg`, the flush, a tail `tl` in which a snapshot holds the flushed timer store; then the
  -- record is settled and the slots are released
  have hdone : ∀ (c : Option (Nat × List Nat)) (af db : Bool) (tl : List Obs),
      Served (flush s).1 ((flush s).1, tl) →
      Served s ({ (flush s).1 with ckpt := c, slots := release (flush s).1.slots, ackFails := af, dbFails := db },
        [.reg sr id] ++ (flush s).2 ++ tl) := by
    intro c af db tl htl
    have h := ((served_notes s (o := [.reg sr id]) rfl).trans (flush_batch s).served).trans htl
    exact ⟨h.k, h.z, fun x hx => release_none (h.slots x hx), h.quiet, h.timers, h.snaps⟩
  have hsnap := served_snap (flush s).1 (virtCk s id).1 (flush s).1.kv
  -- the cascade of `barrier`: mismatch; last barrier (ack refused / acknowledged); barrier accepted
  refine ite_both (P := Served s) _ (served_notes_ckpt s _ rfl)
    (ite_both (P := Served s) _ (ite_both (P := Served s) _ ?_ ?_) (served_notes_ckpt s _ rfl))
  · rw [List.append_assoc]
    cases s.dbFails
    · exact hdone _ _ _ _ (hsnap.trans (served_notes _ (o := [.ackfail _, .released _]) rfl))
    · exact hdone _ _ _ _ (served_notes _ rfl)
  · exact hdone _ _ _ _ (hsnap.trans (served_notes _ (o := [.ack _, .released _]) rfl))

theorem barrierU_served (s : St) (sr id : Nat) : Served s (barrierU s sr id) :=
  ite_both (P := Served s) _ (served_notes_ckpt s _ rfl)
    (ite_both (P := Served s) _ (barrier_served s sr id) (served_notes_ckpt s _ rfl))

theorem process_served (s : St) (sr : Nat) (it : Item) : Served s (process s sr it) := by
  refine process_cases s sr (P := fun _ r => Served s r) (fun id _ => barrier_served s sr id)
    (fun id _ => barrierU_served s sr id) ?_ it
  intro _ s' o es tl hx _ htl
  exact hx.served.trans (r2 := (s', tl)) (served_notes s' (htl Obs.isNote rfl rfl))

theorem runFrom_cons (s : St) (acc : List Obs) (a : Act) (as : List Act) :
    runFrom s acc (a :: as) = runFrom (step s a).1 (acc ++ (step s a).2) as := rfl

theorem runFrom_acc : ∀ (as : List Act) (s : St) (acc : List Obs),
    runFrom s acc as = ((runFrom s [] as).1, acc ++ (runFrom s [] as).2) := by
  intro as
  induction as with
  | nil => intro s acc; exact congrArg (Prod.mk s) (List.append_nil acc).symm
  | cons a r ih =>
    intro s acc
    rw [runFrom_cons, runFrom_cons, ih (step s a).1 (acc ++ (step s a).2), ih (step s a).1 ([] ++ (step s a).2),
      List.nil_append, List.append_assoc]

theorem runFrom_append : ∀ (l1 l2 : List Act) (s : St) (acc : List Obs),
    runFrom s acc (l1 ++ l2) = runFrom (runFrom s acc l1).1 (runFrom s acc l1).2 l2 := by
  intro l1
  induction l1 with
  | nil => intro l2 s acc; rfl
  | cons a r ih => intro l2 s acc; exact ih l2 _ _

theorem runFrom_induct {I : St → List Obs → Prop} : ∀ (as : List Act) (s : St) (acc : List Obs),
    (∀ a ∈ as, ∀ s acc, I s acc → I (step s a).1 (acc ++ (step s a).2)) → I s acc →
    I (runFrom s acc as).1 (runFrom s acc as).2 := by
  intro as
  induction as with
  | nil => intro s acc _ h; exact h
  | cons a r ih =>
    intro s acc hstep h
    exact ih _ _ (fun b hb => hstep b (List.mem_cons_of_mem _ hb)) (hstep a List.mem_cons_self s acc h)

/-! ## the timer store follows the trace -/

/-- a redeploy empties the store, and `timersOf` does not replay that: a trace is read per epoch -/
theorem step_timers (s : St) (act : Act) (hnr : act ≠ .redeploy) :
    (step s act).1.timers = timersOf s.timers (step s act).2 ∧ timersOK s.timers (step s act).2 := by
  refine step_cases s (P := fun a r => a ≠ .redeploy → r.1.timers = timersOf s.timers r.2 ∧ timersOK s.timers r.2)
    ?noop ?busy ?aligned ?go ?timeout ?armFail ?armDbFail ?redeploy act hnr
  case noop => intro _ _; exact ⟨rfl, trivial⟩
  case busy => intro _ _ _; exact ⟨rfl, trivial, trivial⟩
  case aligned => intro _ _ _ _; exact ⟨rfl, trivial, trivial⟩
  case go => intro sr it _ _ _; exact ⟨(process_served s sr it).timers, trivial, (process_served s sr it).snaps⟩
  case timeout => intro _ t _; exact ⟨(timeout_served s t).timers, (timeout_served s t).snaps⟩
  case armFail => intro _; exact ⟨rfl, trivial⟩
  case armDbFail => intro _; exact ⟨rfl, trivial⟩
  case redeploy => intro h; exact absurd rfl h

theorem runFrom_timers (as : List Act) (s : St) (hnr : Act.redeploy ∉ as) :
    (runFrom s [] as).1.timers = timersOf s.timers (runFrom s [] as).2 ∧ timersOK s.timers (runFrom s [] as).2 := by
  refine runFrom_induct (I := fun s' acc => s'.timers = timersOf s.timers acc ∧ timersOK s.timers acc) as s [] ?_
    ⟨rfl, trivial⟩
  intro a ha s' acc ⟨h1, h2⟩
  obtain ⟨t1, t2⟩ := step_timers s' a (fun e => hnr (e ▸ ha))
  rw [timersOf_append, timersOK_append, ← h1]
  exact ⟨t1, h2, t2⟩

theorem step_kz (s : St) (a : Act) : (step s a).1.k = s.k ∧ (step s a).1.z = s.z := by
  refine step_cases s (P := fun _ r => r.1.k = s.k ∧ r.1.z = s.z)
    ?noop ?busy ?aligned ?go ?timeout ?armFail ?armDbFail ?redeploy a
  case noop => intro _; exact ⟨rfl, rfl⟩
  case busy => intro _ _; exact ⟨rfl, rfl⟩
  case aligned => intro _ _ _; exact ⟨rfl, rfl⟩
  case go => intro sr it _ _; exact ⟨(process_served s sr it).k, (process_served s sr it).z⟩
  case timeout => intro _ t; exact ⟨(timeout_served s t).k, (timeout_served s t).z⟩
  case armFail => exact ⟨rfl, rfl⟩
  case armDbFail => exact ⟨rfl, rfl⟩
  case redeploy => exact ⟨rfl, rfl⟩

theorem step_procs (s : St) (a : Act) : ∀ x ∈ procsOf (step s a).2, a = Act.go x.1 ∧ x.1 < s.k + s.z := by
  refine step_cases s (P := fun a r => ∀ x ∈ procsOf r.2, a = Act.go x.1 ∧ x.1 < s.k + s.z)
    ?noop ?busy ?aligned ?go ?timeout ?armFail ?armDbFail ?redeploy a
  case noop => intro _ x hx; cases hx
  case busy => intro _ _ x hx; cases hx
  case aligned => intro _ _ _ x hx; cases hx
  case go =>
    intro sr it hsr _ x hx
    rw [procsOf_cons, (process_served s sr it).quiet.procsOf_eq_nil] at hx
    rw [List.mem_singleton.mp hx]
    exact ⟨rfl, hsr⟩
  case timeout =>
    intro _ t x hx
    rw [(timeout_served s t).quiet.procsOf_eq_nil] at hx
    cases hx
  case armFail => intro x hx; cases hx
  case armDbFail => intro x hx; cases hx
  case redeploy => intro x hx; cases hx

theorem runFrom_procs_go : ∀ (as : List Act) (s : St) (acc : List Obs),
    ∀ x ∈ procsOf (runFrom s acc as).2, x ∈ procsOf acc ∨ (Act.go x.1 ∈ as ∧ x.1 < s.k + s.z) := by
  intro as s acc
  refine (runFrom_induct (I := fun s' acc' => (s'.k = s.k ∧ s'.z = s.z) ∧
    ∀ x ∈ procsOf acc', x ∈ procsOf acc ∨ (Act.go x.1 ∈ as ∧ x.1 < s.k + s.z)) as s acc ?_
    ⟨⟨rfl, rfl⟩, fun x hx => Or.inl hx⟩).2
  intro a ha s' acc' ⟨hkz, h⟩
  refine ⟨⟨(step_kz s' a).1.trans hkz.1, (step_kz s' a).2.trans hkz.2⟩, ?_⟩
  intro x hx
  rw [procsOf_append] at hx
  rcases List.mem_append.mp hx with hx | hx
  · exact h x hx
  · obtain ⟨hgo, hlt⟩ := step_procs s' a x hx
    exact Or.inr ⟨hgo ▸ ha, hkz.1 ▸ hkz.2 ▸ hlt⟩

theorem runFrom_procs : ∀ (as : List Act) (s : St) (acc : List Obs),
    ∀ x ∈ procsOf (runFrom s acc as).2, x ∈ procsOf acc ∨ Act.go x.1 ∈ as :=
  fun as s acc x hx => (runFrom_procs_go as s acc x hx).imp id And.left

theorem runFrom_procs_lt : ∀ (as : List Act) (s : St) (acc : List Obs),
    ∀ x ∈ procsOf (runFrom s acc as).2, x ∈ procsOf acc ∨ x.1 < s.k + s.z :=
  fun as s acc x hx => (runFrom_procs_go as s acc x hx).imp id And.right

/-! ## calls abandoned by a redeploy are never served -/

/-- senders in `c` have no call in flight -/
def NoneAt (c : List Nat) (s : St) : Prop := ∀ x ∈ c, s.slots x = none

theorem Served.away {s : St} {r : St × List Obs} (hp : Served s r) {c : List Nat} (h : NoneAt c s) :
    NoneAt (awayOf c r.2) r.1 ∧ awayOK c r.2 := by
  obtain ⟨q1, q2⟩ := hp.quiet.away c
  exact ⟨by rw [q1]; exact fun x hx => hp.slots x (h x hx), q2⟩

theorem step_away (s : St) (c : List Nat) (h : NoneAt c s) (act : Act) :
    NoneAt (awayOf c (step s act).2) (step s act).1 ∧ awayOK c (step s act).2 := by
  refine step_cases s (P := fun _ r => NoneAt (awayOf c r.2) r.1 ∧ awayOK c r.2)
    ?noop ?busy ?aligned ?go ?timeout ?armFail ?armDbFail ?redeploy act
  case noop => intro _; exact ⟨h, trivial⟩
  case busy => intro _ _; exact ⟨h, trivial, trivial⟩
  case armFail => exact ⟨h, trivial⟩
  case armDbFail => exact ⟨h, trivial⟩
  case aligned =>
    intro sr it _
    refine ⟨?_, trivial, trivial⟩
    intro x hx
    have hx' := List.mem_filter.mp hx
    have hne : ¬ x = sr := by simpa using hx'.2
    simp only [hne, if_false]
    exact h x hx'.1
  case go =>
    intro sr it _ hs
    obtain ⟨n1, n2⟩ := (process_served s sr it).away h
    refine ⟨fun x hx => ?_, fun hin => ?_, n2⟩
    · show (if x = sr then none else (process s sr it).1.slots x) = none
      split
      · rfl
      · exact n1 x hx
    · rw [h sr hin] at hs
      cases hs
  case timeout =>
    intro _ t
    exact (timeout_served s t).away h
  case redeploy =>
    refine ⟨?_, trivial, trivial⟩
    -- a call that survives was past alignment: it is neither a parked sender's nor that of a sender without a call
    intro x hx
    refine Option.eq_none_iff_forall_ne_some.mpr fun v hv => ?_
    obtain ⟨hs, hpast⟩ := redeploy_slots_eq_some.mp hv
    rcases List.mem_append.mp hx with hx | hx
    · obtain ⟨it, hs'⟩ := isParked_iff.mp (List.mem_filter.mp hx).2
      rw [hs] at hs'
      cases hs'
      cases hpast
    · rw [h x hx] at hs
      cases hs

theorem runFrom_away : ∀ (as : List Act) (c : List Nat) (s : St) (acc : List Obs),
    NoneAt (awayOf c acc) s → awayOK c acc →
    NoneAt (awayOf c (runFrom s acc as).2) (runFrom s acc as).1 ∧ awayOK c (runFrom s acc as).2 := by
  intro as c s acc h1 h2
  refine runFrom_induct (I := fun s acc => NoneAt (awayOf c acc) s ∧ awayOK c acc) as s acc ?_ ⟨h1, h2⟩
  intro a _ s acc ⟨h1, h2⟩
  obtain ⟨n1, n2⟩ := step_away s _ h1 a
  exact ⟨by rw [awayOf_append]; exact n1, by rw [awayOK_append]; exact ⟨h2, n2⟩⟩

/-! ## what a redeploy lets through -/

/-- in the epoch started by a redeploy the consumer takes an item of sender `sr` only after a call of `sr` that
started in this epoch — or `sr`'s call was already past alignment when the redeploy happened -/
theorem epoch_delivered (s : St) (hlive : s.stopped = false) (as : List Act) (pre' post' : List Obs) (sr : Nat)
    (it : Item) (h : (runFrom (step s Act.redeploy).1 [] as).2 = pre' ++ Obs.proc sr it :: post') :
    (∃ b, Obs.aligned sr b ∈ pre') ∨ ∃ it0, s.slots sr = some (it0, true) := by
  rw [step_redeploy hlive] at h
  cases hs : (redeploy s).1.slots sr with
  | some v =>
    obtain ⟨hv, hpast⟩ := redeploy_slots_eq_some.mp hs
    exact Or.inr ⟨v.1, by rw [hv, ← hpast]⟩
  | none =>
    -- `sr` has no call in flight after the redeploy, as if it had been turned away
    obtain ⟨_, hok⟩ := runFrom_away as [sr] (redeploy s).1 [] (fun x hx => by rw [List.mem_singleton.mp hx]; exact hs)
      trivial
    rw [h] at hok
    exact Or.inl (awayOK_new_call pre' _ post' List.mem_cons_self hok)

/-! ## holding the consumer inside the last barrier's handler changes nothing -/

def HAct.bases : List HAct → List Act
  | [] => []
  | .base a :: r => a :: HAct.bases r
  | _ :: r => HAct.bases r

theorem hstep_sim (h : HSt) (ha : HAct) :
    ∃ l : List Act, (hstep h ha).1.s = (runFrom h.s [] l).1 ∧ (hstep h ha).2 = (runFrom h.s [] l).2 ∧
      ∀ a ∈ l, ha = .base a ∨ (∃ x, a = Act.go x) ∨ ∃ sr it, a = Act.align sr it := by
  obtain ⟨s, held, queue, blocked⟩ := h
  have idle : ∀ r : HSt × List Obs, r.1.s = s ∧ r.2 = [] →
      ∃ l : List Act, r.1.s = (runFrom s [] l).1 ∧ r.2 = (runFrom s [] l).2 ∧
        ∀ a ∈ l, ha = .base a ∨ (∃ x, a = Act.go x) ∨ ∃ sr it, a = Act.align sr it :=
    fun r e => ⟨[], e.1, e.2, fun _ hm => nomatch hm⟩
  cases ha with
  | base a =>
    cases held with
    | none => exact ⟨[a], rfl, rfl, fun b hb => Or.inl (by rw [List.mem_singleton.mp hb])⟩
    | some sr0 =>
      -- the call queues, waits for the read lock or is refused: `s` is left alone and nothing is emitted
      refine idle _ ?_
      cases a with
      | go x => exact ite_both (P := fun r : HSt × List Obs => r.1.s = s ∧ r.2 = []) _ ⟨rfl, rfl⟩ ⟨rfl, rfl⟩
      | align sr it => exact ite_both (P := fun r : HSt × List Obs => r.1.s = s ∧ r.2 = []) _ ⟨rfl, rfl⟩ ⟨rfl, rfl⟩
      | _ => exact ⟨rfl, rfl⟩
  | hold sr =>
    cases held with
    | none =>
      refine ite_both (P := fun r : HSt × List Obs => ∃ l : List Act, r.1.s = (runFrom s [] l).1 ∧ r.2 = (runFrom s [] l).2 ∧
        ∀ a ∈ l, HAct.hold sr = .base a ∨ (∃ x, a = Act.go x) ∨ ∃ sr it, a = Act.align sr it) _ ?_ ?_
      · exact idle _ ⟨rfl, rfl⟩
      · exact ⟨[.go sr], rfl, rfl, fun b hb => Or.inr (Or.inl ⟨sr, List.mem_singleton.mp hb⟩)⟩
    | some _ => exact idle _ ⟨rfl, rfl⟩
  | resume =>
    cases held with
    | none => exact idle _ ⟨rfl, rfl⟩
    | some sr0 =>
      refine ⟨_, rfl, rfl, ?_⟩
      intro b hb
      right
      rcases List.mem_cons.mp hb with rfl | hb
      · exact Or.inl ⟨sr0, rfl⟩
      · rcases List.mem_append.mp hb with hb | hb
        · obtain ⟨x, _, rfl⟩ := List.mem_map.mp hb
          exact Or.inl ⟨x, rfl⟩
        · obtain ⟨x, _, rfl⟩ := List.mem_map.mp hb
          exact Or.inr ⟨x.1, x.2, rfl⟩

theorem HAct.mem_bases_cons {a : Act} {ha : HAct} {r : List HAct} (h : ha = .base a ∨ a ∈ HAct.bases r) :
    a ∈ HAct.bases (ha :: r) := by
  rcases h with rfl | h
  · exact List.mem_cons_self
  · cases ha with
    | base b => exact List.mem_cons_of_mem _ h
    | _ => exact h

/-- **simulation**: every schedule with holds produces exactly the state and the trace of a schedule without
holds whose actions are the original ones plus `go`s (of queued senders) and `align`s (of blocked calls) -/
theorem hrun_sim : ∀ (has : List HAct) (h : HSt) (acc : List Obs),
    ∃ as : List Act, (hrunFrom h acc has).1.s = (runFrom h.s acc as).1 ∧
      (hrunFrom h acc has).2 = (runFrom h.s acc as).2 ∧
      ∀ a ∈ as, a ∈ HAct.bases has ∨ (∃ x, a = Act.go x) ∨ ∃ sr it, a = Act.align sr it := by
  intro has
  induction has with
  | nil => intro h acc; exact ⟨[], rfl, rfl, fun _ ha => nomatch ha⟩
  | cons ha r ih =>
    intro h acc
    obtain ⟨l, e1, e2, e3⟩ := hstep_sim h ha
    obtain ⟨as, f1, f2, f3⟩ := ih (hstep h ha).1 (acc ++ (hstep h ha).2)
    have hsplit : runFrom h.s acc (l ++ as) = runFrom (hstep h ha).1.s (acc ++ (hstep h ha).2) as := by
      rw [runFrom_append, runFrom_acc l h.s acc, e1, e2]
    refine ⟨l ++ as, by rw [hsplit]; exact f1, by rw [hsplit]; exact f2, ?_⟩
    intro a hin
    rcases List.mem_append.mp hin with h1 | h2
    · rcases e3 a h1 with hb | hg
      · exact Or.inl (HAct.mem_bases_cons (Or.inl hb))
      · exact Or.inr hg
    · rcases f3 a h2 with hb | hg
      · exact Or.inl (HAct.mem_bases_cons (Or.inr hb))
      · exact Or.inr hg

/-! ## cancellations are invisible -/

def Act.isCancel : Act → Bool
  | .cancel _ => true
  | _ => false

theorem step_cancel (s : St) {a : Act} (h : a.isCancel = true) : step s a = (s, []) := by
  cases a with
  | cancel sr => unfold step; split <;> rfl
  | _ => cases h

theorem runFrom_filter_cancel : ∀ (as : List Act) (s : St) (acc : List Obs),
    runFrom s acc as = runFrom s acc (as.filter fun a => !a.isCancel) := by
  intro as
  induction as with
  | nil => intro s acc; rfl
  | cons a r ih =>
    intro s acc
    rw [List.filter_cons]
    cases hc : a.isCancel
    · exact ih _ _
    · rw [runFrom_cons, step_cancel s hc, List.append_nil]
      exact ih s acc

/-! ## after a failed ack (or a failed `db.Checkpoint`) the completed record blocks checkpointing -/

/-- the completed record of checkpoint `id` is in place and no call in flight carries barrier `id` again -/
def StaleInv (id : Nat) (s : St) : Prop :=
  s.ckpt = some (id, []) ∧ ∀ sr it b, s.slots sr = some (it, b) → it ≠ Item.bar id

/-- actions that neither redeploy nor re-send barrier `id` -/
def Act.keepsStale (id : Nat) : Act → Bool
  | .redeploy => false
  | .align _ (.bar j) => j != id
  | _ => true

/-- observations that would mean checkpointing made progress -/
def Obs.isCkptProgress : Obs → Bool
  | .snap _ _ _ => true
  | .ack _ => true
  | .ackfail _ => true
  | .reg _ _ => true
  | _ => false

theorem OnlyH.noProgress {o : List Obs} (h : OnlyH o) : ∀ x ∈ o, x.isCkptProgress = false := by
  intro x hx
  rcases h x hx with ⟨_, _, _, rfl⟩ | ⟨_, _, rfl⟩ <;> rfl

theorem stale_process {id : Nat} {s : St} (hc : s.ckpt = some (id, [])) (sr : Nat) {it : Item} (hit : it ≠ .bar id) :
    (process s sr it).1.ckpt = some (id, []) ∧ (process s sr it).1.slots = s.slots ∧
      ∀ x ∈ (process s sr it).2, x.isCkptProgress = false := by
  have hne : ∀ j, Item.bar j ≠ .bar id → j ≠ id := fun j hj e => hj (by rw [e])
  refine process_cases s sr (P := fun it r => it ≠ .bar id → r.1.ckpt = some (id, []) ∧ r.1.slots = s.slots ∧
    ∀ x ∈ r.2, x.isCkptProgress = false) ?_ ?_ ?_ it hit
  · intro j _ hj
    rw [barrier_reject (by rw [virtCk_some hc]; exact hne j hj), virtCk_some hc]
    exact ⟨rfl, rfl, List.forall_mem_singleton.mpr rfl⟩
  · intro j _ hj
    rw [barrierU_reject hc (hne j hj)]
    exact ⟨rfl, rfl, List.forall_mem_singleton.mpr rfl⟩
  · intro _ s' o es tl hx _ htl _
    exact ⟨hx.ckpt.trans hc, hx.slots, List.forall_mem_append.mpr ⟨hx.onlyH.noProgress,
      fun x hx => eq_of_beq (List.all_eq_true.mp (htl (·.isCkptProgress == false) rfl rfl) x hx)⟩⟩

theorem stale_step {id : Nat} {s : St} (h : StaleInv id s) (a : Act) (ha : a.keepsStale id = true) :
    StaleInv id (step s a).1 ∧ ∀ x ∈ (step s a).2, x.isCkptProgress = false := by
  obtain ⟨hc, hsl⟩ := h
  refine step_cases s (P := fun a r => a.keepsStale id = true → StaleInv id r.1 ∧ ∀ x ∈ r.2, x.isCkptProgress = false)
    ?noop ?busy ?aligned ?go ?timeout ?armFail ?armDbFail ?redeploy a ha
  case noop => intro _ _; exact ⟨⟨hc, hsl⟩, fun _ h => nomatch h⟩
  case busy => intro _ _ _; exact ⟨⟨hc, hsl⟩, List.forall_mem_cons.mpr ⟨rfl, fun _ h => nomatch h⟩⟩
  case armFail => intro _; exact ⟨⟨hc, hsl⟩, fun _ h => nomatch h⟩
  case armDbFail => intro _; exact ⟨⟨hc, hsl⟩, fun _ h => nomatch h⟩
  case redeploy => intro h; cases h
  case aligned =>
    intro sr it _ ha
    refine ⟨⟨hc, ?_⟩, List.forall_mem_cons.mpr ⟨rfl, fun _ h => nomatch h⟩⟩
    intro x it' b hs
    by_cases hx : x = sr
    · simp only [hx, if_true, Option.some.injEq, Prod.mk.injEq] at hs
      rw [← hs.1]
      intro hbar
      subst hbar
      simp [Act.keepsStale] at ha
    · simp only [hx, if_false] at hs
      exact hsl x it' b hs
  case go =>
    intro sr it _ hs _
    obtain ⟨p1, p2, p3⟩ := stale_process hc sr (hsl sr it true hs)
    refine ⟨⟨p1, ?_⟩, List.forall_mem_cons.mpr ⟨rfl, p3⟩⟩
    intro x it' b hx
    have hx := (Option.ite_none_left_eq_some.mp hx).2
    rw [p2] at hx
    exact hsl x it' b hx
  case timeout =>
    intro _ t _
    have hx := timeout_batch s t
    exact ⟨⟨hx.ckpt.trans hc, by rw [hx.slots]; exact hsl⟩, hx.onlyH.noProgress⟩

theorem stale_run {id : Nat} : ∀ (as : List Act) (s : St) (acc : List Obs), StaleInv id s →
    (∀ a ∈ as, a.keepsStale id = true) → (∀ x ∈ acc, x.isCkptProgress = false) →
    StaleInv id (runFrom s acc as).1 ∧ ∀ x ∈ (runFrom s acc as).2, x.isCkptProgress = false := by
  intro as s acc h hk hacc
  refine runFrom_induct (I := fun s acc => StaleInv id s ∧ ∀ x ∈ acc, x.isCkptProgress = false) as s acc ?_ ⟨h, hacc⟩
  intro a ha s acc ⟨h, hacc⟩
  obtain ⟨h1, h2⟩ := stale_step h a (hk a ha)
  exact ⟨h1, List.forall_mem_append.mpr ⟨hacc, h2⟩⟩

end Rxn.Align
