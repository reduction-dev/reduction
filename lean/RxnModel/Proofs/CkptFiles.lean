import RxnModel.Proofs.CkptAct
import RxnModel.Proofs.CkptMem
/-!
`FInv` relates the checkpoint bookkeeping in memory to the files: every table of the live level list or of a listed
checkpoint has its file, every listed checkpoint whose handle was returned (`done`) has its WAL file and its entry in the
`checkpoints` document. Every action keeps it (`open` establishes it from the files alone), and it gives `load_of_done`:
such a checkpoint loads back from the files as exactly the record held in memory.
-/
namespace Rxn.Ckpt
open Rxn Rxn.Lsm

theorem assoc_cons_eq {α : Type} (k : Nat) (v : α) (l : List (Nat × α)) : assoc ((k, v) :: l) k = some v :=
  if_pos rfl

theorem assoc_cons_ne {α : Type} {k x : Nat} (v : α) (l : List (Nat × α)) (h : k ≠ x) :
    assoc ((k, v) :: l) x = assoc l x :=
  if_neg h

theorem assoc_append_of_not_mem {α : Type} (new old : List (Nat × α)) (x : Nat)
    (h : ∀ p ∈ new, p.1 ≠ x) : assoc (new ++ old) x = assoc old x := by
  induction new with
  | nil => rfl
  | cons p ps ih =>
    obtain ⟨k, v⟩ := p
    have hk : k ≠ x := h (k, v) List.mem_cons_self
    rw [List.cons_append, assoc_cons_ne v _ hk]
    exact ih (fun q hq => h q (List.mem_cons_of_mem _ hq))

theorem assoc_filter {α : Type} (l : List (Nat × α)) (ids : List Nat) (x : Nat) (h : x ∉ ids) :
    assoc (l.filter (fun p => !ids.contains p.1)) x = assoc l x := by
  induction l with
  | nil => rfl
  | cons p ps ih =>
    obtain ⟨k, v⟩ := p
    rw [List.filter_cons]
    by_cases hk : k = x
    · subst hk
      have hc : (!ids.contains k) = true := by simpa using h
      rw [if_pos hc, assoc_cons_eq, assoc_cons_eq]
    · split
      · rw [assoc_cons_ne v _ hk, assoc_cons_ne v _ hk]; exact ih
      · rw [assoc_cons_ne v _ hk]; exact ih

theorem mkTables_assoc (runs : List Run) : ∀ (start : Nat) (old : List (Nat × Run)) (t : Tbl),
    t ∈ mkTables start runs →
    assoc ((mkTables start runs).map (fun t => (t.id, t.run)) ++ old) t.id = some t.run := by
  induction runs with
  | nil => intro start old t ht; rw [mkTables_nil] at ht; cases ht
  | cons r rs ih =>
    intro start old t ht
    rw [mkTables_cons] at ht ⊢
    rw [List.mem_cons] at ht
    rw [List.map_cons, List.cons_append]
    rcases ht with rfl | ht
    · exact assoc_cons_eq _ _ _
    · have hlt := (mkTables_id_mem ht).1
      have hne : start ≠ t.id := by omega
      rw [assoc_cons_ne _ _ hne]
      exact ih (start + 1) old t ht

/-- every table of the level list is numbered below the allocator and its file holds its run -/
def TablesOk (f : Files) (next : Nat) (lv : List (List Tbl)) : Prop :=
  ∀ t ∈ lv.flatten, t.id < next ∧ assoc f.tables t.id = some t.run

def WalOk (f : Files) (c : Ckpt) : Prop := assoc f.wals c.walId = some c.recs

def DocOk (f : Files) (c : Ckpt) : Prop :=
  ∃ d, f.doc = some d ∧ d.find? (fun cd => cd.id == c.id) = some c.doc

structure FInv (s : State) : Prop where
  live : TablesOk s.files s.db.nextId s.db.levels
  ck : ∀ c ∈ s.ckpts, TablesOk s.files s.db.nextId c.levels
  idinj : ∀ c ∈ s.ckpts, ∀ c' ∈ s.ckpts, c.id = c'.id → c = c'
  cused : ∀ c ∈ s.ckpts, c.id ∈ s.used
  tused : ∀ t ∈ s.tasks, t.id ∈ s.used
  dused : ∀ i ∈ s.done, i ∈ s.used
  tinj : ∀ t ∈ s.tasks, ∀ t' ∈ s.tasks, t.id = t'.id → t.walId = t'.walId ∧ t.recs = t'.recs
  wltc : ∀ c ∈ s.ckpts, c.walId < s.wal.id
  wltp : ∀ c ∈ s.pending, c.walId < s.wal.id
  wltt : ∀ t ∈ s.tasks, t.walId < s.wal.id
  winj : ∀ c ∈ s.ckpts, ∀ c' ∈ s.ckpts, c.walId = c'.walId → c.id = c'.id
  wdisj : ∀ c ∈ s.ckpts, ∀ p ∈ s.pending, c.walId ≠ p.walId
  t1 : ∀ t ∈ s.tasks, ∀ c ∈ s.ckpts, c.walId = t.walId → c.recs = t.recs
  t3 : ∀ t ∈ s.tasks, ∀ c ∈ s.ckpts, c.id = t.id → c.walId = t.walId
  t2 : ∀ t ∈ s.tasks, t.walSaved = true → ∀ c ∈ s.ckpts, c.walId = t.walId → WalOk s.files c
  dn : ∀ c ∈ s.ckpts, c.id ∈ s.done → WalOk s.files c ∧ DocOk s.files c

theorem finv_init : FInv ({} : State) :=
  { live := List.forall_mem_nil _
    ck := List.forall_mem_nil _, idinj := List.forall_mem_nil _, cused := List.forall_mem_nil _
    tused := List.forall_mem_nil _, dused := List.forall_mem_nil _, tinj := List.forall_mem_nil _
    wltc := List.forall_mem_nil _, wltp := List.forall_mem_nil _, wltt := List.forall_mem_nil _
    winj := List.forall_mem_nil _, wdisj := List.forall_mem_nil _
    t1 := List.forall_mem_nil _, t3 := List.forall_mem_nil _, t2 := List.forall_mem_nil _
    dn := List.forall_mem_nil _ }

theorem forall_mem_snoc {α : Type} {p : α → Prop} {l : List α} {x : α} :
    (∀ a ∈ l ++ [x], p a) ↔ (∀ a ∈ l, p a) ∧ p x := by
  simp only [List.forall_mem_append, List.forall_mem_singleton]

theorem forall₂_mem_snoc {α β : Type} {R : α → β → Prop} {l : List α} {m : List β} {x : α} {y : β}
    (hlm : ∀ a ∈ l, ∀ b ∈ m, R a b) (hly : ∀ a ∈ l, R a y) (hxm : ∀ b ∈ m, R x b) (hxy : R x y) :
    ∀ a ∈ l ++ [x], ∀ b ∈ m ++ [y], R a b :=
  forall_mem_snoc.mpr ⟨fun a ha => forall_mem_snoc.mpr ⟨hlm a ha, hly a ha⟩, forall_mem_snoc.mpr ⟨hxm, hxy⟩⟩

/-- everything the invariant looks at is unchanged -/
structure Frame (s s' : State) : Prop where
  files : s'.files = s.files
  ckpts : s'.ckpts = s.ckpts
  pending : s'.pending = s.pending
  tasks : s'.tasks = s.tasks
  done : s'.done = s.done
  used : s'.used = s.used
  levels : s'.db.levels = s.db.levels
  nextId : s'.db.nextId = s.db.nextId
  walId : s'.wal.id = s.wal.id

theorem Frame.refl (s : State) : Frame s s := ⟨rfl, rfl, rfl, rfl, rfl, rfl, rfl, rfl, rfl⟩

theorem Frame.trans {a b c : State} (h1 : Frame a b) (h2 : Frame b c) : Frame a c :=
  ⟨h2.files.trans h1.files, h2.ckpts.trans h1.ckpts, h2.pending.trans h1.pending, h2.tasks.trans h1.tasks,
   h2.done.trans h1.done, h2.used.trans h1.used, h2.levels.trans h1.levels, h2.nextId.trans h1.nextId,
   h2.walId.trans h1.walId⟩

theorem Frame.db_wal (s : State) (db' : Lsm.State) (wal' : Wal.Writer) (hl : db'.levels = s.db.levels)
    (hn : db'.nextId = s.db.nextId) (hw : wal'.id = s.wal.id) : Frame s { s with db := db', wal := wal' } :=
  ⟨rfl, rfl, rfl, rfl, rfl, rfl, hl, hn, hw⟩

theorem Frame.replaying (s : State) (rs : List Wal.Rec) : Frame s { s with replaying := rs } :=
  ⟨rfl, rfl, rfl, rfl, rfl, rfl, rfl, rfl, rfl⟩

theorem Frame.alive (s : State) (b : Bool) : Frame s { s with alive := b } :=
  ⟨rfl, rfl, rfl, rfl, rfl, rfl, rfl, rfl, rfl⟩

theorem finv_frame {s s' : State} (fr : Frame s s') (h : FInv s) : FInv s' := by
  obtain ⟨hf, hc, hp, ht, hd, hu, hl, hn, hw⟩ := fr
  constructor
  · rw [hf, hn, hl]; exact h.live
  · rw [hf, hn, hc]; exact h.ck
  · rw [hc]; exact h.idinj
  · rw [hc, hu]; exact h.cused
  · rw [ht, hu]; exact h.tused
  · rw [hd, hu]; exact h.dused
  · rw [ht]; exact h.tinj
  · rw [hc, hw]; exact h.wltc
  · rw [hp, hw]; exact h.wltp
  · rw [ht, hw]; exact h.wltt
  · rw [hc]; exact h.winj
  · rw [hc, hp]; exact h.wdisj
  · rw [ht, hc]; exact h.t1
  · rw [ht, hc]; exact h.t3
  · rw [ht, hc, hf]; exact h.t2
  · rw [hc, hd, hf]; exact h.dn

theorem writeStep_frame {s s' : State} {del : Bool} {k v : Bytes} {rot : Bool}
    (h : writeStep s del k v rot = some s') : Frame s s' := by
  obtain ⟨db1, _, hw, rfl⟩ := writeStep_some h
  obtain ⟨_, _, _, rfl⟩ := lsm_write_some hw
  cases rot
  · exact Frame.db_wal s _ _ rfl rfl rfl
  · exact Frame.db_wal s _ _ rfl rfl rfl

theorem replay_frame (recs : List Wal.Rec) (rots : List Nat) (s s' : State) (h : replay s recs rots = some s') :
    Frame s s' :=
  replay_induct (P := fun s1 _ => Frame s s1) (fun _ _ _ _ _ hw fr => fr.trans (writeStep_frame hw)) recs rots s s' h
    (Frame.refl s)

theorem tablesOk_write {f : Files} {n : Nat} {lv lv' : List (List Tbl)} (runs : List Run)
    (h : TablesOk f n lv)
    (hsub : ∀ t ∈ lv'.flatten, t ∈ lv.flatten ∨ t ∈ mkTables n runs) :
    TablesOk (writeTables f (mkTables n runs)) (n + runs.length) lv' := by
  intro t ht
  rcases hsub t ht with ht | ht
  · obtain ⟨h1, h2⟩ := h t ht
    refine ⟨Nat.lt_add_right _ h1, ?_⟩
    show assoc ((mkTables n runs).map (fun t => (t.id, t.run)) ++ f.tables) t.id = some t.run
    rw [assoc_append_of_not_mem]
    · exact h2
    · intro p hp
      obtain ⟨t', ht', rfl⟩ := List.mem_map.1 hp
      exact Nat.ne_of_gt (Nat.lt_of_lt_of_le h1 (mkTables_id_mem ht').1)
  · exact ⟨(mkTables_id_mem ht).2, mkTables_assoc runs n f.tables t ht⟩

theorem finv_tables {s : State} (runs : List Run) (h : FInv s) (db' : Lsm.State) (latest' : Nat)
    (wal' : Wal.Writer) (hn : db'.nextId = s.db.nextId + runs.length)
    (hl : ∀ t ∈ db'.levels.flatten, t ∈ s.db.levels.flatten ∨ t ∈ mkTables s.db.nextId runs)
    (hw : wal'.id = s.wal.id) :
    FInv { s with db := db', latest := latest', wal := wal',
                  files := writeTables s.files (mkTables s.db.nextId runs) } :=
  { live := hn ▸ tablesOk_write runs h.live hl
    ck := fun c hc => hn ▸ tablesOk_write runs (h.ck c hc) (fun _ ht => Or.inl ht)
    idinj := h.idinj, cused := h.cused, tused := h.tused, dused := h.dused, tinj := h.tinj
    wltc := hw ▸ h.wltc, wltp := hw ▸ h.wltp, wltt := hw ▸ h.wltt
    winj := h.winj, wdisj := h.wdisj, t1 := h.t1, t3 := h.t3, t2 := h.t2, dn := h.dn }

/-- the new record and task have an id and a WAL id nobody else has, so every clause relating two parties holds of
them for lack of a partner -/
theorem finv_checkpoint {s : State} (id : Nat) (h : FInv s) (hid : id ∉ s.used) :
    FInv { s with wal := s.wal.rotate, ckpts := s.ckpts ++ [capture s id],
                  tasks := s.tasks ++ [⟨id, s.wal.id, s.wal.entries, false⟩], used := id :: s.used } := by
  have fc : ∀ c ∈ s.ckpts, c.id ≠ id := fun c hc e => hid (e ▸ h.cused c hc)
  have ft : ∀ t ∈ s.tasks, t.id ≠ id := fun t ht e => hid (e ▸ h.tused t ht)
  have wc : ∀ c ∈ s.ckpts, c.walId ≠ s.wal.id := fun c hc => Nat.ne_of_lt (h.wltc c hc)
  have wt : ∀ t ∈ s.tasks, t.walId ≠ s.wal.id := fun t ht => Nat.ne_of_lt (h.wltt t ht)
  have wp : ∀ p ∈ s.pending, p.walId ≠ s.wal.id := fun p hp => Nat.ne_of_lt (h.wltp p hp)
  exact
  { live := h.live
    ck := forall_mem_snoc.mpr ⟨h.ck, h.live⟩
    idinj := forall₂_mem_snoc h.idinj (fun c hc e => absurd e (fc c hc)) (fun c hc e => absurd e.symm (fc c hc))
      (fun _ => rfl)
    cused := forall_mem_snoc.mpr ⟨fun c hc => List.mem_cons_of_mem _ (h.cused c hc), List.mem_cons_self⟩
    tused := forall_mem_snoc.mpr ⟨fun t ht => List.mem_cons_of_mem _ (h.tused t ht), List.mem_cons_self⟩
    dused := fun i hi => List.mem_cons_of_mem _ (h.dused i hi)
    tinj := forall₂_mem_snoc h.tinj (fun t ht e => absurd e (ft t ht)) (fun t ht e => absurd e.symm (ft t ht))
      (fun _ => ⟨rfl, rfl⟩)
    wltc := forall_mem_snoc.mpr ⟨fun c hc => Nat.lt_succ_of_lt (h.wltc c hc), Nat.lt_succ_self _⟩
    wltp := fun p hp => Nat.lt_succ_of_lt (h.wltp p hp)
    wltt := forall_mem_snoc.mpr ⟨fun t ht => Nat.lt_succ_of_lt (h.wltt t ht), Nat.lt_succ_self _⟩
    winj := forall₂_mem_snoc h.winj (fun c hc e => absurd e (wc c hc)) (fun c hc e => absurd e.symm (wc c hc))
      (fun _ => rfl)
    wdisj := forall_mem_snoc.mpr ⟨h.wdisj, fun p hp e => wp p hp e.symm⟩
    t1 := forall₂_mem_snoc h.t1 (fun t ht e => absurd e.symm (wt t ht)) (fun c hc e => absurd e (wc c hc))
      (fun _ => rfl)
    t3 := forall₂_mem_snoc h.t3 (fun t ht e => absurd e.symm (ft t ht)) (fun c hc e => absurd e (fc c hc))
      (fun _ => rfl)
    t2 := forall_mem_snoc.mpr ⟨fun t ht hs => forall_mem_snoc.mpr ⟨h.t2 t ht hs, fun e => absurd e.symm (wt t ht)⟩,
      fun hs => absurd hs Bool.false_ne_true⟩
    dn := forall_mem_snoc.mpr ⟨h.dn, fun hd => absurd (h.dused _ hd) hid⟩ }

theorem mem_markSaved {tasks : List Task} {id : Nat} {t' : Task}
    (h : t' ∈ tasks.map (fun t' => if t'.id == id then { t' with walSaved := true } else t')) :
    ∃ t0 ∈ tasks, t'.id = t0.id ∧ t'.walId = t0.walId ∧ t'.recs = t0.recs ∧
      (t'.walSaved = true → t0.walSaved = true ∨ t0.id = id) := by
  obtain ⟨t0, h0, rfl⟩ := List.mem_map.1 h
  refine ⟨t0, h0, ?_⟩
  split
  · rename_i hb; exact ⟨rfl, rfl, rfl, fun _ => Or.inr (by simpa using hb)⟩
  · exact ⟨rfl, rfl, rfl, fun h => Or.inl h⟩

theorem walOk_cons {f : Files} {c : Ckpt} {k : Nat} {r : List Wal.Rec}
    (hk : c.walId = k → c.recs = r) (hold : c.walId ≠ k → WalOk f c) :
    WalOk { f with wals := (k, r) :: f.wals } c := by
  show assoc ((k, r) :: f.wals) c.walId = some c.recs
  by_cases e : k = c.walId
  · subst e; rw [assoc_cons_eq, hk rfl]
  · rw [assoc_cons_ne _ _ e]; exact hold (fun e' => e e'.symm)

/-- by `t1` the file written is right for every listed checkpoint with that WAL id -/
theorem finv_saveWal {s : State} {id : Nat} {t : Task} (h : FInv s) (htm : t ∈ s.tasks) (hti : t.id = id) :
    FInv { s with files := { s.files with wals := (t.walId, t.recs) :: s.files.wals },
                  tasks := s.tasks.map (fun t' => if t'.id == id then { t' with walSaved := true } else t') } := by
  have wal_keep : ∀ c ∈ s.ckpts, (c.walId ≠ t.walId → WalOk s.files c) →
      WalOk { s.files with wals := (t.walId, t.recs) :: s.files.wals } c :=
    fun c hcm hold => walOk_cons (h.t1 t htm c hcm) hold
  exact
  { live := h.live, ck := h.ck, idinj := h.idinj, cused := h.cused
    tused := fun a ha => by
      obtain ⟨a0, ha0, a1, _⟩ := mem_markSaved ha
      rw [a1]; exact h.tused a0 ha0
    dused := h.dused
    tinj := fun a ha b hb e => by
      obtain ⟨a0, ha0, a1, a2, a3, _⟩ := mem_markSaved ha
      obtain ⟨b0, hb0, b1, b2, b3, _⟩ := mem_markSaved hb
      rw [a2, a3, b2, b3]
      exact h.tinj a0 ha0 b0 hb0 (by rw [← a1, ← b1]; exact e)
    wltc := h.wltc, wltp := h.wltp
    wltt := fun a ha => by
      obtain ⟨a0, ha0, _, a2, _⟩ := mem_markSaved ha
      rw [a2]; exact h.wltt a0 ha0
    winj := h.winj, wdisj := h.wdisj
    t1 := fun a ha c hcm e => by
      obtain ⟨a0, ha0, _, a2, a3, _⟩ := mem_markSaved ha
      rw [a3]; rw [a2] at e; exact h.t1 a0 ha0 c hcm e
    t3 := fun a ha c hcm e => by
      obtain ⟨a0, ha0, a1, a2, _⟩ := mem_markSaved ha
      rw [a2]; rw [a1] at e; exact h.t3 a0 ha0 c hcm e
    t2 := fun a ha hs c hcm e => by
      obtain ⟨a0, ha0, _, a2, _, a4⟩ := mem_markSaved ha
      apply wal_keep c hcm
      intro hne
      rcases a4 hs with hs0 | hid0
      · exact h.t2 a0 ha0 hs0 c hcm (by rw [← a2]; exact e)
      · -- marked by this step: it has the id of `t`, hence (`tinj`) its WAL id, the file just written
        exfalso; apply hne
        have := (h.tinj a0 ha0 t htm (by rw [hid0, hti])).1
        rw [e, a2, this]
    dn := fun c hcm hdm => ⟨wal_keep c hcm (fun _ => (h.dn c hcm hdm).1), (h.dn c hcm hdm).2⟩ }

theorem find?_map_doc (cs : List Ckpt) (hinj : ∀ c ∈ cs, ∀ c' ∈ cs, c.id = c'.id → c = c') (c : Ckpt) (hc : c ∈ cs) :
    (cs.map Ckpt.doc).find? (fun cd => cd.id == c.id) = some c.doc := by
  rw [List.find?_map]
  cases h : cs.find? ((fun cd => cd.id == c.id) ∘ Ckpt.doc) with
  | none => exact absurd (beq_self_eq_true c.id) (List.find?_eq_none.mp h c hc)
  | some c' =>
    have hid := List.find?_some h
    rw [hinj c' (List.mem_of_find?_eq_some h) c hc (beq_iff_eq.mp hid)]
    rfl

theorem docOk_writeDoc {s : State} (hinj : ∀ c ∈ s.ckpts, ∀ c' ∈ s.ckpts, c.id = c'.id → c = c')
    (c : Ckpt) (hc : c ∈ s.ckpts) : DocOk (writeDoc s).files c :=
  ⟨s.ckpts.map Ckpt.doc, rfl, find?_map_doc s.ckpts hinj c hc⟩

theorem finv_writeDoc {s : State} (h : FInv s) : FInv (writeDoc s) :=
  { live := h.live, ck := h.ck, idinj := h.idinj, cused := h.cused, tused := h.tused, dused := h.dused
    tinj := h.tinj, wltc := h.wltc, wltp := h.wltp, wltt := h.wltt, winj := h.winj, wdisj := h.wdisj
    t1 := h.t1, t3 := h.t3, t2 := h.t2
    dn := fun c hc hd => ⟨(h.dn c hc hd).1, docOk_writeDoc h.idinj c hc⟩ }

/-- by `wdisj` no listed checkpoint has the deleted file's WAL id -/
theorem finv_destroy {s : State} {p : Ckpt} {ps : List Ckpt} (h : FInv s) (hp : s.pending = p :: ps) :
    FInv { s with files := { s.files with wals := s.files.wals.filter (fun q => !([p.walId]).contains q.1) },
                  pending := ps } := by
  have hmem : ∀ q ∈ ps, q ∈ s.pending := fun q hq => hp ▸ List.mem_cons_of_mem _ hq
  have hpm : p ∈ s.pending := hp ▸ List.mem_cons_self
  have keep : ∀ c ∈ s.ckpts, WalOk s.files c →
      assoc (s.files.wals.filter (fun q => !([p.walId]).contains q.1)) c.walId = some c.recs := by
    intro c hc hw
    rw [assoc_filter]
    · exact hw
    · intro hm; exact h.wdisj c hc p hpm (List.mem_singleton.1 hm)
  exact
  { live := h.live, ck := h.ck, idinj := h.idinj, cused := h.cused, tused := h.tused, dused := h.dused
    tinj := h.tinj, wltc := h.wltc
    wltp := fun q hq => h.wltp q (hmem q hq)
    wltt := h.wltt, winj := h.winj
    wdisj := fun c hc q hq => h.wdisj c hc q (hmem q hq)
    t1 := h.t1, t3 := h.t3
    t2 := fun t ht hst c hc e => keep c hc (h.t2 t ht hst c hc e)
    dn := fun c hc hd => ⟨keep c hc (h.dn c hc hd).1, (h.dn c hc hd).2⟩ }

theorem finv_taskDone {s : State} {id : Nat} {t : Task} (h : FInv s) (htm : t ∈ s.tasks)
    (hti : t.id = id) (hts : t.walSaved = true) (hdoc : ∀ c ∈ s.ckpts, DocOk s.files c) :
    FInv { s with tasks := s.tasks.filter (fun t => !(t.id == id)), done := id :: s.done } := by
  have memt : ∀ a, a ∈ s.tasks.filter (fun t => !(t.id == id)) → a ∈ s.tasks :=
    fun a ha => (List.mem_filter.1 ha).1
  exact
  { live := h.live, ck := h.ck, idinj := h.idinj, cused := h.cused
    tused := fun a ha => h.tused a (memt a ha)
    dused := fun i hi => by
      rcases List.mem_cons.1 hi with e | hi
      · rw [e, ← hti]; exact h.tused t htm
      · exact h.dused i hi
    tinj := fun a ha b hb e => h.tinj a (memt a ha) b (memt b hb) e
    wltc := h.wltc, wltp := h.wltp
    wltt := fun a ha => h.wltt a (memt a ha)
    winj := h.winj, wdisj := h.wdisj
    t1 := fun a ha => h.t1 a (memt a ha)
    t3 := fun a ha => h.t3 a (memt a ha)
    t2 := fun a ha => h.t2 a (memt a ha)
    dn := fun c hcm hdm => by
      rcases List.mem_cons.1 hdm with e | hdm
      · exact ⟨h.t2 t htm hts c hcm (h.t3 t htm c hcm (by rw [e, hti])), hdoc c hcm⟩
      · exact h.dn c hcm hdm }

/-- `wdisj` between a kept and a dropped record comes from `winj` -/
theorem finv_retain {s : State} (ids : List Nat) (h : FInv s) :
    FInv { s with ckpts := s.ckpts.filter (fun c => keeps ids c.id),
                  pending := s.pending ++ s.ckpts.filter (fun c => !keeps ids c.id) } := by
  have memc : ∀ c, c ∈ s.ckpts.filter (fun c => keeps ids c.id) → c ∈ s.ckpts ∧ keeps ids c.id = true :=
    fun c hc => List.mem_filter.1 hc
  have memp : ∀ p, p ∈ s.pending ++ s.ckpts.filter (fun c => !keeps ids c.id) →
      p ∈ s.pending ∨ (p ∈ s.ckpts ∧ keeps ids p.id = false) := by
    intro p hp
    rcases List.mem_append.1 hp with h' | h'
    · exact Or.inl h'
    · obtain ⟨a, b⟩ := List.mem_filter.1 h'
      exact Or.inr ⟨a, by simpa using b⟩
  exact
  { live := h.live
    ck := fun c hc => h.ck c (memc c hc).1
    idinj := fun a ha b hb e => h.idinj a (memc a ha).1 b (memc b hb).1 e
    cused := fun c hc => h.cused c (memc c hc).1
    tused := h.tused, dused := h.dused, tinj := h.tinj
    wltc := fun c hc => h.wltc c (memc c hc).1
    wltp := fun p hp => by
      rcases memp p hp with h' | ⟨h', _⟩
      · exact h.wltp p h'
      · exact h.wltc p h'
    wltt := h.wltt
    winj := fun a ha b hb e => h.winj a (memc a ha).1 b (memc b hb).1 e
    wdisj := fun c h1 p h2 e => by
      obtain ⟨c1, c2⟩ := memc c h1
      rcases memp p h2 with h2 | ⟨p1, p2⟩
      · exact h.wdisj c c1 p h2 e
      · rw [h.winj c c1 p p1 e, p2] at c2
        cases c2
    t1 := fun t htm c hc => h.t1 t htm c (memc c hc).1
    t3 := fun t htm c hc => h.t3 t htm c (memc c hc).1
    t2 := fun t htm hs c hc => h.t2 t htm hs c (memc c hc).1
    dn := fun c hc => h.dn c (memc c hc).1 }

theorem finv_orphan {s : State} {id : Nat} (run : Run) (h : FInv s) (hge : s.db.nextId ≤ id) :
    FInv { s with files := { s.files with tables := (id, run) :: s.files.tables } } := by
  have keep : ∀ lv, TablesOk s.files s.db.nextId lv →
      TablesOk { s.files with tables := (id, run) :: s.files.tables } s.db.nextId lv := by
    intro lv hlv t ht
    obtain ⟨a, b⟩ := hlv t ht
    refine ⟨a, ?_⟩
    show assoc ((id, run) :: s.files.tables) t.id = some t.run
    rw [assoc_cons_ne _ _ (Nat.ne_of_gt (Nat.lt_of_lt_of_le a hge))]; exact b
  exact
  { live := keep _ h.live
    ck := fun c hc => keep _ (h.ck c hc)
    idinj := h.idinj, cused := h.cused, tused := h.tused, dused := h.dused, tinj := h.tinj, wltc := h.wltc
    wltp := h.wltp, wltt := h.wltt, winj := h.winj, wdisj := h.wdisj, t1 := h.t1, t3 := h.t3, t2 := h.t2
    dn := h.dn }

theorem loadTables_cons (tables : List (Nat × Run)) (i : Nat) (is : List Nat) :
    loadTables tables (i :: is) = match assoc tables i, loadTables tables is with
      | some r, some ts => some (⟨i, r⟩ :: ts)
      | _, _ => none := rfl

theorem loadLevels_cons (tables : List (Nat × Run)) (l : List Nat) (ls : List (List Nat)) :
    loadLevels tables (l :: ls) = match loadTables tables l, loadLevels tables ls with
      | some ts, some lv => some (ts :: lv)
      | _, _ => none := rfl

theorem loadTables_some {tables : List (Nat × Run)} : ∀ (ids : List Nat) (ts : List Tbl),
    loadTables tables ids = some ts →
    (∀ t ∈ ts, assoc tables t.id = some t.run) ∧ ts.map (·.id) = ids := by
  intro ids
  induction ids with
  | nil => intro ts h; cases h; exact ⟨fun t ht => (by cases ht), rfl⟩
  | cons i is ih =>
    intro ts h
    rw [loadTables_cons] at h
    split at h
    · rename_i r ts' hr hts
      cases h
      obtain ⟨h1, h2⟩ := ih ts' hts
      refine ⟨?_, by rw [List.map_cons, h2]⟩
      intro t ht
      rcases List.mem_cons.1 ht with rfl | ht
      · exact hr
      · exact h1 t ht
    · cases h

theorem loadLevels_some {tables : List (Nat × Run)} : ∀ (ids : List (List Nat)) (lv : List (List Tbl)),
    loadLevels tables ids = some lv →
    (∀ t ∈ lv.flatten, assoc tables t.id = some t.run) ∧ lv.map (·.map (·.id)) = ids := by
  intro ids
  induction ids with
  | nil => intro lv h; cases h; exact ⟨fun t ht => (by cases ht), rfl⟩
  | cons l ls ih =>
    intro lv h
    rw [loadLevels_cons] at h
    split at h
    · rename_i ts lv' hts hlv
      cases h
      obtain ⟨h1, h2⟩ := ih lv' hlv
      obtain ⟨g1, g2⟩ := loadTables_some l ts hts
      refine ⟨?_, by rw [List.map_cons, h2, g2]⟩
      intro t ht
      rw [List.flatten_cons, List.mem_append] at ht
      rcases ht with ht | ht
      · exact g1 t ht
      · exact h1 t ht
    · cases h

theorem loadTables_of (tables : List (Nat × Run)) : ∀ ts : List Tbl,
    (∀ t ∈ ts, assoc tables t.id = some t.run) → loadTables tables (ts.map (·.id)) = some ts := by
  intro ts
  induction ts with
  | nil => intro _; rfl
  | cons t ts ih =>
    intro h
    rw [List.map_cons, loadTables_cons, h t List.mem_cons_self, ih (fun a ha => h a (List.mem_cons_of_mem _ ha))]

theorem loadLevels_of (tables : List (Nat × Run)) : ∀ lv : List (List Tbl),
    (∀ t ∈ lv.flatten, assoc tables t.id = some t.run) →
    loadLevels tables (lv.map (·.map (·.id))) = some lv := by
  intro lv
  induction lv with
  | nil => intro _; rfl
  | cons l ls ih =>
    intro h
    rw [List.map_cons, loadLevels_cons, loadTables_of tables l (fun t ht => h t (by rw [List.flatten_cons]; exact List.mem_append_left _ ht)),
      ih (fun t ht => h t (by rw [List.flatten_cons]; exact List.mem_append_right _ ht))]

theorem loadCkpt_some {f : Files} {id : Nat} {c : Ckpt} (h : loadCkpt f id = some c) :
    c.id = id ∧ (∀ t ∈ c.levels.flatten, assoc f.tables t.id = some t.run) ∧ WalOk f c ∧ DocOk f c := by
  unfold loadCkpt at h
  split at h
  · cases h
  · rename_i d hd
    split at h
    · cases h
    · rename_i cd hcd
      split at h
      · rename_i lv recs hlv hrecs
        cases h
        have hid : cd.id = id := by
          have := List.find?_some hcd
          simpa using this
        obtain ⟨hl1, hl2⟩ := loadLevels_some _ _ hlv
        refine ⟨hid, hl1, hrecs, d, hd, ?_⟩
        have e : (⟨cd.id, lv.map (·.map (·.id)), cd.walId, cd.after, cd.lastSeq⟩ : CkptDoc) = cd := by
          rw [hl2]
        show d.find? (fun cd' => cd'.id == cd.id) = some ⟨cd.id, lv.map (·.map (·.id)), cd.walId, cd.after, cd.lastSeq⟩
        rw [e, hid, hcd]
      · cases h

theorem finv_restoreBase {f : Files} {id : Nat} {c : Ckpt} (h : loadCkpt f id = some c) :
    FInv (restoreBase f c) := by
  obtain ⟨_, htab, hwal, hdoc⟩ := loadCkpt_some h
  have live : TablesOk f (tablesNextId c.levels.flatten) c.levels :=
    fun t ht => ⟨lt_tablesNextId _ t ht, htab t ht⟩
  have of_singleton : ∀ a, a ∈ [c] → a = c := fun a ha => List.mem_singleton.1 ha
  exact
  { live := live
    ck := fun a ha => by rw [of_singleton a ha]; exact live
    idinj := fun a ha b hb _ => (of_singleton a ha).trans (of_singleton b hb).symm
    cused := fun a ha => by rw [of_singleton a ha]; exact List.mem_cons_self
    tused := List.forall_mem_nil _, dused := fun i hi => hi, tinj := List.forall_mem_nil _
    wltc := fun a ha => by rw [of_singleton a ha]; exact Nat.lt_succ_self c.walId
    wltp := List.forall_mem_nil _, wltt := List.forall_mem_nil _
    winj := fun a ha b hb _ => by rw [of_singleton a ha, of_singleton b hb]
    wdisj := fun _ _ => List.forall_mem_nil _
    t1 := List.forall_mem_nil _, t3 := List.forall_mem_nil _, t2 := List.forall_mem_nil _
    dn := fun a ha _ => by rw [of_singleton a ha]; exact ⟨hwal, hdoc⟩ }

/-- no `FInv s` is needed: everything is rebuilt from the files -/
theorem finv_open (s s' : State) (id : Nat) (rots : List Nat) (hs : step s (.open id rots) = some s') :
    FInv s' := by
  obtain ⟨c, hc, hr⟩ := step_open.mp hs
  obtain ⟨recs, _, hrep⟩ := restore_some.mp hr
  exact finv_frame (replay_frame _ _ _ _ hrep) (finv_restoreBase hc)

theorem finv_step (s s' : State) (a : Act) (h : FInv s) (hs : step s a = some s') : FInv s' := by
  cases a with
  | write del k v rot => exact finv_frame (writeStep_frame (step_write.mp hs).2.2) h
  | flushBegin n =>
    obtain ⟨db', hdb, rfl⟩ := step_flushBegin hs
    rw [lsm_flushBegin hdb]
    exact finv_frame (Frame.db_wal s _ s.wal rfl rfl rfl) h
  | flushCommit =>
    obtain ⟨snap, db', hfl, hdb, rfl⟩ := step_flushCommit hs
    obtain ⟨_, _, rfl⟩ := lsm_flushCommit hfl hdb
    exact finv_tables snap h _ _ _ rfl (fun t ht => mem_addAt _ _ _ _ ht) rfl
  | compact rm lvl add =>
    obtain ⟨db', hdb, rfl⟩ := step_compact hs
    obtain ⟨_, rfl⟩ := lsm_compact hdb
    refine finv_tables add h _ _ _ rfl (fun t ht => ?_) rfl
    exact (mem_addAt _ _ _ _ ht).imp_left (mem_removeIds _ _ _)
  | checkpoint id =>
    obtain ⟨_, hid, rfl⟩ := step_checkpoint hs
    exact finv_checkpoint id h hid
  | saveWal id =>
    obtain ⟨t, htm, hti, rfl⟩ := step_saveWal hs
    exact finv_saveWal h htm hti
  | saveDoc id =>
    obtain ⟨t, htm, hti, hts, rfl⟩ := step_saveDoc hs
    exact finv_taskDone (s := writeDoc s) (finv_writeDoc h) htm hti hts (docOk_writeDoc h.idinj)
  | retain ids => rw [step_retain hs]; exact finv_retain ids h
  | saveList => rw [step_saveList hs]; exact finv_writeDoc h
  | destroy =>
    obtain ⟨p, ps, hp, rfl⟩ := step_destroy hs
    exact finv_destroy h hp
  | orphan id run =>
    obtain ⟨hge, rfl⟩ := step_orphan hs
    exact finv_orphan run h hge
  | crash =>
    rw [step_crash hs]
    exact finv_frame (Frame.alive s false) h
  | «open» id rots => exact finv_open s s' id rots hs
  | openBegin id =>
    obtain ⟨c, recs, hc, _, rfl⟩ := step_openBegin hs
    exact finv_frame (Frame.replaying _ recs) (finv_restoreBase hc)
  | replayOne rot =>
    obtain ⟨_, r, rs, s1, _, h1, rfl⟩ := step_replayOne.mp hs
    exact finv_frame ((writeStep_frame h1).trans (Frame.replaying s1 rs)) h

theorem finv_run (as : List Act) (s s' : State) (h : FInv s) (hr : run s as = some s') : FInv s' :=
  run_induct finv_step as s s' h hr

/-- the histories of the C08 statements have this shape, `… Checkpoint(id) …` -/
theorem finv_after {s₁ s₂ s : State} {as₁ as₂ : List Act} {a : Act} (h1 : run {} as₁ = some s₁)
    (hc : step s₁ a = some s₂) (h2 : run s₂ as₂ = some s) : FInv s :=
  finv_run as₂ s₂ s (finv_step s₁ s₂ a (finv_run as₁ {} s₁ finv_init h1) hc) h2

theorem load_of_done (s : State) (h : FInv s) (c : Ckpt) (hc : c ∈ s.ckpts) (hd : c.id ∈ s.done) :
    loadCkpt s.files c.id = some c := by
  obtain ⟨hw, d, hdoc, hfind⟩ := h.dn c hc hd
  have hl := loadLevels_of s.files.tables c.levels (fun t ht => (h.ck c hc t ht).2)
  have hw' : assoc s.files.wals c.walId = some c.recs := hw
  unfold loadCkpt
  rw [hdoc]
  simp only []
  rw [hfind]
  simp only [Ckpt.doc, hl, hw']

/-- the task carries the WAL id and the log of the listed record with its id (`t3`, `t1`) -/
theorem saveWal_file {s s' : State} (hf : FInv s) {c : Ckpt} (hc : c ∈ s.ckpts)
    (hs : step s (.saveWal c.id) = some s') : assoc s'.files.wals c.walId = some c.recs := by
  obtain ⟨t, htm, hti, rfl⟩ := step_saveWal hs
  exact walOk_cons (hf.t1 t htm c hc) (absurd (hf.t3 t htm c hc hti.symm))

theorem retainedDone_iff (s : State) (id : Nat) :
    retainedDone s id = true ↔ id ∈ s.done ∧ ∃ c ∈ s.ckpts, c.id = id := by
  simp [retainedDone]

theorem loaded_listed {s : State} (h : FInv s) {id : Nat} (hr : retainedDone s id = true) {c : Ckpt}
    (hc : loadCkpt s.files id = some c) : c ∈ s.ckpts ∧ c.id = id := by
  obtain ⟨hd, c', hc', rfl⟩ := (retainedDone_iff s id).mp hr
  cases (load_of_done s h c' hc' hd).symm.trans hc
  exact ⟨hc', rfl⟩

end Rxn.Ckpt
