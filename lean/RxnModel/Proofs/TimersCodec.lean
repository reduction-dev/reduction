import RxnModel.Base.BytesOrder
import RxnModel.Model.Timers
/-! Timer key codec: `timerFromBytes ∘ encodeTimerKey = id` (0 ≤ t < 2^63); a key carries the prefix of exactly one key group. -/
namespace Rxn.Timers
open Rxn Rxn.Bytes

theorem u16be_length (n : Nat) : (Bytes.u16be n).length = 2 := Bytes.u16be_length n

theorem kgPrefix_length (g : Nat) : (kgPrefix g).length = 3 := rfl

theorem take2_kgPrefix (g : Nat) (hg : g < 65536) (s : Bytes) : Bytes.beNat ((kgPrefix g ++ s).take 2) = g := by
  rw [kgPrefix, List.append_assoc]
  exact beNat_take2_u16be g hg _

theorem kgPrefix_inj {x : Bytes} {g g' : Nat} (hg : g < 65536) (hg' : g' < 65536)
    (h : Bytes.hasPrefix x (kgPrefix g) = true) (h' : Bytes.hasPrefix x (kgPrefix g') = true) : g = g' := by
  obtain ⟨t, e⟩ := Bytes.hasPrefix_iff.mp h
  obtain ⟨t', e'⟩ := Bytes.hasPrefix_iff.mp h'
  have a := take2_kgPrefix g hg t
  have a' := take2_kgPrefix g' hg' t'
  rw [← e] at a
  rw [← e'] at a'
  exact a.symm.trans a'

theorem timerKey_eq (kgc : Nat) (subj : Bytes) (n : Nat) :
    Keys.timerKey kgc subj n = kgPrefix (KeySpace.keyGroup kgc subj) ++ (Bytes.u64be n ++ subj) := by
  simp [Keys.timerKey, kgPrefix]

theorem timerKey_prefix (kgc : Nat) (subj : Bytes) (n : Nat) :
    Bytes.hasPrefix (Keys.timerKey kgc subj n) (kgPrefix (KeySpace.keyGroup kgc subj)) = true := by
  rw [timerKey_eq]; exact Bytes.hasPrefix_append _ _

theorem tsBytes_timerKey (kgc : Nat) (subj : Bytes) (n : Nat) : tsBytes (Keys.timerKey kgc subj n) = Bytes.u64be n := by
  rw [timerKey_eq, tsBytes, List.drop_left' (kgPrefix_length _), List.take_left' (u64be_length n)]

theorem encTs_of_nonneg (t : Int) (h0 : 0 ≤ t) (h1 : t < 9223372036854775808) : (encTs t : Int) = t ∧ encTs t < 9223372036854775808 := by
  unfold encTs
  have : t % 18446744073709551616 = t := Int.emod_eq_of_lt h0 (by omega)
  rw [this]
  omega

theorem beNat_encTs (t : Int) (h0 : 0 ≤ t) (h1 : t < 9223372036854775808) :
    Bytes.beNat (Bytes.u64be (encTs t)) = encTs t := by
  have := (encTs_of_nonneg t h0 h1).2
  rw [beNat_u64be, Nat.mod_eq_of_lt (by omega)]

theorem timerOf_timerKey (kgc : Nat) (subj : Bytes) (t : Int) (h0 : 0 ≤ t) (h1 : t < 9223372036854775808) :
    timerOf (Keys.timerKey kgc subj (encTs t)) = (subj, t) := by
  obtain ⟨e1, e2⟩ := encTs_of_nonneg t h0 h1
  have hdrop : (Keys.timerKey kgc subj (encTs t)).drop 11 = subj := by
    rw [timerKey_eq, ← List.append_assoc]
    exact List.drop_left' (by rw [List.length_append, kgPrefix_length, u64be_length])
  have hdec : decTs (Bytes.u64be (encTs t)) = t := by
    unfold decTs
    rw [beNat_encTs t h0 h1]
    simp only [e2, if_true]
    exact e1
  rw [timerOf, tsBytes_timerKey, hdrop, hdec]

/-- a well-formed timer key of this key space: the encoding of its own decoding, timestamp in `[0, 2^63)` -/
def WF (kgc : Nat) (k : Bytes) : Prop :=
  k = Keys.timerKey kgc (timerOf k).1 (encTs (timerOf k).2) ∧ 0 ≤ (timerOf k).2 ∧ (timerOf k).2 < 9223372036854775808

theorem wf_timerKey (kgc : Nat) (subj : Bytes) (t : Int) (h0 : 0 ≤ t) (h1 : t < 9223372036854775808) :
    WF kgc (Keys.timerKey kgc subj (encTs t)) := by
  unfold WF
  rw [timerOf_timerKey kgc subj t h0 h1]
  exact ⟨rfl, h0, h1⟩

theorem wf_inj {kgc : Nat} {a b : Bytes} (ha : WF kgc a) (hb : WF kgc b) (h : timerOf a = timerOf b) : a = b := by
  rw [ha.1, hb.1, h]

theorem WF.tsBytes_eq {kgc : Nat} {k : Bytes} (h : WF kgc k) : tsBytes k = Bytes.u64be (encTs (timerOf k).2) := by
  have := tsBytes_timerKey kgc (timerOf k).1 (encTs (timerOf k).2)
  rw [← h.1] at this; exact this

theorem WF.hasPrefix {kgc : Nat} {k : Bytes} (h : WF kgc k) :
    Bytes.hasPrefix k (kgPrefix (KeySpace.keyGroup kgc (timerOf k).1)) = true := by
  have := timerKey_prefix kgc (timerOf k).1 (encTs (timerOf k).2)
  rw [← h.1] at this; exact this

theorem wf_prefix_iff {kgc : Nat} {k : Bytes} (hk : WF kgc k) (hk0 : 0 < kgc) (hk1 : kgc ≤ 65536) (g : Nat) (hg : g < 65536) :
    Bytes.hasPrefix k (kgPrefix g) = true ↔ g = KeySpace.keyGroup kgc (timerOf k).1 := by
  have hkg : KeySpace.keyGroup kgc (timerOf k).1 < 65536 := Nat.lt_of_lt_of_le (Nat.mod_lt _ hk0) hk1
  exact ⟨fun h => kgPrefix_inj hg hkg h hk.hasPrefix, fun h => h ▸ hk.hasPrefix⟩

end Rxn.Timers
