import RxnModel.Model.Splits
import RxnModel.Proofs.Lists
/-!
`sliceu.Partition`, the embedded splitter and the httpapi cursor; then the runner loop of `Model/Splits.lean` (C16) with its two
invariants, each kept by every step: `RInv` (reports match the barrier cut) and `FInv` (a split the reader has dropped emits
nothing more); the Kinesis reader is reduced to the loop by showing that its histories are histories of the loop.
-/
namespace Rxn.Splits

theorem addAt_zero {α : Type} (g : List α) (gs : List (List α)) (x : α) : addAt (g :: gs) 0 x = (g ++ [x]) :: gs := rfl

theorem addAt_succ {α : Type} (g : List α) (gs : List (List α)) (i : Nat) (x : α) :
    addAt (g :: gs) (i + 1) x = g :: addAt gs i x := rfl

theorem length_addAt {α : Type} (gs : List (List α)) (i : Nat) (x : α) : (addAt gs i x).length = gs.length := by
  induction gs generalizing i with
  | nil => rfl
  | cons g gs ih => cases i <;> simp [addAt_zero, addAt_succ, ih]

theorem flatten_addAt {α : Type} (gs : List (List α)) (i : Nat) (x : α) (h : i < gs.length) :
    (addAt gs i x).flatten.Perm (x :: gs.flatten) := by
  induction gs generalizing i with
  | nil => simp at h
  | cons g gs ih =>
    cases i with
    | zero =>
      simp only [addAt_zero, List.flatten_cons, List.append_assoc, List.singleton_append]
      exact List.perm_middle
    | succ i =>
      simp only [addAt_succ, List.flatten_cons]
      exact ((ih i (Nat.lt_of_succ_lt_succ h)).append_left g).trans List.perm_middle

theorem bump_lt {n : Nat} (gi : Nat) (hn : 0 < n) : bump n gi < n := by
  unfold bump; split <;> omega

theorem partLoop_nil {α : Type} (n : Nat) (gs : List (List α)) (gi : Nat) : partLoop n [] gs gi = gs := rfl

theorem partLoop_cons {α : Type} (n : Nat) (x : α) (xs : List α) (gs : List (List α)) (gi : Nat) :
    partLoop n (x :: xs) gs gi = partLoop n xs (addAt gs gi x) (bump n gi) := rfl

theorem partLoop_spec {α : Type} (n : Nat) (hn : 0 < n) (xs : List α) (gs : List (List α)) (gi : Nat)
    (hl : gs.length = n) (hgi : gi < n) :
    (partLoop n xs gs gi).length = n ∧ (partLoop n xs gs gi).flatten.Perm (gs.flatten ++ xs) := by
  induction xs generalizing gs gi with
  | nil => simp [partLoop_nil, hl]
  | cons x xs ih =>
    obtain ⟨h1, h2⟩ := ih (addAt gs gi x) (bump n gi) ((length_addAt gs gi x).trans hl) (bump_lt gi hn)
    refine ⟨h1, ?_⟩
    rw [partLoop_cons]
    refine h2.trans ?_
    exact ((flatten_addAt gs gi x (hl ▸ hgi)).append_right xs).trans List.perm_middle.symm

theorem flatten_replicate_nil {α : Type} (n : Nat) : (List.replicate n ([] : List α)).flatten = [] :=
  List.flatten_replicate_nil

theorem partition_spec {α : Type} (xs : List α) (n : Nat) (hn : 0 < n) :
    (partition xs n).length = n ∧ (partition xs n).flatten.Perm xs := by
  obtain ⟨h1, h2⟩ := partLoop_spec n hn xs (List.replicate n []) 0 List.length_replicate hn
  rw [flatten_replicate_nil] at h2
  exact ⟨h1, h2⟩

theorem flatten_nodup_unique {α : Type} (L : List (List α)) (h : L.flatten.Nodup) (x : α) (r r' : Nat)
    (g g' : List α) (hr : L[r]? = some g) (hr' : L[r']? = some g') (hx : x ∈ g) (hx' : x ∈ g') : r = r' := by
  -- core: the groups of a duplicate-free concatenation are pairwise disjoint, an earlier from a later one
  have hdis := List.pairwise_iff_getElem.mp (List.pairwise_flatten.mp h).2
  have clash : ∀ (a b : Nat) (ga gb : List α), L[a]? = some ga → L[b]? = some gb → x ∈ ga → x ∈ gb →
      ¬ a < b := by
    intro a b ga gb ha hb hxa hxb hlt
    obtain ⟨la, rfl⟩ := List.getElem?_eq_some_iff.mp ha
    obtain ⟨lb, rfl⟩ := List.getElem?_eq_some_iff.mp hb
    exact hdis a b la lb hlt x hxa x hxb rfl
  exact Nat.le_antisymm (Nat.le_of_not_lt (clash r' r g' g hr' hr hx' hx))
    (Nat.le_of_not_lt (clash r r' g g' hr hr' hx hx'))

theorem partition_one_group {α : Type} (xs : List α) (n : Nat) (hn : 0 < n) (hx : xs.Nodup) :
    (∀ x ∈ xs, ∃ r g, r < n ∧ (partition xs n)[r]? = some g ∧ x ∈ g ∧ g.Nodup ∧
      ∀ (r' : Nat) (g' : List α), (partition xs n)[r']? = some g' → x ∈ g' → r' = r) ∧
    (∀ (r : Nat) (g : List α), (partition xs n)[r]? = some g → ∀ y ∈ g, y ∈ xs) := by
  obtain ⟨hlen, hperm⟩ := partition_spec xs n hn
  have hnd : (partition xs n).flatten.Nodup := hperm.nodup_iff.mpr hx
  constructor
  · intro x hxm
    obtain ⟨g, hg, hxg⟩ := List.mem_flatten.mp (hperm.mem_iff.mpr hxm)
    obtain ⟨r, hr⟩ := List.mem_iff_getElem?.mp hg
    refine ⟨r, g, hlen ▸ (List.getElem?_eq_some_iff.mp hr).1, hr, hxg, (List.sublist_flatten_of_mem hg).nodup hnd, ?_⟩
    intro r' g' hr' hxg'
    exact flatten_nodup_unique _ hnd x r' r g' g hr' hr hxg' hxg
  · intro r g hr y hy
    exact hperm.mem_iff.mp (List.mem_flatten.mpr ⟨g, List.mem_iff_getElem?.mpr ⟨r, hr⟩, hy⟩)

theorem httpCursor_append_nonempty {α : Type} (pre : List (List α)) (d : List α) (hd : d ≠ []) :
    httpCursor (pre ++ [d]) = d := by
  unfold httpCursor
  rw [List.foldl_append]
  simp only [List.foldl_cons, List.foldl_nil]
  have : d.isEmpty = false := by
    cases d with
    | nil => exact absurd rfl hd
    | cons _ _ => rfl
  simp [this]

theorem httpCursor_append_empties {α : Type} (l post : List (List α)) (hp : ∀ e ∈ post, e = []) :
    httpCursor (l ++ post) = httpCursor l := by
  unfold httpCursor
  rw [List.foldl_append]
  generalize List.foldl (fun acc d => if d.isEmpty = true then acc else d) [] l = acc
  induction post generalizing acc with
  | nil => rfl
  | cons e post ih =>
    have he : e = [] := hp e List.mem_cons_self
    subst he
    simp only [List.foldl_cons, List.isEmpty_nil, if_true]
    exact ih (fun e he => hp e (List.mem_cons_of_mem _ he)) acc

theorem recIdx_nil (s : Nat) : recIdx s [] = [] := rfl

theorem recIdx_record (s s' i : Nat) (es : List Ev) :
    recIdx s (.record s' i :: es) = if s' == s then i :: recIdx s es else recIdx s es := rfl

theorem recIdx_barrier (s n : Nat) (es : List Ev) : recIdx s (.barrier n :: es) = recIdx s es := rfl

theorem recIdx_append (s : Nat) (a b : List Ev) : recIdx s (a ++ b) = recIdx s a ++ recIdx s b := by
  induction a with
  | nil => rfl
  | cons e a ih =>
    cases e with
    | record s' i => by_cases h : (s' == s) = true <;> simp [recIdx_record, h, ih]
    | barrier n => simp [recIdx_barrier, ih]

theorem mem_recIdx (s i : Nat) (l : List Ev) : i ∈ recIdx s l ↔ Ev.record s i ∈ l := by
  induction l with
  | nil => simp [recIdx_nil]
  | cons e l ih =>
    cases e with
    | record s' j =>
      by_cases hs : s' = s
      · subst hs; simp [recIdx_record, ih]
      · have hs' : ¬ s = s' := fun e => hs e.symm
        simp [recIdx_record, hs, hs', ih]
    | barrier n => simp [recIdx_barrier, ih]

theorem recIdx_nil_of_not_mem (s : Nat) (l : List Ev) (h : ∀ i, Ev.record s i ∉ l) : recIdx s l = [] :=
  List.eq_nil_iff_forall_not_mem.mpr fun i hi => h i ((mem_recIdx s i l).mp hi)

theorem mem_of_mem_recIdx (s i : Nat) (l : List Ev) (h : i ∈ recIdx s l) : Ev.record s i ∈ l :=
  (mem_recIdx s i l).mp h

theorem hasSplit_iff (ss : List RSplit) (s : Nat) : hasSplit ss s = true ↔ ∃ r ∈ ss, r.split = s := by
  simp [hasSplit, List.any_eq_true]

theorem curOf_nil (s : Nat) : curOf [] s = none := rfl

theorem curOf_cons (r : RSplit) (rs : List RSplit) (s : Nat) :
    curOf (r :: rs) s = if r.split == s then some r.cur else curOf rs s := rfl

theorem curOf_of_mem (ss : List RSplit) (hn : (ss.map (·.split)).Nodup) (r : RSplit) (hr : r ∈ ss) :
    curOf ss r.split = some r.cur := by
  induction ss with
  | nil => simp at hr
  | cons a ss ih =>
    simp only [List.map_cons, List.nodup_cons] at hn
    rcases List.mem_cons.mp hr with h | h
    · subst h; simp [curOf_cons]
    · have hne : a.split ≠ r.split := by
        intro e; exact hn.1 (e ▸ List.mem_map_of_mem (f := (·.split)) h)
      simp [curOf_cons, hne, ih hn.2 h]

theorem curOf_some (ss : List RSplit) (s c : Nat) (h : curOf ss s = some c) : ∃ r ∈ ss, r.split = s ∧ r.cur = c := by
  induction ss with
  | nil => simp [curOf_nil] at h
  | cons a ss ih =>
    by_cases hs : (a.split == s) = true
    · simp only [curOf_cons, hs, if_true, Option.some.injEq] at h
      exact ⟨a, List.mem_cons_self, by simpa using hs, h⟩
    · simp only [curOf_cons, hs] at h
      obtain ⟨r, hr, h1, h2⟩ := ih h
      exact ⟨r, List.mem_cons_of_mem _ hr, h1, h2⟩

theorem advance_keys (ss : List RSplit) (s : Nat) : (advance ss s).map (·.split) = ss.map (·.split) := by
  simp only [advance, List.map_map]
  apply List.map_congr_left
  intro r _
  simp only [Function.comp]
  split <;> rfl

theorem advance_holds (ss : List RSplit) (s : Nat) (r : RSplit) (hr : r ∈ ss) :
    ∃ r' ∈ advance ss s, r'.split = r.split ∧ r.cur ≤ r'.cur := by
  refine ⟨_, List.mem_map_of_mem hr, ?_⟩
  split
  · exact ⟨rfl, Nat.le_succ _⟩
  · exact ⟨rfl, Nat.le_refl _⟩

theorem readOne_cases (st : RSt) (s : Nat) : readOne st s = st ∨
    ∃ c, curOf st.splits s = some c ∧ isFinished st s = false ∧
      readOne st s = { st with splits := advance st.splits s, out := st.out ++ [Ev.record s c] } := by
  unfold readOne readLive
  cases hf : isFinished st s with
  | true => exact Or.inl rfl
  | false =>
    cases hc : curOf st.splits s with
    | none => exact Or.inl rfl
    | some c => exact Or.inr ⟨c, rfl, rfl, rfl⟩

theorem readOne_keys (st : RSt) (s : Nat) : (readOne st s).splits.map (·.split) = st.splits.map (·.split) := by
  rcases readOne_cases st s with e | ⟨c, _, _, e⟩
  · rw [e]
  · rw [e]; exact advance_keys _ _

/-- what a checkpoint report claims about the output stream `out` -/
def ReportOK (out : List Ev) (rep : Report) : Prop :=
  out[rep.pos]? = some (Ev.barrier rep.id) ∧
  ∀ r ∈ rep.snap,
    r.init + (recIdx r.split (out.take rep.pos)).length = r.cur ∧
    (∀ i ∈ recIdx r.split (out.take rep.pos), i < r.cur) ∧
    (∀ i ∈ recIdx r.split (out.drop rep.pos), r.cur ≤ i)

structure RInv (st : RSt) : Prop where
  keys : (st.splits.map (·.split)).Nodup
  cur : ∀ r ∈ st.splits, r.init + (recIdx r.split st.out).length = r.cur ∧ ∀ i ∈ recIdx r.split st.out, i < r.cur
  held : ∀ s i, Ev.record s i ∈ st.out → hasSplit st.splits s = true
  reps : ∀ rep ∈ st.reports, rep.pos < st.out.length ∧ ReportOK st.out rep ∧
    ∀ r ∈ rep.snap, ∃ r' ∈ st.splits, r'.split = r.split ∧ r.cur ≤ r'.cur

theorem RInv.init : RInv {} :=
  ⟨.nil, fun _ => nil_elim, fun _ _ => nil_elim, fun _ => nil_elim⟩

theorem RInv.kept {st : RSt} (h : RInv st) {ss : List RSplit}
    (hk : ∀ r ∈ st.splits, ∃ r' ∈ ss, r'.split = r.split ∧ r.cur ≤ r'.cur) :
    (∀ s i, Ev.record s i ∈ st.out → hasSplit ss s = true) ∧
    ∀ rep ∈ st.reports, ∀ r ∈ rep.snap, ∃ r' ∈ ss, r'.split = r.split ∧ r.cur ≤ r'.cur := by
  constructor
  · intro s i hi
    obtain ⟨r, hr, e⟩ := (hasSplit_iff _ _).mp (h.held s i hi)
    obtain ⟨r', hr', e', _⟩ := hk r hr
    exact (hasSplit_iff _ _).mpr ⟨r', hr', e'.trans e⟩
  · intro rep hrep r hr
    obtain ⟨r', hr', e1, e2⟩ := (h.reps rep hrep).2.2 r hr
    obtain ⟨r'', hr'', e1', e2'⟩ := hk r' hr'
    exact ⟨r'', hr'', e1'.trans e1, Nat.le_trans e2 e2'⟩

theorem reportOK_snoc (out : List Ev) (rep : Report) (e : Ev) (hp : rep.pos < out.length) (h : ReportOK out rep)
    (he : ∀ r ∈ rep.snap, ∀ i ∈ recIdx r.split [e], r.cur ≤ i) : ReportOK (out ++ [e]) rep := by
  obtain ⟨h1, h2⟩ := h
  refine ⟨getElem?_append_of_some [e] h1, ?_⟩
  intro r hr
  obtain ⟨a, b, c⟩ := h2 r hr
  rw [List.take_append_of_le_length (Nat.le_of_lt hp), List.drop_append_of_le_length (Nat.le_of_lt hp)]
  refine ⟨a, b, ?_⟩
  intro i hi
  rw [recIdx_append] at hi
  rcases List.mem_append.mp hi with hi | hi
  · exact c i hi
  · exact he r hr i hi

theorem foldl_assignOne (l : List (Nat × Nat)) (ss : List RSplit) :
    l.foldl assignOne ss = ss ++ l.map fun sc => ⟨sc.1, sc.2, sc.2⟩ := by
  induction l generalizing ss with
  | nil => simp
  | cons a l ih => simp [List.foldl_cons, ih, assignOne]

theorem foldl_assignOne_keys (l : List (Nat × Nat)) (ss : List RSplit) :
    (l.foldl assignOne ss).map (·.split) = ss.map (·.split) ++ l.map (·.1) := by
  simp [foldl_assignOne, Function.comp_def]

theorem RInv.assign (l : List (Nat × Nat)) (st : RSt) (h : RInv st)
    (hf : (st.splits.map (·.split) ++ l.map (·.1)).Nodup) :
    RInv { st with splits := l.foldl Splits.assignOne st.splits } := by
  have hk := h.kept (ss := l.foldl Splits.assignOne st.splits)
    fun r hr => ⟨r, foldl_assignOne l _ ▸ List.mem_append_left _ hr, rfl, Nat.le_refl _⟩
  refine ⟨foldl_assignOne_keys l _ ▸ hf, ?_, hk.1,
    fun rep hrep => ⟨(h.reps rep hrep).1, (h.reps rep hrep).2.1, hk.2 rep hrep⟩⟩
  intro r hr
  rcases List.mem_append.mp (foldl_assignOne l _ ▸ hr) with hr | hr
  · exact h.cur r hr
  · -- a split assigned now was not held before, so none of its records is on the stream
    obtain ⟨sc, hsc, rfl⟩ := List.mem_map.mp hr
    have hempty : recIdx sc.1 st.out = [] :=
      recIdx_nil_of_not_mem _ _ fun i hi =>
        have ⟨r, hr, e⟩ := (hasSplit_iff _ _).mp (h.held _ _ hi)
        (List.nodup_append.mp hf).2.2 _ (List.mem_map_of_mem hr) _ (List.mem_map_of_mem hsc) e
    simp [hempty]

theorem RInv.readOne (st : RSt) (h : RInv st) (s : Nat) : RInv (readOne st s) := by
  rcases readOne_cases st s with e | ⟨c, hc, _, e⟩
  · rw [e]; exact h
  rw [e]
  obtain ⟨r0, hr0, hs0, hc0⟩ := curOf_some _ _ _ hc
  have hcur : ∀ r ∈ st.splits, r.split = s → r.cur = c := by
    intro r hr e
    have := curOf_of_mem _ h.keys r hr
    rw [e, hc] at this
    exact (Option.some.inj this).symm
  have hk := h.kept (advance_holds st.splits s)
  constructor
  · rw [advance_keys]; exact h.keys
  · intro r' hr'
    obtain ⟨r, hr, rfl⟩ := List.mem_map.mp hr'
    obtain ⟨a, b⟩ := h.cur r hr
    by_cases e : r.split = s
    · have hc' := hcur r hr e
      subst e
      simp only [beq_self_eq_true, if_true, recIdx_append, recIdx_record, recIdx_nil, List.length_append, List.length_singleton]
      refine ⟨by omega, ?_⟩
      intro i hi
      rcases List.mem_append.mp hi with hi | hi
      · have := b i hi; omega
      · simp only [List.mem_singleton] at hi; omega
    · have e' : ¬ s = r.split := fun x => e x.symm
      simp only [e, e', beq_iff_eq, if_false, recIdx_append, recIdx_record, recIdx_nil, List.append_nil]
      exact ⟨a, b⟩
  · intro s' i hi
    rcases List.mem_append.mp hi with hi | hi
    · exact hk.1 s' i hi
    · simp only [List.mem_singleton, Ev.record.injEq] at hi
      obtain ⟨r', hr', e', _⟩ := advance_holds st.splits s r0 hr0
      exact (hasSplit_iff _ _).mpr ⟨r', hr', e'.trans (hs0.trans hi.1.symm)⟩
  · intro rep hrep
    obtain ⟨a, b, d⟩ := h.reps rep hrep
    refine ⟨by simp only [List.length_append]; omega, ?_, hk.2 rep hrep⟩
    -- the record emitted now is at the reader's position, which no reported position exceeds
    apply reportOK_snoc _ _ _ a b
    intro r hr i hi
    obtain ⟨r', hr', e1, e2⟩ := d r hr
    have hm := (mem_recIdx _ _ _).mp hi
    simp only [List.mem_singleton, Ev.record.injEq] at hm
    have := hcur r' hr' (e1.trans hm.1)
    omega

theorem RInv.barrier (st : RSt) (h : RInv st) (n : Nat) : RInv (rstep st (.barrier n)) := by
  simp only [rstep]
  constructor
  · exact h.keys
  · intro r hr
    simp only [recIdx_append, recIdx_barrier, recIdx_nil, List.append_nil]
    exact h.cur r hr
  · intro s i hi
    rcases List.mem_append.mp hi with hi | hi
    · exact h.held s i hi
    · simp at hi
  · intro rep hrep
    rcases List.mem_append.mp hrep with hrep | hrep
    · obtain ⟨a, b, d⟩ := h.reps rep hrep
      refine ⟨by simp only [List.length_append]; omega, ?_, d⟩
      apply reportOK_snoc _ _ _ a b
      intro r _ i hi
      simp [recIdx_barrier, recIdx_nil] at hi
    · -- the new report: the snapshot is the reader's positions, the barrier is the last event
      simp only [List.mem_singleton] at hrep
      subst hrep
      refine ⟨by simp, ⟨by simp, ?_⟩, ?_⟩
      · intro r hr
        obtain ⟨a, b⟩ := h.cur r (List.mem_filter.mp hr).1
        simp only [List.take_left', List.drop_left', recIdx_barrier, recIdx_nil]
        refine ⟨a, b, by simp⟩
      · intro r hr
        exact ⟨r, (List.mem_filter.mp hr).1, rfl, Nat.le_refl _⟩

theorem RInv.run (as : List RAct) (st : RSt) (h : RInv st)
    (hf : (st.splits.map (·.split) ++ assignedIds as).Nodup) : RInv (rrun st as) := by
  induction as generalizing st with
  | nil => exact h
  | cons a as ih =>
    cases a with
    | assign l =>
      have hf' : (st.splits.map (·.split) ++ (l.map (·.1) ++ assignedIds as)).Nodup := hf
      rw [← List.append_assoc] at hf'
      apply ih _ (RInv.assign l st h (List.nodup_append.mp hf').1)
      show (((l.foldl Splits.assignOne st.splits).map (·.split)) ++ assignedIds as).Nodup
      rw [foldl_assignOne_keys]; exact hf'
    | read b =>
      have := List.foldlRecOn (motive := fun st' => RInv st' ∧ st'.splits.map (·.split) = st.splits.map (·.split))
        b Splits.readOne ⟨h, rfl⟩ fun st' hst' s _ => ⟨RInv.readOne st' hst'.1 s, (readOne_keys st' s).trans hst'.2⟩
      apply ih _ this.1
      show (((b.foldl Splits.readOne st).splits.map (·.split)) ++ assignedIds as).Nodup
      rw [this.2]; exact hf
    | barrier n => exact ih _ (RInv.barrier st h n) hf
    | drop s => exact ih _ { h with } hf   -- `RInv` does not mention `finished`

structure FInv (st : RSt) : Prop where
  fin : ∀ sp ∈ st.finished, sp.2 ≤ st.out.length ∧ recIdx sp.1 (st.out.drop sp.2) = []

theorem FInv.snoc (st : RSt) (h : FInv st) (e : Ev) (splits : List RSplit) (reports : List Report)
    (he : ∀ sp ∈ st.finished, recIdx sp.1 [e] = []) :
    FInv { st with splits := splits, reports := reports, out := st.out ++ [e] } := by
  constructor
  intro sp hsp
  obtain ⟨a, b⟩ := h.fin sp hsp
  refine ⟨by simp only [List.length_append]; omega, ?_⟩
  rw [List.drop_append_of_le_length a, recIdx_append, b, he sp hsp]; rfl

theorem FInv.readOne (st : RSt) (h : FInv st) (s : Nat) : FInv (readOne st s) := by
  rcases readOne_cases st s with e | ⟨c, _, hf, e⟩
  · rw [e]; exact h
  · rw [e]
    refine FInv.snoc st h _ _ _ ?_
    intro sp hsp
    -- `s` is not finished, so `sp` is another split
    have hne : (s == sp.1) = false := Bool.eq_false_iff.mpr fun hq =>
      Bool.eq_false_iff.mp hf (List.any_eq_true.mpr ⟨sp, hsp, beq_iff_eq.mpr (beq_iff_eq.mp hq).symm⟩)
    simp [recIdx_record, recIdx_nil, hne]

theorem FInv.step (st : RSt) (h : FInv st) (a : RAct) : FInv (rstep st a) := by
  cases a with
  | assign l => exact { h with }   -- `FInv` does not mention `splits`
  | read b => exact List.foldlRecOn (motive := FInv) b Splits.readOne h fun st' hst' s _ => FInv.readOne st' hst' s
  | barrier n =>
    exact FInv.snoc st h _ _ _ fun _ _ => rfl
  | drop s =>
    constructor
    intro sp hsp
    rcases List.mem_append.mp hsp with h1 | h1
    · exact h.fin sp h1
    · simp only [List.mem_singleton] at h1
      subst h1
      show st.out.length ≤ st.out.length ∧ recIdx s (st.out.drop st.out.length) = []
      simp [recIdx_nil]

theorem FInv.run (as : List RAct) (st : RSt) (h : FInv st) : FInv (rrun st as) :=
  List.foldlRecOn (motive := FInv) as rstep h fun st' hst' a _ => FInv.step st' hst' a

theorem read_atomic (b : List Nat) (st : RSt) :
    ∃ recs, (b.foldl readOne st).out = st.out ++ recs ∧ (∀ e ∈ recs, ∀ n, e ≠ Ev.barrier n) ∧
      (b.foldl readOne st).reports = st.reports := by
  apply List.foldlRecOn (motive := fun st' => ∃ recs, st'.out = st.out ++ recs ∧ (∀ e ∈ recs, ∀ n, e ≠ Ev.barrier n) ∧
    st'.reports = st.reports) b readOne ⟨[], by simp, by simp, rfl⟩
  intro st' ⟨recs, h1, h2, h3⟩ s _
  rcases readOne_cases st' s with e | ⟨c, _, _, e⟩
  · rw [e]; exact ⟨recs, h1, h2, h3⟩
  · rw [e]
    refine ⟨recs ++ [Ev.record s c], by simp only [h1, List.append_assoc], ?_, h3⟩
    intro x hx n
    rcases List.mem_append.mp hx with h | h
    · exact h2 x h n
    · simp only [List.mem_singleton] at h
      subst h
      exact Ev.noConfusion

theorem assignedIds_assign (l : List (Nat × Nat)) (as : List RAct) :
    assignedIds (.assign l :: as) = l.map (·.1) ++ assignedIds as := rfl

theorem assignedIds_read (b : List Nat) (as : List RAct) : assignedIds (.read b :: as) = assignedIds as := rfl

theorem assignedIds_barrier (n : Nat) (as : List RAct) : assignedIds (.barrier n :: as) = assignedIds as := rfl

theorem assignedIds_drop (s : Nat) (as : List RAct) : assignedIds (.drop s :: as) = assignedIds as := rfl

theorem assignedIds_append (a b : List RAct) : assignedIds (a ++ b) = assignedIds a ++ assignedIds b := by
  induction a with
  | nil => rfl
  | cons x a ih =>
    cases x <;>
      simp only [List.cons_append, assignedIds_assign, assignedIds_read, assignedIds_barrier, assignedIds_drop, ih,
        List.append_assoc]

theorem rrun_append (st : RSt) (a b : List RAct) : rrun st (a ++ b) = rrun (rrun st a) b := by
  simp [rrun, List.foldl_append]

/-- the shards a Kinesis-level history assigns to the reader -/
def kAssignedIds : List KAct → List Nat
  | [] => []
  | .assign l :: as => l.map (·.1) ++ kAssignedIds as
  | _ :: as => kAssignedIds as

/-- `iteInduction` here and for `kstep`, `envSplit`: `split`/`simp` on the unfolded nested conditionals is slow to check -/
theorem kreadOk_is_rrun (k : KRd) (sp : RSplit) : ∃ ras, (kreadOk k sp).1.r = rrun k.r ras ∧ assignedIds ras = [] :=
  iteInduction (motive := fun x : KRd × Option (Option Nat) => ∃ ras, x.1.r = rrun k.r ras ∧ assignedIds ras = [])
    (fun _ => ⟨[.read _, .drop _], rfl, rfl⟩) fun _ => ⟨[.read _], rfl, rfl⟩

theorem kstep_read_r (k : KRd) (P : RSt → Prop) (h0 : P k.r) (h1 : ∀ k' sp, k'.r = k.r → P (kreadOk k' sp).1.r) :
    P (kstep k .read).1.r := by
  unfold kstep
  cases (activeOf k.r)[k.idx]? with
  | none => exact h0
  | some sp =>
    let Q : KRd × Option (Option Nat) → Prop := fun x => P x.1.r
    exact iteInduction (motive := Q) (fun _ => h0) fun _ =>
      iteInduction (fun _ => iteInduction (fun _ => h0) fun _ => h1 _ _ rfl) fun _ => h1 _ _ rfl

theorem kstep_is_rrun (k : KRd) (a : KAct) :
    ∃ ras, (kstep k a).1.r = rrun k.r ras ∧ assignedIds ras = kAssignedIds [a] := by
  cases a with
  | put s n => exact ⟨[], rfl, rfl⟩
  | assign l => exact ⟨[.assign l], rfl, rfl⟩
  | fail n => exact ⟨[], rfl, rfl⟩
  | barrier n => exact ⟨[.barrier n], rfl, rfl⟩
  | close s => exact ⟨[], rfl, rfl⟩
  | expire => exact ⟨[], rfl, rfl⟩
  | read =>
    exact kstep_read_r k (fun r => ∃ ras, r = rrun k.r ras ∧ assignedIds ras = []) ⟨[], rfl, rfl⟩
      fun k' sp e => e ▸ kreadOk_is_rrun k' sp

theorem kAssignedIds_cons (a : KAct) (as : List KAct) : kAssignedIds (a :: as) = kAssignedIds [a] ++ kAssignedIds as := by
  cases a with
  | assign l =>
    show l.map (·.1) ++ kAssignedIds as = (l.map (·.1) ++ []) ++ kAssignedIds as
    rw [List.append_nil]
  | _ => rfl

theorem krun_is_rrun (as : List KAct) (k : KRd) :
    ∃ ras, (krun k as).r = rrun k.r ras ∧ assignedIds ras = kAssignedIds as := by
  induction as generalizing k with
  | nil => exact ⟨[], rfl, rfl⟩
  | cons a as ih =>
    obtain ⟨r1, h1, e1⟩ := kstep_is_rrun k a
    obtain ⟨r2, h2, e2⟩ := ih (kstep k a).1
    refine ⟨r1 ++ r2, ?_, ?_⟩
    · show (krun (kstep k a).1 as).r = _
      rw [h2, h1, rrun_append]
    · rw [assignedIds_append, e1, e2, ← kAssignedIds_cons]

end Rxn.Splits
