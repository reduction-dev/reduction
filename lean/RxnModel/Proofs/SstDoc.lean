import RxnModel.Model.SstDoc
import RxnModel.Proofs.Sst
/-!
Round trip of the JSON form of `TableDocument`, `parseDoc (jsonDoc d uri) = some (d, uri)`, and with it the path of a
restored table: document text → document → `loadFooter` → `Get`.
-/
namespace Rxn.Sst
open Rxn

theorem stripPrefix_append (p r : List Char) : stripPrefix p (p ++ r) = some r := by
  induction p with
  | nil => rfl
  | cons c p ih =>
    show (if c = c then stripPrefix p (p ++ r) else none) = some r
    rw [if_pos rfl, ih]

theorem takeWhile_append_stop (p : Char → Bool) (xs : List Char) (c : Char) (r : List Char)
    (hx : ∀ x ∈ xs, p x = true) (hc : p c = false) : (xs ++ c :: r).takeWhile p = xs := by
  rw [List.takeWhile_append_of_pos hx, List.takeWhile_cons_of_neg (Bool.eq_false_iff.mp hc), List.append_nil]

theorem takeWhile_append_key (p : Char → Bool) (xs : List Char) {k : List Char} {c : Char} (hk : k.head? = some c)
    (r : List Char) (hx : ∀ x ∈ xs, p x = true) (hc : p c = false) : (xs ++ (k ++ r)).takeWhile p = xs := by
  cases k with
  | nil => cases hk
  | cons x k' => cases hk; exact takeWhile_append_stop p xs c (k' ++ r) hx hc

theorem b64Val_alphabet : b64Alphabet.map b64Val = (List.range 64).map some := by decide +kernel

theorem b64Val_pad : b64Val '=' = none := by decide +kernel

theorem b64Val_b64Char (n : Nat) (h : n < 64) : b64Val (b64Char n) = some n := by
  have hn : n < b64Alphabet.length := h
  have := congrArg (·[n]?) b64Val_alphabet
  simp only [List.getElem?_map, List.getElem?_range h, List.getElem?_eq_getElem hn, Option.map_some, Option.some.injEq] at this
  rw [b64Char, List.getD_eq_getElem?_getD, List.getElem?_eq_getElem hn]; exact this

theorem b64Char_mem (n : Nat) : b64Char n ∈ b64Alphabet := by
  rw [b64Char, List.getD_eq_getElem?_getD]
  cases h : b64Alphabet[n]? with
  | none => decide
  | some c => exact List.mem_of_getElem? h

theorem ne_pad_of_val {y : Char} {c : Nat} (hy : b64Val y = some c) : y ≠ '=' := by
  rintro rfl; rw [b64Val_pad] at hy; cases hy

theorem b64Dec_quad {w x y z : Char} {a b c d : Nat} (hw : b64Val w = some a) (hx : b64Val x = some b)
    (hy : b64Val y = some c) (hz : b64Val z = some d) (rest : List Char) :
    b64Dec (w :: x :: y :: z :: rest) = (b64Dec rest).map fun bs =>
      UInt8.ofNat (a * 4 + b / 16) :: UInt8.ofNat (b % 16 * 16 + c / 4) :: UInt8.ofNat (c % 4 * 64 + d) :: bs := by
  rw [b64Dec.eq_def]
  simp only [hw, hx, hy, hz, ne_pad_of_val hy, ne_pad_of_val hz, if_false]
  cases b64Dec rest <;> rfl

theorem b64Dec_pad2 {w x : Char} {a b : Nat} (hw : b64Val w = some a) (hx : b64Val x = some b) :
    b64Dec [w, x, '=', '='] = some [UInt8.ofNat (a * 4 + b / 16)] := by
  rw [b64Dec.eq_def]
  simp [hw, hx]

theorem b64Dec_pad1 {w x y : Char} {a b c : Nat} (hw : b64Val w = some a) (hx : b64Val x = some b)
    (hy : b64Val y = some c) :
    b64Dec [w, x, y, '='] = some [UInt8.ofNat (a * 4 + b / 16), UInt8.ofNat (b % 16 * 16 + c / 4)] := by
  rw [b64Dec.eq_def]
  simp [hw, hx, hy, ne_pad_of_val hy]

theorem mul_add_div_mod {x y m : Nat} (h : y < m) : (x * m + y) / m = x ∧ (x * m + y) % m = y := by
  have hm : 0 < m := by omega
  rw [Nat.mul_comm, Nat.mul_add_div hm, Nat.mul_add_mod, Nat.div_eq_of_lt h, Nat.mod_eq_of_lt h]
  exact ⟨rfl, rfl⟩

theorem b64_group {a b c : Nat} (ha : a < 256) (hb : b < 256) (hc : c < 256) :
    (a / 4 < 64 ∧ a % 4 * 16 + b / 16 < 64 ∧ b % 16 * 4 + c / 64 < 64 ∧ c % 64 < 64) ∧
    a / 4 * 4 + (a % 4 * 16 + b / 16) / 16 = a ∧
    (a % 4 * 16 + b / 16) % 16 * 16 + (b % 16 * 4 + c / 64) / 4 = b ∧
    (b % 16 * 4 + c / 64) % 4 * 64 + c % 64 = c := by
  have hb1 : b / 16 < 16 := Nat.div_lt_of_lt_mul hb
  have hc1 : c / 64 < 4 := Nat.div_lt_of_lt_mul hc
  rw [(mul_add_div_mod hb1).1, (mul_add_div_mod hb1).2, (mul_add_div_mod hc1).1, (mul_add_div_mod hc1).2]
  exact ⟨⟨Nat.div_lt_of_lt_mul ha, Bytes.digit_lt (a := 0) hb1 (Nat.mod_lt a (by decide)),
    Bytes.digit_lt (a := 0) hc1 (Nat.mod_lt b (by decide)), Nat.mod_lt c (by decide)⟩,
    Nat.div_add_mod' a 4, Nat.div_add_mod' b 16, Nat.div_add_mod' c 64⟩

theorem b64Dec_enc (bs : Bytes) : b64Dec (b64Enc bs) = some bs := by
  induction bs using b64Enc.induct with
  | case1 => rfl
  | case2 a =>
    obtain ⟨⟨h1, h2, _⟩, e1, _⟩ := b64_group a.toNat_lt (show 0 < 256 by decide) (show 0 < 256 by decide)
    rw [Nat.zero_div, Nat.add_zero] at h2 e1
    exact (b64Dec_pad2 (b64Val_b64Char _ h1) (b64Val_b64Char _ h2)).trans (by rw [e1, UInt8.ofNat_toNat])
  | case3 a b =>
    obtain ⟨⟨h1, h2, h3, _⟩, e1, e2, _⟩ := b64_group a.toNat_lt b.toNat_lt (show 0 < 256 by decide)
    rw [Nat.zero_div, Nat.add_zero] at h3 e2
    exact (b64Dec_pad1 (b64Val_b64Char _ h1) (b64Val_b64Char _ h2) (b64Val_b64Char _ h3)).trans
      (by rw [e1, e2, UInt8.ofNat_toNat, UInt8.ofNat_toNat])
  | case4 a b c rest ih =>
    obtain ⟨⟨h1, h2, h3, h4⟩, e1, e2, e3⟩ := b64_group a.toNat_lt b.toNat_lt c.toNat_lt
    exact (b64Dec_quad (b64Val_b64Char _ h1) (b64Val_b64Char _ h2) (b64Val_b64Char _ h3) (b64Val_b64Char _ h4) _).trans
      (by rw [ih, e1, e2, e3, UInt8.ofNat_toNat, UInt8.ofNat_toNat, UInt8.ofNat_toNat]; rfl)

theorem b64Enc_symbols (bs : Bytes) : ∀ c ∈ b64Enc bs, c = '=' ∨ c ∈ b64Alphabet := by
  induction bs using b64Enc.induct with
  | case1 => exact fun _ h => nomatch h
  | case2 a =>
    show ∀ c ∈ [b64Char _, b64Char _, '=', '='], _
    simp [b64Char_mem]
  | case3 a b =>
    show ∀ c ∈ [b64Char _, b64Char _, b64Char _, '='], _
    simp [b64Char_mem]
  | case4 a b c rest ih =>
    show ∀ c ∈ b64Char _ :: b64Char _ :: b64Char _ :: b64Char _ :: b64Enc rest, _
    simpa [b64Char_mem] using ih

theorem b64Enc_no_quote (bs : Bytes) : ∀ c ∈ b64Enc bs, (c != '"') = true := by
  intro c hc
  rcases b64Enc_symbols bs c hc with rfl | h
  · decide
  · have : '"' ∉ b64Alphabet := by decide +kernel
    exact bne_iff_ne.mpr (fun e => this (e ▸ h))

theorem digit_facts : ∀ d, d < 10 → isDigit (digitChar d) = true ∧ (digitChar d).toNat - 48 = d := by decide

theorem decDigits_lt (n : Nat) : ∀ d ∈ decDigits n, d < 10 := by
  induction n using decDigits.induct with
  | case1 n h => rw [decDigits]; simp [h]
  | case2 n h ih =>
    rw [decDigits]; simp only [h, dite_false]
    intro d hd
    simp only [List.mem_append, List.mem_singleton] at hd
    rcases hd with hd | rfl
    · exact ih d hd
    · omega

theorem decDigits_ne_nil (n : Nat) : decDigits n ≠ [] := by
  rw [decDigits]; split <;> simp

theorem decDigits_value (n : Nat) (acc : Nat) :
    (decDigits n).foldl (fun a d => a * 10 + d) acc = acc * 10 ^ (decDigits n).length + n := by
  induction n using decDigits.induct generalizing acc with
  | case1 n h => rw [decDigits]; simp [h]
  | case2 n h ih =>
    rw [decDigits]; simp only [h, dite_false, List.foldl_append, List.foldl_cons, List.foldl_nil, ih,
      List.length_append, List.length_cons, List.length_nil, Nat.pow_succ]
    have := Nat.div_add_mod n 10
    rw [Nat.add_mul, Nat.mul_assoc]
    omega

theorem jNat_value (n : Nat) : (jNat n).foldl (fun acc c => acc * 10 + (c.toNat - 48)) 0 = n := by
  have hd : (jNat n).map (fun c => c.toNat - 48) = decDigits n := by
    rw [jNat, List.map_map]
    exact (List.map_congr_left fun d hd => (digit_facts d (decDigits_lt n d hd)).2).trans (List.map_id _)
  have h := decDigits_value n 0
  rwa [Nat.zero_mul, Nat.zero_add, ← hd, List.foldl_map] at h

theorem jNat_digits (n : Nat) : ∀ c ∈ jNat n, isDigit c = true := by
  intro c hc
  simp only [jNat, List.mem_map] at hc
  obtain ⟨d, hd, rfl⟩ := hc
  exact (digit_facts d (decDigits_lt n d hd)).1

theorem pNat_jNat (n : Nat) {k : List Char} {c : Char} (hk : k.head? = some c) (hc : isDigit c = false)
    (r : List Char) : pNat (jNat n ++ (k ++ r)) = some (n, k ++ r) := by
  have htw := takeWhile_append_key isDigit (jNat n) hk r (jNat_digits n) hc
  have hne : (jNat n).isEmpty = false := by
    cases h : decDigits n with
    | nil => exact absurd h (decDigits_ne_nil n)
    | cons a b => simp [jNat, h]
  simp only [pNat, htw, hne, Bool.false_eq_true, if_false, jNat_value, List.drop_left]

theorem pBytes_jBytes (b : Bytes) (r : List Char) : pBytes (jBytes b ++ r) = some (b, r) := by
  cases b with
  | nil =>
    unfold pBytes
    simp [jBytes, stripPrefix_append]
  | cons x xs =>
    have hq : ((x :: xs).isEmpty) = false := rfl
    have hnull : stripPrefix nullLit ('"' :: (b64Enc (x :: xs) ++ ['"'] ++ r)) = none := rfl
    have htw := takeWhile_append_stop (· != '"') (b64Enc (x :: xs)) '"' r (b64Enc_no_quote _) (by decide)
    unfold pBytes
    simp only [jBytes, hq, Bool.false_eq_true, if_false, List.cons_append, List.append_assoc, List.nil_append] at hnull ⊢
    simp only [hnull, htw, b64Dec_enc, List.drop_left]

theorem pPlain_uri (uri : List Char) (hu : PlainUri uri) {k : List Char} (hk : k.head? = some '"') (r : List Char) :
    pPlain (uri ++ (k ++ r)) = (uri, k ++ r) := by
  have hx : ∀ c ∈ uri, (c != '"') = true := by
    intro c hc
    have := hu c hc
    simp only [plainChar, Bool.and_eq_true] at this
    exact this.1.1.1.1.2
  have htw := takeWhile_append_key (· != '"') uri hk r hx (by decide)
  simp only [pPlain, htw, List.drop_left]

theorem key_heads : kEntries.head? = some ',' ∧ kUri.head? = some ',' ∧ kEndSeq.head? = some ',' ∧
    kStartSeq.head? = some '"' := by decide +kernel

theorem parseDoc_jsonDoc (d : Doc) (uri : List Char) (hu : PlainUri uri) :
    parseDoc (jsonDoc d uri) = some (d, uri) := by
  obtain ⟨h1, h2, h3, h4⟩ := key_heads
  have hcomma : isDigit ',' = false := by decide
  have hclose : pNat (jNat d.endSeq ++ kClose) = some (d.endSeq, kClose) := by
    have := pNat_jNat d.endSeq (k := kClose) (c := '}') rfl (by decide) []
    rwa [List.append_nil] at this
  have hend : stripPrefix kClose kClose = some [] := by
    have := stripPrefix_append kClose []
    rwa [List.append_nil] at this
  unfold parseDoc
  simp only [jsonDoc, stripPrefix_append, pBytes_jBytes, pNat_jNat _ h1 hcomma, pNat_jNat _ h2 hcomma,
    pPlain_uri uri hu h4, pNat_jNat _ h3 hcomma, hclose, hend]

/-- a written table re-opened from the JSON text of its document (sizes taken from the parsed document) answers `Get`
like the run -/
theorem get_via_json (es : List Entry) (hwf : ∀ e ∈ es, e.WF) (hs : SortedKeys es) (hsz : (encEntries es).length < offMod)
    (uri : List Char) (hu : PlainUri uri) (key : Bytes) :
    (parseDoc (jsonDoc (docOf es) uri)).bind (fun p =>
      (openDoc p.1 (encTable es)).map (fun m => get m p.1.entriesSize (encTable es) key))
    = some (GetRes.ofOption (lookup es key)) := by
  rw [parseDoc_jsonDoc _ _ hu, Option.bind_some,
    show openDoc (docOf es) (encTable es) = some (metaOf es) from loadFooter_encTable es hsz]
  exact congrArg some (get_encTable es hwf hs hsz key)

end Rxn.Sst
