import RxnModel.Proofs.CompactionSys
import RxnModel.Proofs.CompactionSound
import RxnModel.Proofs.LsmOrder
/-!
The compactor inside the DKV transition system of C07 (`Lsm.step`): every change set the modelled picker produces
passes the guard `Lsm.safeCS` of the `.compact` action — also when flushes and foreground writes happen between
its computation and its commit — and the hypotheses about flushes and level-0 ages are derived from `Lsm.step`.
Erasing the compaction commits from a history changes no answer.
-/
namespace Rxn.Compaction
open Rxn Rxn.Lsm

theorem compactWith_passes {L : Levels} {c : Compactor} {o : Oracle} (order : List Tbl → List Tbl) (ho : OrderOK order)
    (hv : WeakValid L) (hid : (L.flatten.map (·.id)).Nodup) (hage : L0KeyAgeOrdered L) (h2 : 2 ≤ L.length)
    (hs : OracleSane c L o) {cs : ChangeSet} {c' : Compactor} (h : compactWith order c L o = (some cs, c')) :
    safeCS L cs.rm cs.lvl cs.add = true :=
  have hp := compactWith_spec ho hv hid hage h2 h
  (safeCS_iff_structOK (hp.2.2 hs)).mpr hp.1

theorem structOK_after_flush {L : Levels} {rm : List Nat} {lvl : Nat} {add : List Run} {ts : List Tbl}
    (h : StructOK L rm lvl add) (hfresh : ∀ t ∈ ts, rmP rm t = false) : StructOK (applyFlush L ts) rm lvl add := by
  cases L with
  | nil => exact absurd h.lvl_lt (Nat.not_lt_zero _)
  | cons l0 D =>
    rw [applyFlush_cons]
    have hget : ∀ i, 1 ≤ i → ((l0 ++ ts) :: D).getD i [] = (l0 :: D).getD i [] := by
      intro i hi
      obtain ⟨j, rfl⟩ : ∃ j, i = j + 1 := ⟨i - 1, (Nat.sub_add_cancel hi).symm⟩
      rw [List.getD_cons_succ, List.getD_cons_succ]
    refine ⟨h.lvl_pos, h.lvl_lt, ?_, ?_, ?_, ?_, ?_, h.chunks⟩
    · rw [hget lvl h.lvl_pos]; exact h.target
    · intro i hi; rw [hget i (Nat.le_trans h.lvl_pos (Nat.le_of_lt hi))]; exact h.below i hi
    · show (l0 ++ ts).Pairwise (fun older newer => SafePair (rmP rm) newer older)
      exact List.pairwise_append.mpr ⟨h.l0, List.pairwise_of_forall_mem_list fun _ _ b hb => safePair_of_kept (hfresh b hb),
        fun _ _ b hb => safePair_of_kept (hfresh b hb)⟩
    · intro i j hij hj hex t ht
      rw [hget j (Nat.zero_lt_of_lt hij)] at ht
      refine h.closed i j hij hj ?_ t ht
      obtain ⟨x, hx, hpx⟩ := hex
      by_cases hi : i = 0
      · subst hi
        have hx' : x ∈ l0 ++ ts := hx
        cases List.mem_append.mp hx' with
        | inl h0 => exact ⟨x, h0, hpx⟩
        | inr h0 => rw [hfresh x h0] at hpx; cases hpx
      · rw [hget i (Nat.pos_of_ne_zero hi)] at hx; exact ⟨x, hx, hpx⟩
    · rw [removed_after_flush hfresh]; exact h.added

/-- some memtables go (`X` stay) and a new last one `r`, numbered above level 0 and `X`, comes: a write (`r` = the active
memtable with the new entry) and a rotation (`r = []`) -/
theorem chron_snoc {s s' : Lsm.State} {X : List Run} {r : Run} (hc : ChronSep s) (hl : s'.levels = s.levels)
    (hX : X.Sublist s.mems) (hm : s'.mems = X ++ [r])
    (hnew : ∀ x ∈ (s.levels.headD []).map (·.run) ++ X, ∀ e ∈ x, ∀ e' ∈ r, e.seq < e'.seq) : ChronSep s' := by
  obtain ⟨h1, h2, h3⟩ := hc
  unfold ChronSep
  rw [hl, hm]
  refine ⟨h1, List.pairwise_append.mpr ⟨h2.sublist hX, List.pairwise_singleton _ _, ?_⟩, ?_⟩
  · intro x hx b hb e he e' he'
    rw [List.mem_singleton.mp hb] at he'
    exact hnew x (List.mem_append_right _ hx) e he e' he'
  · intro t ht r' hr' e he e' he'
    rcases List.mem_append.mp hr' with h | h
    · exact h3 t ht r' (hX.subset h) e he e' he'
    · rw [List.mem_singleton.mp h] at he'
      exact hnew t.run (List.mem_append_left _ (List.mem_map_of_mem ht)) e he e' he'

theorem seq_bound_chron {s : Lsm.State} {m : Spec} (hi : Inv s m) :
    ∀ r ∈ (s.levels.headD []).map (·.run) ++ s.mems, ∀ x ∈ r, x.seq ≤ s.seq := by
  obtain ⟨⟨_, _, hM, _⟩, ⟨_, _, hT⟩, _⟩ := inv_iff.mp hi
  exact List.forall_mem_append.mpr ⟨List.forall_mem_map.mpr fun t ht => hT t (headD_mem_flatten ht), hM⟩

theorem chron_write {s : Lsm.State} {m : Spec} {active : Run} {sealedRev : List Run} {e : Entry} (hi : Inv s m)
    (hc : ChronSep s) (hm : s.mems.reverse = active :: sealedRev) (he : e.seq = s.seq + 1) :
    ChronSep { s with seq := s.seq + 1, mems := (active.insert e :: sealedRev).reverse } := by
  have hmems : s.mems = sealedRev.reverse ++ [active] := by
    rw [← List.reverse_reverse s.mems, hm, List.reverse_cons]
  have hX : sealedRev.reverse.Sublist s.mems := hmems ▸ List.sublist_append_left _ _
  have hact : active ∈ s.mems := hmems ▸ List.mem_append_right _ List.mem_cons_self
  refine chron_snoc hc rfl hX List.reverse_cons ?_
  intro x hx e0 he0 e' he'
  -- an entry of the new active memtable is `e`, numbered `s.seq + 1`, or was in the old one
  rcases Run.insert_mem he' with rfl | h
  · rw [he]
    refine Nat.lt_succ_of_le (seq_bound_chron hi x ?_ e0 he0)
    exact (List.mem_append.mp hx).elim (List.mem_append_left _) (fun h => List.mem_append_right _ (hX.subset h))
  · rcases List.mem_append.mp hx with hx | hx
    · obtain ⟨t, ht, rfl⟩ := List.mem_map.mp hx
      exact hc.2.2 t ht active hact e0 he0 e' h
    · have h2 := hc.2.1
      rw [hmems] at h2
      exact (List.pairwise_append.mp h2).2.2 x hx active List.mem_cons_self e0 he0 e' h

theorem chron_flush {s s' : Lsm.State} {snap : List Run} {n : Nat} (hc : ChronSep s)
    (hsnap : s.mems.take snap.length = snap) (hl : s'.levels = applyFlush s.levels (mkTables n snap))
    (hm : s'.mems = s.mems.drop snap.length) : ChronSep s' := by
  obtain ⟨h1, h2, h3⟩ := hc
  unfold ChronSep
  rw [hl, hm]
  cases hLD : s.levels with
  | nil => exact ⟨List.Pairwise.nil, h2.sublist (List.drop_sublist _ _), fun t ht => nomatch ht⟩
  | cons l0 D =>
    have hmem : s.mems = snap ++ s.mems.drop snap.length := by
      conv => lhs; rw [← List.take_append_drop snap.length s.mems, hsnap]
    rw [hmem] at h2
    have ⟨hsnapP, hdrop, hsd⟩ := List.pairwise_append.mp h2
    have hsnapmem : ∀ r ∈ snap, r ∈ s.mems := fun r hr => by rw [hmem]; exact List.mem_append_left _ hr
    rw [hLD] at h1 h3
    rw [applyFlush_cons]
    refine ⟨?_, hdrop, ?_⟩
    · show (l0 ++ mkTables n snap).Pairwise (fun a b => ¬ DisjointKeys a.run b.run → age a < age b)
      refine List.pairwise_append.mpr ⟨h1, (mkTables_pairwise n hsnapP).imp (fun hab => age_lt_of_sep hab), ?_⟩
      intro a ha b hb
      exact age_lt_of_sep (fun e he e' he' => h3 a ha b.run (hsnapmem _ (mkTables_run_mem hb)) e he e' he')
    · intro t ht r hr e0 he0 e' he'
      have ht' : t ∈ l0 ++ mkTables n snap := ht
      cases List.mem_append.mp ht' with
      | inl h0 => exact h3 t h0 r (List.mem_of_mem_drop hr) e0 he0 e' he'
      | inr h0 => exact hsd t.run (mkTables_run_mem h0) r hr e0 he0 e' he'

theorem fg_step_chron {s s' : Lsm.State} {m : Spec} {a : Lsm.Act} (hi : Inv s m) (hc : ChronSep s)
    (hna : isCompact a = false) (h : step s a = some s') : ChronSep s' := by
  cases step_some h with
  | put k v _ hm => exact chron_write hi hc hm rfl
  | del k _ hm => exact chron_write hi hc hm rfl
  | rotate => exact chron_snoc hc rfl (List.Sublist.refl _) rfl (fun _ _ _ _ _ he' => nomatch he')
  | flushCommit _ hsnap => exact chron_flush hc hsnap rfl rfl
  | compact => cases hna
  | flushBegin | flushAbort | getA | getB => exact hc

/-- what a foreground step does to the level list and the id counter: it appends the tables of a flushed snapshot to
level 0 — of the empty snapshot, unless it is a flush commit -/
theorem fg_step_levels {s s' : Lsm.State} {a : Lsm.Act} (hna : isCompact a = false) (h : step s a = some s') :
    ∃ snap, s'.levels = applyFlush s.levels (mkTables s.nextId snap) ∧ s'.nextId = s.nextId + snap.length := by
  have hnil : applyFlush s.levels (mkTables s.nextId []) = s.levels :=
    (applyFlush_eq_applyCS _ _ []).trans (applyCS_noop 0 s.nextId (fun _ _ => rfl))
  cases step_some h with
  | flushCommit => exact ⟨_, rfl, rfl⟩
  | compact => cases hna
  | _ => exact ⟨[], hnil.symm, rfl⟩

theorem db_step_fg {d d' : DB} {a : Lsm.Act} (h : d.step (.fg a) = some d') :
    isCompact a = false ∧ ∃ s', Lsm.step d.s a = some s' ∧ d' = { d with s := s' } := by
  simp only [DB.step] at h
  split at h
  · cases h
  · rename_i hna
    obtain ⟨s', hst, rfl⟩ := Option.map_eq_some_iff.mp h
    exact ⟨Bool.eq_false_iff.mpr hna, s', hst, rfl⟩

theorem db_step_compactBegin {d d' : DB} {o : Oracle} (h : d.step (.compactBegin o) = some d') :
    d.pending = none ∧ d' = { d with c := (compact d.c d.s.levels o).2, pending := (compact d.c d.s.levels o).1 } := by
  simp only [DB.step] at h
  split at h
  · cases h
  · rename_i hp; exact ⟨hp, (Option.some.inj h).symm⟩

theorem db_step_compactCommit {d d' : DB} (h : d.step .compactCommit = some d') :
    ∃ cs s', d.pending = some cs ∧ Lsm.step d.s (.compact cs.rm cs.lvl cs.add) = some s' ∧
      d' = { d with s := s', pending := none } := by
  simp only [DB.step] at h
  split at h
  · cases h
  · rename_i cs hp
    obtain ⟨s', hst, rfl⟩ := Option.map_eq_some_iff.mp h
    exact ⟨cs, s', hp, hst, rfl⟩

theorem db_step_compactFail {d d' : DB} {o : Oracle} (h : d.step (.compactFail o) = some d') :
    d.pending = none ∧ d' = { d with c := (compact d.c d.s.levels o).2 } := by
  simp only [DB.step] at h
  split at h
  · cases h
  · rename_i hp
    split at h
    · exact ⟨hp, (Option.some.inj h).symm⟩
    · cases h

structure DInv (d : DB) (m : Spec) : Prop where
  inv : Inv d.s m
  rinv : ReadInv d.s m
  ids : IdsFresh d.s.levels d.s.nextId
  len : 2 ≤ d.s.levels.length
  chron : ChronSep d.s
  ord : DeepOrdered d.s
  pend : ∀ cs, d.pending = some cs →
    StructOK d.s.levels cs.rm cs.lvl cs.add ∧ (∃ t ∈ d.s.levels.flatten, rmP cs.rm t = true) ∧
    ∀ i ∈ cs.rm, i < d.s.nextId

theorem dinv_step {d d' : DB} {m : Spec} {a : DAct} (hi : DInv d m) (hok : d.actOK a) (h : d.step a = some d') :
    DInv d' (d.specStep m a) := by
  have hw := weakValid_of_inv hi.inv
  cases a with
  | fg a =>
    obtain ⟨hna, s', hst, rfl⟩ := db_step_fg h
    obtain ⟨hinv, hrinv, hord⟩ := step_inv_ordered a hi.inv hi.rinv hi.ord hst
    obtain ⟨snap, hl, hn⟩ := fg_step_levels hna hst
    refine ⟨hinv, hrinv, ?_, ?_, fg_step_chron hi.inv hi.chron hna hst, hord, ?_⟩
    · rw [hl, hn]
      exact idsFresh_flush snap (List.length_pos_iff.mpr hi.inv.levels_ne) hi.ids
    · rw [hl, applyFlush_length]
      exact hi.len
    · intro cs hcs
      have ⟨hshape, ⟨t, ht, hpt⟩, hold⟩ := hi.pend cs hcs
      rw [hl, hn]
      exact ⟨structOK_after_flush hshape (rmP_fresh hold), ⟨t, mem_applyFlush ht, hpt⟩,
        fun i hir => Nat.lt_of_lt_of_le (hold i hir) (Nat.le_add_right _ _)⟩
  | compactBegin o =>
    obtain ⟨_, rfl⟩ := db_step_compactBegin h
    refine ⟨hi.inv, hi.rinv, hi.ids, hi.len, hi.chron, hi.ord, ?_⟩
    intro cs hcs
    have ⟨hst, hold, hsome⟩ := compact_pending hw hi.ids hi.chron.1 hi.len hcs
    exact ⟨hst, hsome hok, hold⟩
  | compactCommit =>
    obtain ⟨cs, s', hp, hstep, rfl⟩ := db_step_compactCommit h
    obtain ⟨hinv, hrinv, hord⟩ := step_inv_ordered _ hi.inv hi.rinv hi.ord hstep
    cases step_some hstep
    have hs : SafeCS d.s.levels cs.rm cs.lvl cs.add := safe_of_structOK hw (hi.pend cs hp).1
    obtain ⟨h1, h2, h3⟩ := hi.chron
    refine ⟨hinv, hrinv, idsFresh_applyCS cs hs.lvl_lt hi.ids, (applyCS_length d.s.levels d.s.nextId cs).symm ▸ hi.len,
      ⟨keyAge_applyCS d.s.nextId hs.lvl_pos h1, h2, ?_⟩, hord, fun _ hcs' => nomatch hcs'⟩
    intro t ht
    have ht' : t ∈ (applyCS d.s.levels d.s.nextId cs).headD [] := ht
    rw [applyCS_headD _ _ hs.lvl_pos] at ht'
    exact h3 t (List.mem_filter.mp ht').1
  | compactFail o =>
    obtain ⟨_, rfl⟩ := db_step_compactFail h
    exact ⟨hi.inv, hi.rinv, hi.ids, hi.len, hi.chron, hi.ord, hi.pend⟩

theorem db_run_cons_some {d : DB} {m : Spec} {a : DAct} {as : List DAct} {r : DB × Spec}
    (h : d.run m (a :: as) = some r) : ∃ d1, d.step a = some d1 ∧ d1.run (d.specStep m a) as = some r := by
  have h' : (match d.step a with
    | some d' => DB.run d' (d.specStep m a) as
    | none => none) = some r := h
  cases hs : d.step a with
  | none => rw [hs] at h'; cases h'
  | some d1 => rw [hs] at h'; exact ⟨d1, rfl, h'⟩

theorem db_run_inv : ∀ (as : List DAct) (d : DB) (m : Spec) (d' : DB) (m' : Spec),
    DInv d m → d.runOK as → d.run m as = some (d', m') → DInv d' m' := by
  intro as
  induction as with
  | nil => intro d m d' m' hi _ h; cases h; exact hi
  | cons a as ih =>
    intro d m d' m' hi hok h
    obtain ⟨d1, hst, h⟩ := db_run_cons_some h
    obtain ⟨hoka, hok⟩ := hok
    rw [hst] at hok
    exact ih d1 _ d' m' (dinv_step hi hoka hst) hok h

theorem dinv_init : DInv {} [] := by
  refine ⟨inv_init, readInv_init, ?_, by decide, ?_, deepOrdered_init, fun cs h => by cases h⟩
  · unfold IdsFresh; decide
  · refine ⟨by unfold L0KeyAgeOrdered; decide, by decide, ?_⟩
    intro t ht; cases ht

/-- a step other than a compaction commit reads neither the level list nor the id counter: each constructor of `Step`
applies, with the hypotheses it had, to the state with any `L` and `n` in their place -/
theorem fg_step_any_levels {s s' : Lsm.State} {a : Lsm.Act} (L : Levels) (n : Nat) (hna : isCompact a = false)
    (h : step s a = some s') :
    ∃ L' n', step { s with levels := L, nextId := n } a = some { s' with levels := L', nextId := n' } := by
  cases step_some h with
  | put k v hr hm => exact ⟨_, _, step_of_Step (.put k v hr hm)⟩
  | del k hr hm => exact ⟨_, _, step_of_Step (.del k hr hm)⟩
  | rotate => exact ⟨_, _, step_of_Step .rotate⟩
  | flushBegin n hf0 hn => exact ⟨_, _, step_of_Step (.flushBegin n hf0 hn)⟩
  | flushCommit hf0 hp hlen => exact ⟨_, _, step_of_Step (.flushCommit hf0 hp hlen)⟩
  | flushAbort hf0 => exact ⟨_, _, step_of_Step (.flushAbort hf0)⟩
  | compact => cases hna
  | getA k hr => exact ⟨_, _, step_of_Step (.getA k hr)⟩
  | getB hr => exact ⟨_, _, step_of_Step (.getB hr)⟩

theorem compact_step_only_levels {s s' : Lsm.State} {a : Lsm.Act} (L : Levels) (n : Nat) (hc : isCompact a = true)
    (h : step s a = some s') : { s' with levels := L, nextId := n } = { s with levels := L, nextId := n } := by
  cases step_some h with
  | compact => rfl
  | _ => cases hc

theorem specStep_compact (m : Spec) (n : Nat) {a : Lsm.Act} (h : isCompact a = true) : specStep m n a = m := by
  cases a with
  | compact => rfl
  | _ => cases h

theorem dropCompactions_compact {a : Lsm.Act} (as : List Lsm.Act) (hc : isCompact a = true) :
    dropCompactions (a :: as) = dropCompactions as :=
  List.filter_cons_of_neg (by rw [hc]; exact Bool.false_ne_true)

theorem dropCompactions_fg {a : Lsm.Act} (as : List Lsm.Act) (hc : isCompact a = false) :
    dropCompactions (a :: as) = a :: dropCompactions as :=
  List.filter_cons_of_pos (by rw [hc]; rfl)

theorem runBoth_erase : ∀ (as : List Lsm.Act) (s : Lsm.State) (m : Spec) (s' : Lsm.State) (m' : Spec) (L : Levels) (n : Nat),
    runBoth s m as = some (s', m') →
    ∃ L' n', runBoth { s with levels := L, nextId := n } m (dropCompactions as)
      = some ({ s' with levels := L', nextId := n' }, m') := by
  intro as
  induction as with
  | nil =>
    intro s m s' m' L n h
    cases h
    exact ⟨L, n, rfl⟩
  | cons a as ih =>
    intro s m s' m' L n h
    obtain ⟨s1, hst, h⟩ := runBoth_cons_some h
    cases hc : isCompact a with
    | true =>
      rw [dropCompactions_compact as hc, ← compact_step_only_levels L n hc hst]
      rw [specStep_compact m s.seq hc] at h
      exact ih s1 m s' m' L n h
    | false =>
      obtain ⟨L1, n1, ht1⟩ := fg_step_any_levels L n hc hst
      rw [dropCompactions_fg as hc, runBoth_step _ ht1]
      exact ih s1 _ s' m' L1 n1 h

theorem same_view_of_inv {s t : Lsm.State} {m : Spec} (hs : Inv s m) (ht : Inv t m) :
    (∀ k, get s k = get t k) ∧ (∀ p, scan s p = scan t p) := by
  refine ⟨fun k => by rw [get_eq_firstHit hs, get_eq_firstHit ht, hs.hit k, ht.hit k], fun p => ?_⟩
  have h1 := scan_spec hs p
  have h2 := scan_spec ht p
  exact run_sorted_ext h1.1 h2.1 (fun e => by rw [h1.2 e, h2.2 e])

theorem view_without_compactions_from {s : Lsm.State} {m : Spec} (hs : Inv s m) (hsr : ReadInv s m)
    (as : List Lsm.Act) (s' : Lsm.State) (m' : Spec) (h : runBoth s m as = some (s', m')) :
    ∃ t', runBoth s m (dropCompactions as) = some (t', m') ∧
      (∀ k, get s' k = get t' k) ∧ (∀ p, scan s' p = scan t' p) := by
  obtain ⟨L', n', h0⟩ := runBoth_erase as s m s' m' s.levels s.nextId h
  have h0 : runBoth s m (dropCompactions as) = some ({ s' with levels := L', nextId := n' }, m') := h0
  have hsound : ∀ as, noCompact as = true ∨ CompactionSound := fun _ => Or.inr compactionSound
  exact ⟨_, h0, same_view_of_inv (runBoth_inv as s m s' m' (hsound _) hs hsr h).1
    (runBoth_inv _ s m _ m' (hsound _) hs hsr h0).1⟩

/-- `view_without_compactions_from` for the reads as the code performs them (`Model/LsmCode.lean`, `Model/Rescale.lean`:
`tablesForKey` with `SearchUnique` over `RangeKeyCompare`; `AllTablesForPrefix` with the level-0 filter, `BinarySearchFunc`
over `RangePrefixCompare` and the forward walk), when the deeper levels of the start state are in key order: they stay so
along both histories, and there the code's reads are `get` and `scan` -/
theorem view_without_compactions_code_from {s : Lsm.State} {m : Spec} (hs : Inv s m) (hsr : ReadInv s m)
    (hso : DeepOrdered s) (as : List Lsm.Act) (s' : Lsm.State) (m' : Spec) (h : runBoth s m as = some (s', m')) :
    ∃ t', runBoth s m (dropCompactions as) = some (t', m') ∧
      (∀ k, Rescale.getR s' k = Rescale.getR t' k) ∧ (∀ p, Rescale.scanR s' p = Rescale.scanR t' p) := by
  obtain ⟨t', h0, hget, hscan⟩ := view_without_compactions_from hs hsr as s' m' h
  have hi := runBoth_inv_ordered as s m s' m' hs hsr hso h
  have hi0 := runBoth_inv_ordered _ s m t' m' hs hsr hso h0
  refine ⟨t', h0, fun k => ?_, fun p => ?_⟩
  · rw [getR_eq_get hi.1 hi.2.2, getR_eq_get hi0.1 hi0.2.2]
    exact hget k
  · rw [scanR_eq_scan_of_inv hi.1 hi.2.2, scanR_eq_scan_of_inv hi0.1 hi0.2.2]
    exact hscan p

theorem view_without_compactions_code (as : List Lsm.Act) (s : Lsm.State) (m : Spec)
    (h : runBoth {} [] as = some (s, m)) :
    ∃ s0, runBoth {} [] (dropCompactions as) = some (s0, m) ∧
      (∀ k, Rescale.getR s k = Rescale.getR s0 k) ∧ (∀ p, Rescale.scanR s p = Rescale.scanR s0 p) :=
  view_without_compactions_code_from inv_init readInv_init deepOrdered_init as s m h

/-- every history of the DKV system with the compaction task is a history of the DKV system (`Lsm.runBoth`) whose
compaction commits are those of the task -/
theorem db_run_lsm : ∀ (as : List DAct) (d : DB) (m : Spec) (d' : DB) (m' : Spec),
    d.run m as = some (d', m') →
    ∃ acts, runBoth d.s m acts = some (d'.s, m') ∧ dropCompactions acts = foreground as := by
  intro as
  induction as with
  | nil => intro d m d' m' h; cases h; exact ⟨[], rfl, rfl⟩
  | cons a as ih =>
    intro d m d' m' h
    obtain ⟨d1, hst, h⟩ := db_run_cons_some h
    obtain ⟨acts, hr, hd⟩ := ih d1 _ d' m' h
    cases a with
    | fg x =>
      obtain ⟨hnc, s1, hx, rfl⟩ := db_step_fg hst
      refine ⟨x :: acts, (runBoth_step _ hx).trans hr, ?_⟩
      rw [dropCompactions_fg acts hnc, hd]
      rfl
    | compactBegin o =>
      obtain ⟨_, rfl⟩ := db_step_compactBegin hst
      exact ⟨acts, hr, hd⟩
    | compactCommit =>
      obtain ⟨cs, s1, _, hx, rfl⟩ := db_step_compactCommit hst
      exact ⟨.compact cs.rm cs.lvl cs.add :: acts, (runBoth_step _ hx).trans hr, hd⟩
    | compactFail o =>
      obtain ⟨_, rfl⟩ := db_step_compactFail hst
      exact ⟨acts, hr, hd⟩

theorem db_foreground_view_from {d0 : DB} {m0 : Spec} (hi : Inv d0.s m0) (hr : ReadInv d0.s m0) (as : List DAct)
    (d : DB) (m : Spec) (h : d0.run m0 as = some (d, m)) :
    ∃ s0, runBoth d0.s m0 (foreground as) = some (s0, m) ∧
      (∀ k, get d.s k = get s0 k) ∧ (∀ p, scan d.s p = scan s0 p) := by
  obtain ⟨acts, hrun, hd⟩ := db_run_lsm as d0 m0 d m h
  obtain ⟨s0, h0, hv⟩ := view_without_compactions_from hi hr acts d.s m hrun
  exact ⟨s0, hd ▸ h0, hv⟩

/-- **the guard of the compaction commit passes for every pending change set of the modelled picker**, whatever
foreground steps and flush commits happened since it was computed; so the commit exists, and it changes no answer -/
theorem pending_commit {d : DB} {m : Spec} (hi : DInv d m) {cs : ChangeSet} (hp : d.pending = some cs) :
    safeCS d.s.levels cs.rm cs.lvl cs.add = true ∧
    ∃ d', d.step .compactCommit = some d' ∧
      (∀ k, get d'.s k = get d.s k) ∧ (∀ p, scan d'.s p = scan d.s p) ∧ (∀ k, get d'.s k = Spec.get m k) := by
  have hguard : safeCS d.s.levels cs.rm cs.lvl cs.add = true :=
    (safeCS_iff_structOK (hi.pend cs hp).2.1).mpr (hi.pend cs hp).1
  have hstep : d.step .compactCommit = some { d with
      s := { d.s with levels := addAt (removeIds cs.rm d.s.levels) cs.lvl (mkTables d.s.nextId cs.add),
                      nextId := d.s.nextId + cs.add.length }, pending := none } := by
    simp only [DB.step, hp, step_of_Step (.compact _ _ _ hguard), Option.map_some]
  refine ⟨hguard, _, hstep, ?_⟩
  have hi' : DInv _ m := dinv_step (a := .compactCommit) hi trivial hstep
  have hv := same_view_of_inv hi'.inv hi.inv
  exact ⟨hv.1, hv.2, get_spec hi'.inv⟩

/-- `Lsm.Inv` says of the deeper levels only that ranges are disjoint (`WeakValid`); their key order is `DInv.ord` -/
theorem layoutValid_of_dinv {d : DB} {m : Spec} (hi : DInv d m) : LayoutValid d.s.levels := by
  have hw := weakValid_of_inv hi.inv
  have hord : ∀ l ∈ d.s.levels.tail, l.Pairwise (fun a b => Bytes.lt a.endKey b.startKey = true) := hi.ord
  exact ⟨hw.sorted, hord, hw.newer⟩

end Rxn.Compaction
