import RxnModel.Proofs.TimersKGPQ
import RxnModel.Proofs.TimersCodec
/-!
`TimerStore` (Model/Timers.lean `Store`): every partition keeps its invariant under operations on any partition and under
arbitrary reloads (`touch`, the heap's comparisons); `better`, folded over the partitions' first keys, picks one with least
timestamp bytes.
-/
namespace Rxn.Timers
open Rxn Rxn.Bytes

/-- `bound`: the key groups fit the two prefix bytes -/
structure SInv (s : Store) : Prop where
  db : Sorted s.db
  parts : ∀ i q, s.parts[i]? = some q → Inv q s.db ∧ q.pfx = kgPrefix (s.start + i)
  bound : s.start + s.parts.length ≤ 65536

theorem partIdx_of_prefix (s : Store) (hs : SInv s) (key : Bytes) (j : Nat) (hj : j < s.parts.length)
    (h : Bytes.hasPrefix key (kgPrefix (s.start + j)) = true) : s.partIdx key = j := by
  obtain ⟨t, rfl⟩ := Bytes.hasPrefix_iff.mp h
  unfold Store.partIdx Gen.kgIndexOf
  rw [take2_kgPrefix _ (Nat.lt_of_lt_of_le (Nat.add_lt_add_left hj _) hs.bound)]
  simp

/-- a fresh store (fresh caches) over any DB content: construction, and restore from a checkpoint -/
theorem sinv_new (db : DB) (hdb : Sorted db) (kgc start stop maxCache : Nat) (hss : start ≤ stop) (hstop : stop ≤ 65536) :
    SInv (Store.new db kgc start stop maxCache) := by
  refine ⟨hdb, ?_, ?_⟩
  · intro i q hq
    obtain ⟨hi, rfl⟩ := List.getElem?_eq_some_iff.mp hq
    simp only [Store.new, List.getElem_map, List.getElem_range]
    exact ⟨inv_new _ _ _, rfl⟩
  · simp only [Store.new, List.length_map, List.length_range]; omega

structure StoreStep (s s' : Store) (db' : DB) : Prop where
  inv : SInv s'
  db : s'.db = db'
  len : s'.parts.length = s.parts.length
  start : s'.start = s.start
  kgc : s'.kgc = s.kgc

theorem StoreStep.refl {s : Store} (hs : SInv s) : StoreStep s s s.db := ⟨hs, rfl, rfl, rfl, rfl⟩

structure Shape (s : Store) (kgc start stop : Nat) : Prop where
  hkgc : s.kgc = kgc
  hstart : s.start = start
  hlen : s.parts.length = stop - start
  hle : start ≤ stop

theorem shape_new (db : DB) (kgc start stop maxCache : Nat) (h : start ≤ stop) :
    Shape (Store.new db kgc start stop maxCache) kgc start stop :=
  ⟨rfl, rfl, by simp [Store.new], h⟩

theorem Shape.of_step {s s' : Store} {db' : DB} {kgc start stop : Nat} (h : Shape s kgc start stop)
    (st : StoreStep s s' db') : Shape s' kgc start stop :=
  ⟨st.kgc.trans h.hkgc, st.start.trans h.hstart, st.len.trans h.hlen, h.hle⟩

theorem owns_iff (s : Store) (subj : Bytes) :
    s.owns subj = true ↔ s.start ≤ KeySpace.keyGroup s.kgc subj ∧ KeySpace.keyGroup s.kgc subj < s.start + s.parts.length := by
  simp only [Store.owns, Bool.and_eq_true, decide_eq_true_eq]

theorem owns_of_valid {s : Store} {kgc start stop : Nat} (h : Shape s kgc start stop) (key : Bytes)
    (h1 : start ≤ KeySpace.keyGroup kgc key) (h2 : KeySpace.keyGroup kgc key < stop) : s.owns key = true := by
  rw [owns_iff, h.hkgc, h.hstart, h.hlen]
  have := h.hle
  omega

theorem onPart_spec (s : Store) (i : Nat) (f : KGPQ → DB → KGPQ × DB) (hs : SInv s)
    (db' : DB) (hdb' : Sorted db')
    (hf : ∀ q, s.parts[i]? = some q → Inv (f q s.db).1 (f q s.db).2 ∧ (f q s.db).2 = db' ∧ (f q s.db).1.pfx = q.pfx)
    (hother : ∀ j q, j ≠ i → s.parts[j]? = some q → Inv q db')
    (hin : i < s.parts.length) : StoreStep s (s.onPart i f) db' := by
  obtain ⟨q, hq⟩ : ∃ q, s.parts[i]? = some q := ⟨_, List.getElem?_eq_getElem hin⟩
  obtain ⟨f1, f2, f3⟩ := hf q hq
  simp only [Store.onPart, hq]
  have hparts : ∀ (j : Nat) qj, (s.parts.set i (f q s.db).1)[j]? = some qj → Inv qj db' ∧ qj.pfx = kgPrefix (s.start + j) := by
    intro j qj hj
    by_cases hij : i = j
    · subst hij
      rw [List.getElem?_set_self hin] at hj
      cases hj
      exact ⟨f2 ▸ f1, f3.trans (hs.parts i q hq).2⟩
    · rw [List.getElem?_set_ne hij] at hj
      exact ⟨hother j qj (Ne.symm hij) hj, (hs.parts j qj hj).2⟩
  exact {
    inv := ⟨by rw [f2]; exact hdb', by rw [f2]; exact hparts, by simpa using hs.bound⟩
    db := f2
    len := List.length_set
    start := rfl
    kgc := rfl }

theorem not_prefix_other (s : Store) (hs : SInv s) (key : Bytes) (j : Nat) (q : KGPQ) (hq : s.parts[j]? = some q)
    (hne : j ≠ s.partIdx key) : Bytes.hasPrefix key q.pfx = false := by
  cases hp : Bytes.hasPrefix key q.pfx with
  | false => rfl
  | true =>
    exfalso
    have hj : j < s.parts.length := (List.getElem?_eq_some_iff.mp hq).1
    rw [(hs.parts j q hq).2] at hp
    exact hne (partIdx_of_prefix s hs key j hj hp).symm

theorem pushKey_spec (s : Store) (hs : SInv s) (key : Bytes) (hin : s.partIdx key < s.parts.length)
    (hk : Bytes.hasPrefix key (kgPrefix (s.start + s.partIdx key)) = true) :
    StoreStep s (s.pushKey key) (sinsert key s.db) := by
  refine onPart_spec s (s.partIdx key) (fun q db => q.push db key) hs (sinsert key s.db) (sinsert_sorted key _ hs.db) ?_ ?_ hin
  · intro q hq
    obtain ⟨hi, hp⟩ := hs.parts _ q hq
    exact KGPQ.push_spec q s.db key hi hs.db (by rw [hp]; exact hk)
  · intro j q hj hq
    exact (hs.parts j q hq).1.other_put hs.db key (not_prefix_other s hs key j q hq hj)

theorem deleteKey_spec (s : Store) (hs : SInv s) (key : Bytes) (hin : s.partIdx key < s.parts.length) :
    StoreStep s (s.deleteKey key) (s.db.erase key) := by
  refine onPart_spec s (s.partIdx key) (fun q db => q.delete db key) hs (s.db.erase key) (hs.db.erase key) ?_ ?_ hin
  · intro q hq
    exact KGPQ.delete_spec q s.db key (hs.parts _ q hq).1 hs.db
  · intro j q hj hq
    exact (hs.parts j q hq).1.other_delete hs.db key (not_prefix_other s hs key j q hq hj)

theorem touch_spec (s : Store) (hs : SInv s) (i : Nat) : StoreStep s (s.touch i) s.db := by
  by_cases hin : i < s.parts.length
  · refine onPart_spec s i (fun q db => (q.load db, db)) hs s.db hs.db ?_ (fun j q _ hq => (hs.parts j q hq).1) hin
    intro q hq
    obtain ⟨p1, p2, _⟩ := KGPQ.load_spec q s.db (hs.parts _ q hq).1 hs.db
    exact ⟨p1, rfl, p2⟩
  · have : s.parts[i]? = none := List.getElem?_eq_none_iff.mpr (by omega)
    have he : s.touch i = s := by simp only [Store.touch, Store.onPart, this]
    rw [he]
    exact StoreStep.refl hs

def leTs (a b : Bytes) : Prop := Bytes.cmp (tsBytes a) (tsBytes b) ≠ .gt

theorem leTs_refl (a : Bytes) : leTs a a := by simp [leTs]
theorem leTs_trans {a b c : Bytes} (h1 : leTs a b) (h2 : leTs b c) : leTs a c := cmp_ne_gt_trans h1 h2
theorem leTs_total (a b : Bytes) : leTs a b ∨ leTs b a := by
  unfold leTs
  cases h : Bytes.cmp (tsBytes a) (tsBytes b) with
  | lt => left; simp
  | eq => left; simp
  | gt => right; rw [Bytes.cmp_gt_iff_lt.mp h]; simp

theorem leTs_iff {kgc : Nat} {a b : Bytes} (ha : WF kgc a) (hb : WF kgc b) : leTs a b ↔ (timerOf a).2 ≤ (timerOf b).2 := by
  obtain ⟨a1, a2⟩ := encTs_of_nonneg _ ha.2.1 ha.2.2
  obtain ⟨b1, b2⟩ := encTs_of_nonneg _ hb.2.1 hb.2.2
  unfold leTs
  -- eight-byte big-endian strings compare as their numbers, and for `t` in `[0, 2^63)` the stored `uint64` is `t` itself;
  -- a negative `t` is stored as `t + 2^64`, above every timer from 1970 on: why `WF` asks for `0 ≤ t` (finding D51)
  rw [ha.tsBytes_eq, hb.tsBytes_eq, Ne, cmp_gt_iff_beNat _ _ (by rw [u64be_length, u64be_length]),
    beNat_encTs _ ha.2.1 ha.2.2, beNat_encTs _ hb.2.1 hb.2.2]
  omega

/-- within one key group the DB order refines the timestamp order -/
theorem leTs_of_le_same_prefix (p a b : Bytes) (hp : p.length = 3) (ha : Bytes.hasPrefix a p = true)
    (hb : Bytes.hasPrefix b p = true) (h : Bytes.cmp a b ≠ .gt) : leTs a b := by
  obtain ⟨a', rfl⟩ := Bytes.hasPrefix_iff.mp ha
  obtain ⟨b', rfl⟩ := Bytes.hasPrefix_iff.mp hb
  rw [cmp_append_left] at h
  unfold leTs tsBytes
  have e1 : (p ++ a').drop 3 = a' := by rw [← hp]; simp
  have e2 : (p ++ b').drop 3 = b' := by rw [← hp]; simp
  rw [e1, e2]
  exact cmp_take_ne_gt 8 a' b' h

theorem scan_head_le {db : DB} (hdb : Sorted db) {p : Bytes} (hp : p.length = 3) {x : Bytes} (hx : x ∈ db.scan p) :
    ∃ h, (db.scan p).head? = some h ∧ leTs h x := by
  have hpre : ∀ y ∈ db.scan p, Bytes.hasPrefix y p = true := fun y hy => (mem_scan.mp hy).2
  have hsorted := scan_sorted hdb p
  cases hscan : db.scan p with
  | nil => rw [hscan] at hx; cases hx
  | cons h t =>
    rw [hscan] at hx hpre hsorted
    refine ⟨h, rfl, ?_⟩
    rcases List.mem_cons.mp hx with e | e
    · rw [e]; exact leTs_refl _
    · have hlt : Bytes.cmp h x = .lt := lt_iff_cmp.mp (hsorted.head_lt x e)
      exact leTs_of_le_same_prefix p h x hp (hpre h List.mem_cons_self) (hpre x hx) (by rw [hlt]; nofun)

/-- the order `better` chooses by: an empty partition (`none`) comes after everything -/
def headLe : Option Bytes → Option Bytes → Prop
  | _, none => True
  | none, some _ => False
  | some a, some b => leTs a b

theorem headLe_refl (a : Option Bytes) : headLe a a := by
  cases a with
  | none => trivial
  | some a => exact leTs_refl a

theorem headLe_trans {a b c : Option Bytes} (h1 : headLe a b) (h2 : headLe b c) : headLe a c := by
  cases c with
  | none => trivial
  | some c =>
    cases b with
    | none => exact h2.elim
    | some b =>
      cases a with
      | none => exact h1.elim
      | some a => exact leTs_trans h1 h2

theorem headLe_none_left {h : Option Bytes} (hl : headLe none h) : h = none := by
  cases h with
  | none => rfl
  | some _ => exact hl.elim

theorem better_min (acc r : Option Bytes) :
    (better acc r = acc ∨ better acc r = r) ∧ headLe (better acc r) acc ∧ headLe (better acc r) r := by
  cases acc with
  | none => exact ⟨Or.inr rfl, trivial, headLe_refl r⟩
  | some a =>
    cases r with
    | none => exact ⟨Or.inl rfl, leTs_refl a, trivial⟩
    | some x =>
      by_cases hlt : Bytes.cmp (tsBytes x) (tsBytes a) = .lt
      · have hb : better (some a) (some x) = some x := by simp [better, hlt]
        rw [hb]
        exact ⟨Or.inr rfl, show leTs x a from fun hgt => (by rw [hlt] at hgt; cases hgt), leTs_refl x⟩
      · have hb : better (some a) (some x) = some a := by simp [better, hlt]
        rw [hb]
        exact ⟨Or.inl rfl, leTs_refl a, show leTs a x from fun hgt => hlt (Bytes.cmp_gt_iff_lt.mp hgt)⟩

end Rxn.Timers
