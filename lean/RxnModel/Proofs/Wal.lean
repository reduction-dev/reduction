import RxnModel.Proofs.WalLog
import RxnModel.Proofs.Sst
/-!
Proofs about the byte codec of `Model/Wal.lean` (C17): records round-trip, and, with the writer's invariant of
`Proofs/WalLog.lean`, what a saved WAL replays.
-/
namespace Rxn.Wal
open Rxn Rxn.Sst

theorem decRec_encRec (e : Rec) (h : e.WF) (rest : Bytes) : decRec (encRec e ++ rest) = some (e, rest) := by
  obtain ⟨s, k, d, v⟩ := e
  obtain ⟨hk, hv, hs, ht⟩ := h
  simp only at hk hv hs ht
  cases d with
  | true =>
    obtain rfl : v = [] := ht rfl
    unfold decRec
    simp only [encRec, List.append_assoc, readVar_encVar _ _ hk, readNat_leBytes u64W _ hs, readNat_encTomb,
      if_true, List.nil_append]
  | false =>
    unfold decRec
    simp only [encRec, List.append_assoc, readVar_encVar _ _ hk, readNat_leBytes u64W _ hs, readNat_encTomb,
      Bool.false_eq_true, if_false, if_neg tombMark_ne_zero.symm, readVar_encVar _ _ hv]

theorem encRec_length_pos (e : Rec) : 0 < (encRec e).length := by
  have := tombW_pos
  simp only [encRec, encTomb, List.length_append, leBytes_length]
  omega

theorem encRecs_append (a b : List Rec) : encRecs (a ++ b) = encRecs a ++ encRecs b := by
  induction a with
  | nil => rfl
  | cons e a ih => simp [encRecs, ih]

theorem length_le_encRecs (es : List Rec) : es.length ≤ (encRecs es).length := by
  induction es with
  | nil => simp
  | cons e es ih =>
    have := encRec_length_pos e
    rw [encRecs, List.length_append, List.length_cons]
    omega

theorem skipRecs_encRecs (es : List Rec) (h : ∀ e ∈ es, e.WF) (n : Nat) (hn : n ≤ es.length) :
    skipRecs n (encRecs es) = some (encRecs (es.drop n)) := by
  induction es generalizing n with
  | nil =>
    obtain rfl : n = 0 := by simpa using hn
    rfl
  | cons e es ih =>
    cases n with
    | zero => rfl
    | succ n =>
      have he := h e (by simp)
      rw [skipRecs.eq_def]
      simp only [encRecs, decRec_encRec e he, List.drop_succ_cons]
      exact ih (fun x hx => h x (by simp [hx])) n (by simpa using hn)

theorem readRecs_encRecs (es : List Rec) (h : ∀ e ∈ es, e.WF) (fuel : Nat) (hf : es.length < fuel) :
    readRecs fuel (encRecs es) = (es.map Rec.toRead, false) := by
  induction es generalizing fuel with
  | nil => cases fuel with
    | zero => omega
    | succ f => rfl
  | cons e es ih =>
    cases fuel with
    | zero => omega
    | succ f =>
      have hne := isEmpty_append_of_pos (encRec_length_pos e) (encRecs es)
      have he := h e (by simp)
      have ih' := ih (fun x hx => h x (by simp [hx])) f (by simp at hf; omega)
      rw [readRecs.eq_def]
      simp only [encRecs, hne, decRec_encRec e he, ih']
      simp

/-- a sequence number that fits its field (`Rec.WF`) is below the modulus of the reader's marker arithmetic -/
theorem seq_fits : 256 ^ u64W ≤ seqMod := by decide

theorem wrap_skip (a f M : Nat) (h1 : f ≤ a + 1) (h2 : a + 1 < M) : (a + M - f + 1) % M = a + 1 - f := by
  have : a + M - f + 1 = a + 1 - f + M := by omega
  rw [this, Nat.add_mod_right, Nat.mod_eq_of_lt (Nat.lt_of_le_of_lt (Nat.sub_le _ _) h2)]

theorem readNat_encRecs (e : Rec) (es : List Rec) (h : e.seq < 256 ^ u64W) :
    ∃ r, readNat u64W (encRecs (e :: es)) = some (e.seq, r) := by
  simp only [encRecs, encRec, List.append_assoc]
  exact ⟨_, readNat_leBytes u64W _ h _⟩

/-- `hw`: the reader's marker arithmetic (modulo `seqMod`) does not wrap -/
theorem readAll_encRecs (e : Rec) (es : List Rec) (h : ∀ x ∈ e :: es, x.WF) (after : Nat)
    (hw : after + 1 < seqMod)
    (h1 : e.seq ≤ after + 1) (h2 : after + 1 - e.seq ≤ (e :: es).length) :
    readAll (encRecs (e :: es)) after = .ok (((e :: es).drop (after + 1 - e.seq)).map Rec.toRead) := by
  have hne : (encRecs (e :: es)).isEmpty = false := isEmpty_append_of_pos (encRec_length_pos e) _
  obtain ⟨r, hfirst⟩ := readNat_encRecs e es (h e (by simp)).seq
  unfold readAll
  simp only [hne, Bool.false_eq_true, if_false, hfirst]
  have hnp : ¬ ((after + 1) % seqMod < e.seq) := by rw [Nat.mod_eq_of_lt hw]; omega
  simp only [hnp, if_false, wrap_skip after e.seq seqMod h1 hw, skipRecs_encRecs (e :: es) h _ h2]
  have hwf' : ∀ x ∈ (e :: es).drop (after + 1 - e.seq), x.WF := fun x hx => h x (List.mem_of_mem_drop hx)
  rw [readRecs_encRecs _ hwf' _ (by have := length_le_encRecs ((e :: es).drop (after + 1 - e.seq)); omega)]

theorem readAll_panic (e : Rec) (es : List Rec) (he : e.seq < 256 ^ u64W) (after : Nat)
    (h1 : (after + 1) % seqMod < e.seq) :
    readAll (encRecs (e :: es)) after = .panic := by
  have hne : (encRecs (e :: es)).isEmpty = false := isEmpty_append_of_pos (encRec_length_pos e) _
  obtain ⟨r, hfirst⟩ := readNat_encRecs e es he
  unfold readAll
  simp only [hne, Bool.false_eq_true, if_false, hfirst, h1, if_true]

theorem readAll_consecutive (f : Nat) (es : List Rec) (hwf : ∀ x ∈ es, x.WF) (hc : Consecutive f es) (after : Nat)
    (hlo : f ≤ after + 1) (hhi : after + 1 ≤ f + es.length) (hw : after + 1 < seqMod) :
    readAll (encRecs es) after = .ok ((es.filter (fun x => decide (after < x.seq))).map Rec.toRead) := by
  cases es with
  | nil => rfl
  | cons e es =>
    have hf : e.seq = f := hc.1
    rw [readAll_encRecs e es hwf after hw (by omega) (by omega), hf, drop_eq_filter f (e :: es) hc after]

/-- a saved WAL replays exactly the records appended after the start marker, whatever was truncated below it -/
theorem readAll_save {w : Writer} {all : List Rec} {T : Nat} (h : WInv w all T) (f after : Nat)
    (hcons : Consecutive f all) (hwf : ∀ e ∈ all, e.WF) (hT : T ≤ after) (hlo : f ≤ after + 1)
    (hhi : after + 1 ≤ f + all.length) (hw : after + 1 < seqMod) :
    readAll w.save after = .ok ((all.filter (fun e => decide (after < e.seq))).map Rec.toRead) := by
  -- the records truncated away are at most `after`: the filter does not see them
  obtain ⟨⟨n, hn, hent, hdropped⟩, _, _⟩ := winv_mono h hT
  -- the file starts at sequence number `f + n`, which the marker reaches: the last truncated record is `≤ after`
  have hlo' : f + n ≤ after + 1 := consecutive_take_le f all hcons n after hn hdropped hlo
  unfold Writer.save
  rw [← filter_drop_of_le all n after hdropped, hent]
  exact readAll_consecutive (f + n) _ (fun x hx => hwf x (List.mem_of_mem_drop hx)) (consecutive_drop f all hcons n) after
    hlo' (by rw [List.length_drop]; omega) hw

end Rxn.Wal
