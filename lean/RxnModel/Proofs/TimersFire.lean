import RxnModel.Proofs.TimersStore
import RxnModel.Proofs.Watermark
/-!
The fire loop of `AdvanceWatermark` at the level of DB keys (`FireOK`): it fires owned timer keys whose timestamp is at or
before the composite watermark, each once, in non-decreasing timestamp-byte order, deletes exactly those from the DB, and
stops when no owned key is left or the one with the least timestamp bytes is later than the composite. That this is every
due key needs the byte order to be the time order (`leTs_iff`, well-formed keys) and is `advance_refines`.
-/
namespace Rxn.Timers
open Rxn Rxn.Bytes

/-- of a timer key as stored in the DB (`Store.owns` is about subject keys) -/
def Store.ownsKey (s : Store) (k : Bytes) : Prop := ∃ (j : Nat) (q : KGPQ), s.parts[j]? = some q ∧ Bytes.hasPrefix k q.pfx = true

theorem mem_timerKeys (s : Store) (k : Bytes) : k ∈ s.timerKeys ↔ k ∈ s.db ∧ s.ownsKey k := by
  unfold Store.timerKeys Store.ownsKey
  rw [List.mem_flatMap]
  constructor
  · rintro ⟨q, hq, hk⟩
    obtain ⟨j, hj⟩ := List.mem_iff_getElem?.mp hq
    exact ⟨(mem_scan.mp hk).1, j, q, hj, (mem_scan.mp hk).2⟩
  · rintro ⟨hdb, j, q, hj, hp⟩
    exact ⟨q, List.mem_iff_getElem?.mpr ⟨j, hj⟩, mem_scan.mpr ⟨hdb, hp⟩⟩

/-- distinct partitions serve distinct key groups, and each scan is sorted -/
theorem timerKeys_nodup {s : Store} (hs : SInv s) : s.timerKeys.Nodup := by
  refine List.pairwise_flatMap.mpr ⟨fun q _ => (scan_sorted hs.db _).nodup, ?_⟩
  rw [List.pairwise_iff_getElem]
  intro i j hi hj hij x hx1 y hx2 hxy
  subst hxy
  have hb := hs.bound
  rw [mem_scan, (hs.parts i _ (List.getElem?_eq_getElem hi)).2] at hx1
  rw [mem_scan, (hs.parts j _ (List.getElem?_eq_getElem hj)).2] at hx2
  have := kgPrefix_inj (by omega) (by omega) hx1.2 hx2.2
  omega

theorem ownsKey_iff_idx {s : Store} (hs : SInv s) (k : Bytes) :
    s.ownsKey k ↔ ∃ j, j < s.parts.length ∧ Bytes.hasPrefix k (kgPrefix (s.start + j)) = true := by
  constructor
  · rintro ⟨j, q, hj, hp⟩
    exact ⟨j, (List.getElem?_eq_some_iff.mp hj).1, (hs.parts j q hj).2 ▸ hp⟩
  · rintro ⟨j, hj, hp⟩
    exact ⟨j, s.parts[j], List.getElem?_eq_getElem hj, (hs.parts j _ (List.getElem?_eq_getElem hj)).2 ▸ hp⟩

/-- a step keeps start and number of the partitions, and under the invariant these fix their prefixes -/
theorem ownsKey_step {s s' : Store} {db' : DB} (hs : SInv s) (h : StoreStep s s' db') (k : Bytes) : s'.ownsKey k ↔ s.ownsKey k := by
  rw [ownsKey_iff_idx h.inv, ownsKey_iff_idx hs, h.start, h.len]

theorem ownsKey_iff {s : Store} (hs : SInv s) {kgc start stop : Nat} (hsh : Shape s kgc start stop) (k : Bytes) :
    s.ownsKey k ↔ ∃ g, start ≤ g ∧ g < stop ∧ Bytes.hasPrefix k (kgPrefix g) = true := by
  have hle := hsh.hle
  rw [ownsKey_iff_idx hs, hsh.hstart, hsh.hlen]
  constructor
  · rintro ⟨j, hj, hp⟩
    exact ⟨start + j, by omega, by omega, hp⟩
  · rintro ⟨g, h1, h2, hp⟩
    exact ⟨g - start, Nat.sub_lt_sub_right h1 h2, by rwa [Nat.add_sub_cancel' h1]⟩

theorem mem_timerKeys_step {s s' : Store} {db' : DB} (hs : SInv s) (h : StoreStep s s' db') (x : Bytes) :
    x ∈ s'.timerKeys ↔ x ∈ db' ∧ s.ownsKey x := by
  rw [mem_timerKeys, h.db, ownsKey_step hs h]

theorem partIdx_of_owns (s : Store) (hs : SInv s) (k : Bytes) (h : s.ownsKey k) :
    s.partIdx k < s.parts.length ∧ Bytes.hasPrefix k (kgPrefix (s.start + s.partIdx k)) = true := by
  obtain ⟨j, hjl, hp⟩ := (ownsKey_iff_idx hs k).mp h
  have := partIdx_of_prefix s hs k j hjl hp
  rw [this]
  exact ⟨hjl, hp⟩

theorem deleteKey_of_mem (s : Store) (hs : SInv s) (k : Bytes) (hk : k ∈ s.timerKeys) :
    StoreStep s (s.deleteKey k) (s.db.erase k) ∧ ∀ x, x ∈ (s.deleteKey k).timerKeys ↔ (x ∈ s.timerKeys ∧ x ≠ k) := by
  have hstep := deleteKey_spec s hs k (partIdx_of_owns s hs k ((mem_timerKeys s k).mp hk).2).1
  refine ⟨hstep, fun x => ?_⟩
  rw [mem_timerKeys_step hs hstep, mem_timerKeys, mem_erase_sorted hs.db]
  exact and_assoc.trans and_comm

theorem earliest_spec (s : Store) (hs : SInv s) :
    (s.earliest = none → s.timerKeys = []) ∧
    ∀ k, s.earliest = some k → k ∈ s.timerKeys ∧ ∀ k' ∈ s.timerKeys, leTs k k' := by
  have hfold : s.earliest = (s.parts.map fun q => (s.db.scan q.pfx).head?).foldl better none := by
    unfold Store.earliest
    rw [List.foldl_map]
    refine List.foldl_rel (r := Eq) rfl (fun q hq best _ e => ?_)
    obtain ⟨j, hj⟩ := List.mem_iff_getElem?.mp hq
    rw [e, KGPQ.peekView_eq q s.db (hs.parts j q hj).1 hs.db]
  obtain ⟨f1, _, f3⟩ := foldl_select better headLe headLe_refl headLe_trans better_min
    (s.parts.map fun q => (s.db.scan q.pfx).head?) none
  rw [← hfold] at f1 f3
  have hhead : ∀ q ∈ s.parts, headLe s.earliest (s.db.scan q.pfx).head? := fun q hq =>
    f3 _ (List.mem_map.mpr ⟨q, hq, rfl⟩)
  refine ⟨fun hnone => ?_, fun k hk => ⟨?_, fun k' hk' => ?_⟩⟩
  · apply List.flatMap_eq_nil_iff.mpr
    intro q hq
    have := hhead q hq
    rw [hnone] at this
    exact List.head?_eq_none_iff.mp (headLe_none_left this)
  · rcases f1 with e | e
    · rw [hk] at e; cases e
    · obtain ⟨q, hq, hqk⟩ := List.mem_map.mp e
      rw [hk] at hqk
      exact List.mem_flatMap.mpr ⟨q, hq, List.mem_of_head? hqk⟩
  · obtain ⟨q', hq', hkq'⟩ := List.mem_flatMap.mp hk'
    obtain ⟨j', hj'⟩ := List.mem_iff_getElem?.mp hq'
    have hlen : q'.pfx.length = 3 := by rw [(hs.parts j' q' hj').2]; exact kgPrefix_length _
    obtain ⟨h', hh', hle⟩ := scan_head_le hs.db hlen hkq'
    have := hhead q' hq'
    rw [hk, hh'] at this
    exact leTs_trans this hle

/-- what one run of the fire loop does, in terms of DB keys -/
structure FireOK (comp : Int) (s s' : Store) (fired : List (Bytes × Int)) (keys : List Bytes) : Prop where
  fired : fired = keys.map timerOf
  inv : SInv s'
  db : s'.db = keys.foldl (fun d k => d.erase k) s.db
  len : s'.parts.length = s.parts.length
  start : s'.start = s.start
  kgc : s'.kgc = s.kgc
  owns : ∀ k, s'.ownsKey k ↔ s.ownsKey k
  due : ∀ k ∈ keys, k ∈ s.timerKeys ∧ (timerOf k).2 ≤ comp
  ordered : keys.Pairwise leTs
  nodup : keys.Nodup
  remaining : ∀ x, x ∈ s'.timerKeys ↔ (x ∈ s.timerKeys ∧ x ∉ keys)
  stopped : s'.earliest = none ∨ ∃ k, s'.earliest = some k ∧ (timerOf k).2 > comp

theorem FireOK.shape {comp : Int} {s s' : Store} {fired : List (Bytes × Int)} {keys : List Bytes}
    (f : FireOK comp s s' fired keys) {kgc start stop : Nat} (h : Shape s kgc start stop) : Shape s' kgc start stop :=
  ⟨f.kgc.trans h.hkgc, f.start.trans h.hstart, f.len.trans h.hlen, h.hle⟩

theorem fireLoop_done (comp : Int) {s : Store} (h : s.nextDue comp = none) (n : Nat) : fireLoop comp n s = (s, []) := by
  cases n with
  | zero => rfl
  | succ n =>
    rcases nextDue_eq_none.mp h with he | ⟨k, he, hk⟩
    · simp only [fireLoop, he]
    · simp only [fireLoop, he, (Wm.fireStop_iff _ _).mpr hk, if_true]

theorem fireLoop_fire (comp : Int) {s : Store} {k : Bytes} (h : s.nextDue comp = some k) (n : Nat) :
    fireLoop comp (n + 1) s = ((fireLoop comp n (s.deleteKey k)).1, timerOf k :: (fireLoop comp n (s.deleteKey k)).2) := by
  obtain ⟨he, hc⟩ := nextDue_eq_some.mp h
  have : ¬ Wm.timeCond Facts.fireStopCond (timerOf k).2 comp = true := fun e =>
    Int.not_lt.mpr hc ((Wm.fireStop_iff _ _).mp e)
  simp only [fireLoop, he, this, Bool.false_eq_true, if_false]

/-- each firing deletes a stored key, so fuel beyond the length of the DB is never used up -/
theorem fireLoop_spec (comp : Int) (n : Nat) (s : Store) (hs : SInv s) (hn : s.db.length < n) :
    ∃ keys, FireOK comp s (fireLoop comp n s).1 (fireLoop comp n s).2 keys := by
  induction n generalizing s with
  | zero => omega
  | succ n ih =>
    cases he : s.nextDue comp with
    | none =>
      rw [fireLoop_done comp he]
      exact ⟨[], {
        fired := rfl, inv := hs, db := rfl, len := rfl, start := rfl, kgc := rfl, owns := fun _ => Iff.rfl, due := nofun,
        ordered := List.Pairwise.nil, nodup := List.nodup_nil, remaining := by simp, stopped := nextDue_eq_none.mp he }⟩
    | some k0 =>
      rw [fireLoop_fire comp he]
      obtain ⟨he, hdue⟩ := nextDue_eq_some.mp he
      obtain ⟨hk0mem, hk0min⟩ := (earliest_spec s hs).2 k0 he
      obtain ⟨hstep, hmem1⟩ := deleteKey_of_mem s hs k0 hk0mem
      have hk0db := ((mem_timerKeys s k0).mp hk0mem).1
      have hlen1 : (s.deleteKey k0).db.length < n := by
        haveI := lawfulBEq_bytes
        rw [hstep.db, List.length_erase_of_mem hk0db]
        have := List.length_pos_of_mem hk0db
        omega
      obtain ⟨keys1, r⟩ := ih (s.deleteKey k0) hstep.inv hlen1
      have hlater : ∀ k ∈ keys1, k ∈ s.timerKeys ∧ k ≠ k0 := fun k hk => (hmem1 k).mp (r.due k hk).1
      exact ⟨k0 :: keys1, {
        fired := by simp [r.fired]
        inv := r.inv
        db := by rw [r.db, hstep.db]; rfl
        len := r.len.trans hstep.len
        start := r.start.trans hstep.start
        kgc := r.kgc.trans hstep.kgc
        owns := fun k => by rw [r.owns k, ownsKey_step hs hstep]
        due := by
          intro k hk
          rcases List.mem_cons.mp hk with e | e
          · subst e; exact ⟨hk0mem, hdue⟩
          · exact ⟨(hlater k e).1, (r.due k e).2⟩
        ordered := List.pairwise_cons.mpr ⟨fun k hk => hk0min k (hlater k hk).1, r.ordered⟩
        nodup := List.nodup_cons.mpr ⟨fun hk => (hlater k0 hk).2 rfl, r.nodup⟩
        remaining := by
          intro x
          rw [r.remaining x, hmem1 x]
          simp only [List.mem_cons, not_or]
          exact and_assoc
        stopped := r.stopped }⟩

/-!
`fireLoop comp n` with fuel `n` is the iterator of `TimerRegistry.AdvanceWatermark` whose consumer stops after `n` timers
(the code deletes a timer before it yields it, so a consumer that stops has taken exactly the timers that are gone).
-/

theorem fireLoop_split (comp : Int) (a b : Nat) (s : Store) :
    fireLoop comp (a + b) s =
      ((fireLoop comp b (fireLoop comp a s).1).1, (fireLoop comp a s).2 ++ (fireLoop comp b (fireLoop comp a s).1).2) := by
  induction a generalizing s with
  | zero => simp [fireLoop]
  | succ a ih =>
    rw [Nat.add_right_comm]
    cases h : s.nextDue comp with
    | none => simp [fireLoop_done comp h]
    | some k => simp [fireLoop_fire comp h, ih (s.deleteKey k)]

theorem fireLoop_inv (comp : Int) (n : Nat) (s : Store) (hs : SInv s) : SInv (fireLoop comp n s).1 := by
  induction n generalizing s with
  | zero => exact hs
  | succ n ih =>
    cases he : s.nextDue comp with
    | none => rw [fireLoop_done comp he]; exact hs
    | some k0 =>
      rw [fireLoop_fire comp he]
      exact ih _ (deleteKey_of_mem s hs k0 ((earliest_spec s hs).2 k0 (nextDue_eq_some.mp he).1).1).1.inv

theorem fireLoop_saturated (comp : Int) (a b : Nat) (s : Store) (hs : SInv s) (ha : s.db.length < a) :
    fireLoop comp (a + b) s = fireLoop comp a s := by
  obtain ⟨keys, ok⟩ := fireLoop_spec comp a s hs ha
  rw [fireLoop_split, fireLoop_done comp (nextDue_eq_none.mpr ok.stopped) b]
  simp

theorem fireLoop_partial_then_drain (comp : Int) (k : Nat) (s : Store) (hs : SInv s) :
    let p := fireLoop comp k s
    let d := fireLoop comp (p.1.db.length + 1) p.1
    (fireLoop comp (s.db.length + 1) s).1 = d.1 ∧ (fireLoop comp (s.db.length + 1) s).2 = p.2 ++ d.2 := by
  intro p d
  have hp : SInv p.1 := fireLoop_inv comp k s hs
  -- more fuel does not change a drained loop: the one on the left may be given `k + (p.1.db.length + 1)` more, and then
  -- splits after `k` into `p` and a loop from `p.1` that is `d` with fuel it does not use
  have h1 : fireLoop comp (s.db.length + 1) s = fireLoop comp ((s.db.length + 1) + (k + (p.1.db.length + 1))) s :=
    (fireLoop_saturated comp _ _ s hs (Nat.lt_succ_self _)).symm
  have h2 : (s.db.length + 1) + (k + (p.1.db.length + 1)) = k + ((p.1.db.length + 1) + (s.db.length + 1)) := by omega
  have h3 : fireLoop comp ((p.1.db.length + 1) + (s.db.length + 1)) p.1 = d :=
    fireLoop_saturated comp _ _ p.1 hp (Nat.lt_succ_self _)
  rw [h1, h2, fireLoop_split, h3]
  exact ⟨rfl, rfl⟩

end Rxn.Timers
