import RxnModel.Proofs.RescaleRead
import RxnModel.Proofs.KeySpace
import RxnModel.Proofs.Lists
/-! Key order refines key-group order, so tables of sources with non-overlapping key-group ranges have disjoint key ranges and a
table of another source never contains an owned key; hence every deeper level of the composite level list, sorted by start
key, is a valid layout (`LevelValid`, Proofs/RescaleRead.lean) for every handle order.
The composite is read level by level: `mergeLevels cs = (List.range n).map (mergedLevel cs)` for one handle or many. -/
namespace Rxn.Rescale
open Rxn Lsm Rxn.Search

/-- key order refines key-group order: the key group is the big-endian value of the first two bytes, `≤` survives `take 2`,
and on equal widths `bytes.Compare` is the numeric order -/
theorem kgOf_mono {a b : Bytes} (ha : 2 ≤ a.length) (hb : 2 ≤ b.length) (h : Bytes.cmp a b ≠ .gt) :
    kgOf a ≤ kgOf b :=
  Nat.not_lt.mp fun hlt => Bytes.cmp_take_ne_gt 2 a b h ((Bytes.cmp_gt_iff_beNat _ _
    (by rw [List.length_take, List.length_take, Nat.min_eq_left ha, Nat.min_eq_left hb])).mpr hlt)

theorem cmp_lt_of_ranges {ra rb : KGRange} {a b : Bytes} (ha : 2 ≤ a.length) (hb : 2 ≤ b.length)
    (hia : ra.includes (kgOf a) = true) (hib : rb.includes (kgOf b) = true) (h : ra.stop ≤ rb.start) :
    Bytes.cmp a b = .lt := by
  have hlt : kgOf a < kgOf b :=
    Nat.lt_of_lt_of_le (KGRange.includes_iff.mp hia).2 (Nat.le_trans h (KGRange.includes_iff.mp hib).1)
  cases hc : Bytes.cmp a b with
  | lt => rfl
  | eq | gt =>
    -- otherwise `b ≤ a`, and so are their key groups
    exact absurd (kgOf_mono hb ha fun hg => by rw [Bytes.cmp_gt_iff_lt.mp hg] at hc; cases hc) (Nat.not_le.mpr hlt)

/-- the table's boundary keys carry key groups of the range (the keys of an instance start with its key groups) -/
structure TblIn (r : KGRange) (t : Tbl) : Prop where
  startLen : 2 ≤ t.startKey.length
  endLen : 2 ≤ t.endKey.length
  startIn : r.includes (kgOf t.startKey) = true
  endIn : r.includes (kgOf t.endKey) = true

/-- what tables of different sources satisfy before the level is sorted -/
def Sep (t u : Tbl) : Prop := Before t u ∨ Before u t

theorem sep_of_disjoint (ra rb : KGRange) (t u : Tbl) (ht : TblIn ra t) (hu : TblIn rb u)
    (hd : ra.overlaps rb = false) : Sep t u :=
  ((KGRange.overlaps_false_iff ra rb).mp hd).imp (cmp_lt_of_ranges ht.endLen hu.startLen ht.endIn hu.startIn)
    (cmp_lt_of_ranges hu.endLen ht.startLen hu.endIn ht.startIn)

theorem not_contains_of_disjoint (ra rb : KGRange) (t : Tbl) (ht : TblIn ra t) (k : Bytes)
    (hk : rb.includes (kgOf k) = true) (hlen : 2 ≤ k.length) (hd : ra.overlaps rb = false) :
    t.rangeContainsKey k = false := by
  rw [← Bool.not_eq_true, rangeContainsKey_iff]
  rintro ⟨h1, h2⟩
  rcases (KGRange.overlaps_false_iff ra rb).mp hd with hc | hc
  · exact h2 (cmp_lt_of_ranges ht.endLen hlen ht.endIn hk hc)
  · exact h1 (Bytes.cmp_lt_iff_gt.mp (cmp_lt_of_ranges hlen ht.startLen hk ht.startIn hc))

theorem key_ne_of_disjoint (ra rb : KGRange) (w k : Bytes) (hw : ra.includes (kgOf w) = true)
    (hk : rb.includes (kgOf k) = true) (hd : ra.overlaps rb = false) : w ≠ k := by
  intro h; subst h
  rw [KGRange.overlaps_of_includes hw hk] at hd; cases hd

theorem tblLe_trans (a b c : Tbl) (h1 : tblLe a b = true) (h2 : tblLe b c = true) : tblLe a c = true := by
  simp only [tblLe, bne_iff_ne, ne_eq] at *
  exact Bytes.cmp_ne_gt_trans h1 h2

theorem tblLe_total (a b : Tbl) : (tblLe a b || tblLe b a) = true := by
  simp only [tblLe, Bool.or_eq_true, bne_iff_ne, ne_eq]
  by_cases h : Bytes.cmp a.startKey b.startKey = .gt
  · right; rw [Bytes.cmp_gt_iff_lt.mp h]; simp
  · left; exact h

theorem sortLevel_valid (l : List Tbl) (hok : ∀ t ∈ l, TblOk t) (hsep : l.Pairwise Sep) :
    LevelValid (sortLevel l) := by
  have hperm := List.mergeSort_perm l tblLe
  have hsorted := List.pairwise_mergeSort tblLe_trans tblLe_total l
  have hsep' : (sortLevel l).Pairwise Sep := (hperm.pairwise_iff Or.symm).mpr hsep
  refine ⟨fun t ht => hok t (hperm.mem_iff.mp ht), ?_⟩
  refine (hsep'.and hsorted).imp_of_mem ?_
  intro t u _ hu ⟨hs, hle⟩
  rcases hs with h | h
  · exact h
  · -- `u` entirely before `t` contradicts `start t ≤ start u ≤ end u`
    exfalso
    have hu' : TblOk u := hok u (hperm.mem_iff.mp hu)
    simp only [tblLe, bne_iff_ne, ne_eq] at hle
    have h1 : Bytes.cmp u.startKey t.startKey = .lt := Bytes.cmp_le_lt_trans hu' h
    have h2 : Bytes.cmp t.startKey t.startKey = .lt := Bytes.cmp_le_lt_trans hle h1
    rw [Bytes.cmp_self] at h2; cases h2

theorem sortLevel_of_valid (l : List Tbl) (h : LevelValid l) : sortLevel l = l := by
  refine List.mergeSort_of_pairwise (List.Pairwise.imp_of_mem ?_ h.2)
  intro a b ha _ hab
  simp [tblLe, Bytes.cmp_le_lt_trans (h.1 a ha) hab]

/-- the layout part of what is assumed of one old instance's checkpoint: every table only spans key groups of the
instance's range, and its deeper levels are valid (C07/C18 layout invariant of a single instance) -/
structure CkptOk (r : KGRange) (c : Ckpt) : Prop where
  tables : ∀ l ∈ c.levels, ∀ t ∈ l, TblIn r t ∧ TblOk t
  deeper : ∀ i l, 1 ≤ i → c.levels[i]? = some l → LevelValid l

theorem CkptOk.of_getD {r : KGRange} {c : Ckpt} (h : CkptOk r c) {i : Nat} {t : Tbl} (ht : t ∈ c.levels.getD i []) :
    TblIn r t ∧ TblOk t :=
  h.tables _ (getD_mem_of_ne_nil (List.ne_nil_of_mem ht)).2 t ht

theorem mem_concatLevel {cs : List Ckpt} {i : Nat} {t : Tbl} :
    t ∈ concatLevel cs i ↔ ∃ c ∈ cs, t ∈ c.levels.getD i [] := by
  rw [concatLevel, ← List.flatMap_def]
  exact List.mem_flatMap

theorem concatLevel_split (x : List Ckpt) (c : Ckpt) (y : List Ckpt) (i : Nat) :
    concatLevel (x ++ c :: y) i = concatLevel x i ++ (c.levels.getD i [] ++ concatLevel y i) := by
  simp [concatLevel]

theorem concatLevel_pairs (ps : List (KGRange × Ckpt)) (i : Nat) :
    concatLevel (ps.map (·.2)) i = ps.flatMap (fun p => p.2.levels.getD i []) :=
  List.flatMap_map _ _ _

theorem concatLevel_pairwise {R : Tbl → Tbl → Prop} {D : KGRange × Ckpt → KGRange × Ckpt → Prop}
    (ps : List (KGRange × Ckpt)) (hdis : ps.Pairwise D) (i : Nat)
    (within : ∀ p ∈ ps, (p.2.levels.getD i []).Pairwise R)
    (across : ∀ a ∈ ps, ∀ b ∈ ps, D a b → ∀ t ∈ a.2.levels.getD i [], ∀ u ∈ b.2.levels.getD i [], R t u) :
    (concatLevel (ps.map (·.2)) i).Pairwise R := by
  rw [concatLevel_pairs, List.pairwise_flatMap]
  exact ⟨within, hdis.imp_of_mem fun ha hb hab => across _ ha _ hb hab⟩

theorem concatLevel_sep (ps : List (KGRange × Ckpt)) (hok : ∀ p ∈ ps, CkptOk p.1 p.2)
    (hdis : ps.Pairwise (fun a b => a.1.overlaps b.1 = false)) (i : Nat) (hi : 1 ≤ i) :
    (concatLevel (ps.map (·.2)) i).Pairwise Sep := by
  refine concatLevel_pairwise ps hdis i ?_ ?_
  · intro p hp
    rw [List.getD_eq_getElem?_getD]
    cases hlv : p.2.levels[i]? with
    | none => exact List.Pairwise.nil
    | some lv => exact ((hok p hp).deeper i lv hi hlv).2.imp Or.inl
  · intro a ha b hb hab t ht u hu
    exact sep_of_disjoint a.1 b.1 t u ((hok a ha).of_getD ht).1 ((hok b hb).of_getD hu).1 hab

theorem sortLevel_concat_valid (ps : List (KGRange × Ckpt)) (hok : ∀ p ∈ ps, CkptOk p.1 p.2)
    (hdis : ps.Pairwise (fun a b => a.1.overlaps b.1 = false)) (i : Nat) (hi : 1 ≤ i) :
    LevelValid (sortLevel (concatLevel (ps.map (·.2)) i)) := by
  refine sortLevel_valid _ (fun t ht => ?_) (concatLevel_sep ps hok hdis i hi)
  obtain ⟨p, hp, htp⟩ := List.mem_flatMap.mp (concatLevel_pairs ps i ▸ ht)
  exact ((hok p hp).of_getD htp).2

/-- level `i` of the composite of the handles `cs`: a single handle's levels are taken as they are -/
def mergedLevel (cs : List Ckpt) (i : Nat) : List Tbl :=
  if i = 0 ∨ cs.length = 1 then concatLevel cs i else sortLevel (concatLevel cs i)

theorem mergedLevel_zero (cs : List Ckpt) : mergedLevel cs 0 = concatLevel cs 0 := if_pos (Or.inl rfl)

theorem mergedLevel_single (c : Ckpt) (i : Nat) : mergedLevel [c] i = c.levels.getD i [] :=
  (if_pos (.inr rfl)).trans (List.append_nil _)

theorem mem_mergedLevel {cs : List Ckpt} {i : Nat} {t : Tbl} :
    t ∈ mergedLevel cs i ↔ ∃ c ∈ cs, t ∈ c.levels.getD i [] := by
  rw [← mem_concatLevel]
  unfold mergedLevel
  split
  · rfl
  · exact List.mem_mergeSort

theorem mergeLevels_cons (c : Ckpt) (cs : List Ckpt) :
    mergeLevels (c :: cs) = (List.range c.levels.length).map (mergedLevel (c :: cs)) := by
  cases cs with
  | nil =>
    refine List.ext_getElem (by rw [List.length_map, List.length_range]; rfl) fun i h _ => ?_
    rw [List.getElem_map, List.getElem_range, mergedLevel_single, List.getD_eq_getElem?_getD,
      List.getElem?_eq_getElem (show i < c.levels.length from h)]
    rfl
  | cons b t =>
    refine List.map_congr_left fun i _ => ?_
    unfold mergedLevel
    by_cases hi : i = 0
    · rw [if_pos hi, if_pos (Or.inl hi), hi]
    · rw [if_neg hi, if_neg fun h => h.elim hi fun h => Nat.succ_ne_zero _ (Nat.succ.inj h)]

theorem mergeLevels_eq (cs : List Ckpt) (n : Nat) (hne : cs ≠ []) (hn : ∀ c ∈ cs, c.levels.length = n) :
    mergeLevels cs = (List.range n).map (mergedLevel cs) := by
  match cs, hne with
  | c :: cs, _ => rw [mergeLevels_cons, hn c List.mem_cons_self]

theorem mergeLevels_tail_valid (ps : List (KGRange × Ckpt)) (hok : ∀ p ∈ ps, CkptOk p.1 p.2)
    (hdis : ps.Pairwise (fun a b => a.1.overlaps b.1 = false)) : ∀ l ∈ (mergeLevels (ps.map (·.2))).tail, LevelValid l :=
  tail_of_deeper fun i l hi hl => by
    match ps, hok, hdis with
    | [], _, _ => cases hl
    | [p], hok, _ => exact (hok p List.mem_cons_self).deeper i l hi hl
    | p :: q :: rest, hok, hdis =>
      rw [List.map_cons, mergeLevels_cons, List.getElem?_map] at hl
      obtain ⟨j, hj, rfl⟩ := Option.map_eq_some_iff.mp hl
      obtain ⟨_, rfl⟩ := List.getElem?_eq_some_iff.mp hj
      rw [List.getElem_range, mergedLevel, if_neg (by simp [Nat.ne_of_gt hi])]
      exact sortLevel_concat_valid (p :: q :: rest) hok hdis i hi

theorem mergeLevels_length (cs : List Ckpt) (n : Nat) (hne : cs ≠ []) (hn : ∀ c ∈ cs, c.levels.length = n) :
    (mergeLevels cs).length = n := by
  rw [mergeLevels_eq cs n hne hn, List.length_map, List.length_range]

theorem mergeLevels_level0 (cs : List Ckpt) (n : Nat) (hn : 1 ≤ n) (hne : cs ≠ [])
    (hnl : ∀ c ∈ cs, c.levels.length = n) : (mergeLevels cs)[0]? = some (concatLevel cs 0) := by
  rw [mergeLevels_eq cs n hne hnl, List.getElem?_map, List.getElem?_range hn, Option.map_some, mergedLevel_zero]

theorem mem_mergeLevels {cs : List Ckpt} {n : Nat} (hn : ∀ c ∈ cs, c.levels.length = n) {t : Tbl} :
    t ∈ (mergeLevels cs).flatten ↔ ∃ c ∈ cs, t ∈ c.levels.flatten := by
  by_cases hne : cs = []
  · subst hne; exact ⟨fun h => (nomatch h), fun ⟨_, hc, _⟩ => (nomatch hc)⟩
  rw [mergeLevels_eq cs n hne hn]
  constructor
  · intro h
    obtain ⟨_, hl, ht⟩ := List.mem_flatten.mp h
    obtain ⟨i, _, rfl⟩ := List.mem_map.mp hl
    obtain ⟨c, hc, htc⟩ := mem_mergedLevel.mp ht
    exact ⟨c, hc, (mem_flatten_iff_getD _ t).mpr ⟨i, htc⟩⟩
  · rintro ⟨c, hc, ht⟩
    obtain ⟨i, htc⟩ := (mem_flatten_iff_getD _ t).mp ht
    have hi : i < n := hn c hc ▸ (getD_mem_of_ne_nil (List.ne_nil_of_mem htc)).1
    exact List.mem_flatten.mpr ⟨_, List.mem_map.mpr ⟨i, List.mem_range.mpr hi, rfl⟩,
      mem_mergedLevel.mpr ⟨c, hc, htc⟩⟩

end Rxn.Rescale
