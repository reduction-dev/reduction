import RxnModel.Model.Store
import RxnModel.Proofs.Lists
/-! Lemmas about `Model/Store.lean` for C12. `Snap.WF` ties a snapshot's flag maps to its recorded acknowledgements;
`Accepts` is the one way an acknowledgement, from an operator or a source runner, changes a snapshot; `Inv` says the
pending snapshot is well formed, made of calls of the history and carries the counter's id. A call is classified once
(`StepCase`); what a step keeps and how it moves the counter are read off the cases, then over a trace. -/
namespace Rxn.Store

theorem dedup_cons (x : Nat) (xs : List Nat) : dedup (x :: xs) = if x ∈ xs then dedup xs else x :: dedup xs := rfl

theorem mem_dedup {x : Nat} {l : List Nat} : x ∈ dedup l ↔ x ∈ l := by
  induction l with
  | nil => exact Iff.rfl
  | cons a t ih =>
    rw [dedup_cons]
    by_cases h : a ∈ t
    · rw [if_pos h, ih, List.mem_cons]
      exact ⟨Or.inr, fun hx => hx.elim (fun e => e ▸ h) id⟩
    · rw [if_neg h, List.mem_cons, List.mem_cons, ih]

theorem nodup_dedup (l : List Nat) : (dedup l).Nodup := by
  induction l with
  | nil => exact List.nodup_nil
  | cons a t ih =>
    rw [dedup_cons]
    by_cases h : a ∈ t
    · simpa [h] using ih
    · simp only [h, if_false, List.nodup_cons]
      exact ⟨fun hm => h (mem_dedup.mp hm), ih⟩

theorem mkFlags_keys (l : List Nat) : (mkFlags l).map (·.1) = dedup l := by
  simp [mkFlags, List.map_map, Function.comp_def]

theorem mkFlags_false {l : List Nat} {e : Nat × Bool} (h : e ∈ mkFlags l) : e.2 = false := by
  simp only [mkFlags, List.mem_map] at h
  obtain ⟨a, _, rfl⟩ := h
  rfl

theorem lookup_none_iff {m : List (Nat × Bool)} {k : Nat} : m.lookup k = none ↔ k ∉ m.map (·.1) := by
  rw [List.lookup_eq_none_iff, List.mem_map]
  exact ⟨fun h ⟨e, he, hk⟩ => by have := h e he; rw [hk] at this; simp at this,
    fun h e he => bne_iff_ne.mpr (fun hk => h ⟨e, he, hk.symm⟩)⟩

theorem lookup_some_iff {m : List (Nat × Bool)} (hn : (m.map (·.1)).Nodup) {k : Nat} {b : Bool} :
    m.lookup k = some b ↔ (k, b) ∈ m := by
  induction m with
  | nil => simp
  | cons e t ih =>
    obtain ⟨a, c⟩ := e
    rw [List.map_cons, List.nodup_cons] at hn
    rw [List.lookup_cons, List.mem_cons]
    by_cases h : k = a
    · subst h
      have : (k, b) ∉ t := fun hh => hn.1 (List.mem_map.mpr ⟨_, hh, rfl⟩)
      simp [this, eq_comm]
    · rw [beq_false_of_ne h, ih hn.2]
      simp [h]

theorem setFlag_keys (m : List (Nat × Bool)) (k : Nat) : (setFlag m k).map (·.1) = m.map (·.1) := by
  rw [setFlag, List.map_map]
  exact List.map_congr_left fun e _ => by show (if e.1 = k then (e.1, true) else e).1 = e.1; split <;> rfl

theorem mem_setFlag_true {m : List (Nat × Bool)} {k o : Nat} :
    (o, true) ∈ setFlag m k ↔ (o, true) ∈ m ∨ (o = k ∧ k ∈ m.map (·.1)) := by
  unfold setFlag
  rw [List.mem_map]
  constructor
  · rintro ⟨e, he, heq⟩
    split at heq
    · next hk => cases heq; exact .inr ⟨hk, List.mem_map.mpr ⟨e, he, hk⟩⟩
    · exact .inl (heq ▸ he)
  · rintro (h | ⟨rfl, hk⟩)
    · exact ⟨_, h, by split <;> rfl⟩
    · obtain ⟨e, he, hek⟩ := List.mem_map.mp hk
      exact ⟨e, he, by rw [if_pos hek, hek]⟩

theorem setFlag_flagged {m : List (Nat × Bool)} {d : List Nat} {k : Nat}
    (hd : ∀ o, (o, true) ∈ m ↔ o ∈ d) (hl : m.lookup k = some false) (o : Nat) :
    (o, true) ∈ setFlag m k ↔ o ∈ d ++ [k] := by
  have hkey : k ∈ m.map (·.1) := Decidable.of_not_not fun h => by rw [lookup_none_iff.mpr h] at hl; cases hl
  rw [mem_setFlag_true, hd o, List.mem_append, List.mem_singleton]
  exact ⟨fun h => h.imp_right And.left, fun h => h.imp_right (fun h => ⟨h, hkey⟩)⟩

theorem nodup_flagged_concat {m : List (Nat × Bool)} {d : List Nat} {k : Nat} (hn : (m.map (·.1)).Nodup)
    (hd : ∀ o, (o, true) ∈ m ↔ o ∈ d) (hdn : d.Nodup) (hl : m.lookup k = some false) : (d ++ [k]).Nodup :=
  nodup_append_singleton hdn fun hh => by
    have := (lookup_some_iff hn).mpr ((hd k).mpr hh)
    rw [hl] at this; cases this

theorem keys_iff_flagged {m : List (Nat × Bool)} {d : List Nat} (hd : ∀ o, (o, true) ∈ m ↔ o ∈ d)
    (hall : ∀ e ∈ m, e.2 = true) (k : Nat) : k ∈ m.map (·.1) ↔ k ∈ d := by
  rw [← hd k]
  constructor
  · intro hk
    obtain ⟨⟨k', b⟩, hm, rfl⟩ := List.mem_map.mp hk
    have hb : b = true := hall _ hm
    exact hb ▸ hm
  · exact fun hm => List.mem_map.mpr ⟨_, hm, rfl⟩

structure Snap.WF (p : Snap) : Prop where
  opsNodup : (p.ops.map (·.1)).Nodup
  srsNodup : (p.srs.map (·.1)).Nodup
  opDone : ∀ o, (o, true) ∈ p.ops ↔ o ∈ p.opEntries.map (·.op)
  opEntNodup : (p.opEntries.map (·.op)).Nodup
  opCp : ∀ e ∈ p.opEntries, e.cp = p.id
  srDone : ∀ r, (r, true) ∈ p.srs ↔ r ∈ p.srAcks.map (·.1)
  srNodup : (p.srAcks.map (·.1)).Nodup
  splits : p.splitStates = p.srAcks.flatMap (·.2)

/-- no field of `WF` mentions `isSavepoint` -/
theorem Snap.WF.setSavepoint {p : Snap} (h : p.WF) (b : Bool) : { p with isSavepoint := b }.WF := { h with }

theorem newSnap_wf (id : Nat) (ops srs : List Nat) (sp : Bool) : (newSnap id ops srs sp).WF where
  opsNodup := by simp only [newSnap, mkFlags_keys]; exact nodup_dedup _
  srsNodup := by simp only [newSnap, mkFlags_keys]; exact nodup_dedup _
  opDone := fun _ => ⟨fun h => Bool.noConfusion (mkFlags_false h), fun h => nomatch h⟩
  opEntNodup := List.nodup_nil
  opCp := fun _ h => nomatch h
  srDone := fun _ => ⟨fun h => Bool.noConfusion (mkFlags_false h), fun h => nomatch h⟩
  srNodup := List.nodup_nil
  splits := rfl

theorem newSnap_complete {id : Nat} {ops srs : List Nat} {sp : Bool}
    (h : (newSnap id ops srs sp).isComplete = true) :
    (newSnap id ops srs sp).ops = [] ∧ (newSnap id ops srs sp).srs = [] := by
  simp only [Snap.isComplete, Bool.and_eq_true, List.all_eq_true] at h
  have aux : ∀ l : List Nat, (∀ e ∈ mkFlags l, e.2 = true) → mkFlags l = [] := fun l hl =>
    List.eq_nil_iff_forall_not_mem.mpr
      (fun e he => Bool.noConfusion ((mkFlags_false he).symm.trans (hl e he)))
  exact ⟨aux ops h.2, aux srs h.1⟩

theorem complete_entries {snap : Snap} (hw : snap.WF) (hc : snap.isComplete = true) :
    (∀ o ∈ snap.expectedOps, ∃ e ∈ snap.opEntries, e.op = o ∧ e.cp = snap.id) ∧
    (snap.opEntries.map (·.op)).Nodup ∧
    (∀ e ∈ snap.opEntries, e.op ∈ snap.expectedOps ∧ e.cp = snap.id) ∧
    (∀ r ∈ snap.expectedSrs, r ∈ snap.srAcks.map (·.1)) ∧
    (snap.srAcks.map (·.1)).Nodup ∧
    (∀ a ∈ snap.srAcks, a.1 ∈ snap.expectedSrs) ∧
    snap.splitStates = snap.srAcks.flatMap (·.2) := by
  simp only [Snap.isComplete, Bool.and_eq_true, List.all_eq_true] at hc
  have hops : ∀ o, o ∈ snap.expectedOps ↔ o ∈ snap.opEntries.map (·.op) := keys_iff_flagged hw.opDone hc.2
  have hsrs : ∀ r, r ∈ snap.expectedSrs ↔ r ∈ snap.srAcks.map (·.1) := keys_iff_flagged hw.srDone hc.1
  refine ⟨fun o ho => ?_, hw.opEntNodup, fun e he => ⟨(hops e.op).mpr (List.mem_map.mpr ⟨e, he, rfl⟩), hw.opCp e he⟩,
    fun r hr => (hsrs r).mp hr, hw.srNodup, fun a ha => (hsrs a.1).mpr (List.mem_map.mpr ⟨a, ha, rfl⟩), hw.splits⟩
  obtain ⟨e, he, heq⟩ := List.mem_map.mp ((hops o).mp ho)
  exact ⟨e, he, heq, hw.opCp e he⟩

/-- the pending snapshot `p` accepts the acknowledgement `c`: it names `p.id` and its sender is expected and has not
acknowledged yet; `p'` is `p` with it recorded. Any other `Add…Snapshot` call leaves the snapshot as it is. -/
inductive Accepts (p : Snap) : Call → Snap → Prop
  | op (op tag : Nat) (hl : p.ops.lookup op = some false) :
      Accepts p (.opAck op p.id tag) { p with ops := setFlag p.ops op, opEntries := p.opEntries ++ [⟨op, p.id, tag⟩] }
  | sr (sr : Nat) (splits : List Nat) (hl : p.srs.lookup sr = some false) :
      Accepts p (.srAck sr p.id splits) { p with srs := setFlag p.srs sr, srAcks := p.srAcks ++ [(sr, splits)],
                                                 splitStates := p.splitStates ++ splits }

theorem addOp_cases (p : Snap) (op tag : Nat) :
    (p.ops.lookup op = some false ∧ Accepts p (.opAck op p.id tag) (addOp p op p.id tag)) ∨
    (p.ops.lookup op ≠ some false ∧ addOp p op p.id tag = p) := by
  unfold addOp
  cases h : p.ops.lookup op with
  | none => exact .inr ⟨nofun, rfl⟩
  | some b =>
    cases b with
    | false => exact .inl ⟨rfl, .op op tag h⟩
    | true => exact .inr ⟨nofun, rfl⟩

theorem addSr_cases (p : Snap) (sr : Nat) (splits : List Nat) :
    (p.srs.lookup sr = none ∧ addSr p sr splits = none) ∨
    (p.srs.lookup sr = some true ∧ addSr p sr splits = some p) ∨
    (p.srs.lookup sr = some false ∧ ∃ p', addSr p sr splits = some p' ∧ Accepts p (.srAck sr p.id splits) p') := by
  unfold addSr
  cases h : p.srs.lookup sr with
  | none => exact .inl ⟨rfl, rfl⟩
  | some b =>
    cases b with
    | false => exact .inr (.inr ⟨rfl, _, rfl, .sr sr splits h⟩)
    | true => exact .inr (.inl ⟨rfl, rfl⟩)

/-- every recorded acknowledgement was a call naming this snapshot's id -/
def Snap.FromCalls (hist : List Call) (p : Snap) : Prop :=
  (∀ e ∈ p.opEntries, Call.opAck e.op p.id e.tag ∈ hist) ∧
  (∀ a ∈ p.srAcks, Call.srAck a.1 p.id a.2 ∈ hist)

theorem Snap.FromCalls.append {h1 : List Call} {p : Snap} (h : p.FromCalls h1) (h2 : List Call) :
    p.FromCalls (h1 ++ h2) :=
  ⟨fun e he => List.mem_append_left _ (h.1 e he), fun a ha => List.mem_append_left _ (h.2 a ha)⟩

namespace Accepts

theorem wf {p p' : Snap} {c : Call} (h : Accepts p c p') (hw : p.WF) : p'.WF := by
  cases h with
  | op op tag hl =>
    have hmap : (p.opEntries ++ [(⟨op, p.id, tag⟩ : OpEntry)]).map (·.op) = p.opEntries.map (·.op) ++ [op] :=
      List.map_append
    exact { hw with
      opsNodup := by rw [setFlag_keys]; exact hw.opsNodup
      opDone := by rw [hmap]; exact setFlag_flagged hw.opDone hl
      opEntNodup := by rw [hmap]; exact nodup_flagged_concat hw.opsNodup hw.opDone hw.opEntNodup hl
      opCp := List.forall_mem_append.mpr ⟨hw.opCp, List.forall_mem_singleton.mpr rfl⟩ }
  | sr sr splits hl =>
    have hmap : (p.srAcks ++ [(sr, splits)]).map (·.1) = p.srAcks.map (·.1) ++ [sr] := List.map_append
    exact { hw with
      srsNodup := by rw [setFlag_keys]; exact hw.srsNodup
      srDone := by rw [hmap]; exact setFlag_flagged hw.srDone hl
      srNodup := by rw [hmap]; exact nodup_flagged_concat hw.srsNodup hw.srDone hw.srNodup hl
      splits := by
        show p.splitStates ++ splits = (p.srAcks ++ [(sr, splits)]).flatMap (·.2)
        rw [List.flatMap_append, hw.splits, List.flatMap_singleton] }

theorem id_eq {p p' : Snap} {c : Call} (h : Accepts p c p') : p'.id = p.id := by cases h <;> rfl

theorem fromCalls {hist : List Call} {p p' : Snap} {c : Call} (h : Accepts p c p') (hf : p.FromCalls hist) :
    p'.FromCalls (hist ++ [c]) := by
  have hf' := hf.append [c]
  have hc : c ∈ hist ++ [c] := List.mem_append_right _ List.mem_cons_self
  cases h with
  | op op tag _ => exact ⟨List.forall_mem_append.mpr ⟨hf'.1, List.forall_mem_singleton.mpr hc⟩, hf'.2⟩
  | sr sr splits _ => exact ⟨hf'.1, List.forall_mem_append.mpr ⟨hf'.2, List.forall_mem_singleton.mpr hc⟩⟩

end Accepts

/-- invariant of reachable store states (`hist` = the calls made so far) -/
def Inv (hist : List Call) (s : St) : Prop :=
  ∀ p, s.pending = some p →
    p.WF ∧ p.FromCalls hist ∧ p.id = s.cid ∧ (p.isComplete = true → p.ops = [] ∧ p.srs = [])

theorem Inv.append {h1 : List Call} {s : St} (hi : Inv h1 s) (h2 : List Call) : Inv (h1 ++ h2) s :=
  fun p hp => let ⟨a, b, c, d⟩ := hi p hp; ⟨a, b.append h2, c, d⟩

/-- a store right after start-up (`NewStore`, `LoadCheckpoint` from local files or from a savepoint): nothing is
pending, the counter is whatever was loaded -/
def Booted (s0 : St) : Prop := s0.pending = none

theorem inv_booted {s0 : St} (h : Booted s0) (hist : List Call) : Inv hist s0 := by
  intro p hp; rw [h] at hp; cases hp

theorem inv_init (hist : List Call) : Inv hist St.init := inv_booted (s0 := St.init) rfl hist

/-- what a snapshot handed to the publisher satisfies -/
structure Snap.Good (hist : List Call) (p : Snap) : Prop where
  wf : p.WF
  complete : p.isComplete = true
  fromCalls : p.FromCalls hist

theorem Snap.Good.append {h1 : List Call} {p : Snap} (h : p.Good h1) (h2 : List Call) : p.Good (h1 ++ h2) :=
  ⟨h.wf, h.complete, h.fromCalls.append h2⟩

theorem finishIfComplete_cases (s : St) (p : Snap) :
    (p.isComplete = true ∧ finishIfComplete s p = ({ s with pending := none }, .ok, some p)) ∨
    (p.isComplete = false ∧ finishIfComplete s p = ({ s with pending := some p }, .ok, none)) := by
  unfold finishIfComplete
  cases h : p.isComplete <;> simp

theorem finishIfComplete_inv {hist : List Call} {s : St} {p : Snap} (hw : p.WF) (hf : p.FromCalls hist) (hid : p.id = s.cid) :
    Inv hist (finishIfComplete s p).1 ∧
    ∀ snap, (finishIfComplete s p).2.2 = some snap → snap.Good hist ∧ snap.id = s.cid := by
  rcases finishIfComplete_cases s p with ⟨hc, he⟩ | ⟨hc, he⟩ <;> rw [he]
  · refine ⟨fun q hq => (nomatch hq), fun snap hs => ?_⟩
    cases hs; exact ⟨⟨hw, hc, hf⟩, hid⟩
  · refine ⟨fun q hq => ?_, fun snap hs => nomatch hs⟩
    cases hq; exact ⟨hw, hf, hid, fun h => by rw [hc] at h; cases h⟩

/-- what the last part of `Inv` is for: a pending snapshot that expects some node is not complete -/
theorem finishIfComplete_pending {hist : List Call} {s : St} {p : Snap} (hi : Inv hist s) (hp : s.pending = some p)
    (hne : p.ops ≠ [] ∨ p.srs ≠ []) : finishIfComplete s p = (s, .ok, none) := by
  rcases finishIfComplete_cases s p with ⟨hc, _⟩ | ⟨_, he⟩
  · obtain ⟨_, _, _, hempty⟩ := hi p hp
    exact absurd (hempty hc) (fun h => hne.elim (fun h1 => h1 h.1) (fun h2 => h2 h.2))
  · rw [he, ← hp]

theorem finishIfComplete_shape (s : St) (p : Snap) :
    (finishIfComplete s p).2.1 = .ok ∧ (finishIfComplete s p).1.cid = s.cid ∧
    (finishIfComplete s p).2.2.toList ++ (finishIfComplete s p).1.pending.toList = [p] := by
  rcases finishIfComplete_cases s p with ⟨_, he⟩ | ⟨_, he⟩ <;> rw [he] <;> exact ⟨rfl, rfl, rfl⟩

inductive StepCase (s : St) (c : Call) : Prop
  | refused (r : Res) (he : step s c = (s, r, none)) (hr : r.created = [])
  | started (hp : s.pending = none) (ops srs : List Nat) (sp : Bool) (r : Res) (hr : r.created = [s.cid + 1])
      (he : step s c = (⟨some (newSnap (s.cid + 1) ops srs sp), s.cid + 1⟩, r, none))
  | folded (p : Snap) (hp : s.pending = some p)
      (he : step s c = ({ s with pending := some { p with isSavepoint := true } }, .spExisting p.id, none))
  | acked (p p' : Snap) (hp : s.pending = some p) (ha : p' = p ∨ Accepts p c p') (he : step s c = finishIfComplete s p')
  | redeployed (hc : c = .redeploy) (he : step s c = ({ s with pending := none }, .ok, none))

theorem step_cases (s : St) (c : Call) : StepCase s c := by
  cases c with
  | create ops srs =>
    cases hp : s.pending with
    | some p => exact .refused .inProgress (by simp only [step, hp]) rfl
    | none => exact .started hp ops srs false (.id (s.cid + 1)) rfl (by simp only [step, hp])
  | savepoint ops srs =>
    cases hp : s.pending with
    | some p =>
      cases hs : p.isSavepoint with
      | true => exact .refused .spAlready (by simp [step, hp, hs]) rfl
      | false => exact .folded p hp (by simp [step, hp, hs])
    | none => exact .started hp ops srs true (.spCreated (s.cid + 1)) rfl (by simp only [step, hp])
  | opAck op cp tag =>
    cases hp : s.pending with
    | none => exact .refused .errNoPending (by simp only [step, hp]) rfl
    | some p =>
      by_cases hid : p.id = cp
      · subst hid
        exact .acked p (addOp p op p.id tag) hp
          ((addOp_cases p op tag).elim (fun h => .inr h.2) (fun h => .inl h.2)) (by simp [step, hp])
      · exact .refused .errWrongId (by simp [step, hp, hid]) rfl
  | srAck sr cp splits =>
    cases hp : s.pending with
    | none => exact .refused .errNoPending (by simp only [step, hp]) rfl
    | some p =>
      by_cases hid : p.id = cp
      · subst hid
        rcases addSr_cases p sr splits with ⟨_, he⟩ | ⟨_, he⟩ | ⟨_, p', he, ha⟩
        · exact .refused .errUnknown (by simp [step, hp, he]) rfl
        · exact .acked p p hp (.inl rfl) (by simp [step, hp, he])
        · exact .acked p p' hp (.inr ha) (by simp [step, hp, he])
      · exact .refused .errWrongId (by simp [step, hp, hid]) rfl
  | redeploy => exact .redeployed rfl rfl

theorem step_inv {hist : List Call} {s : St} (hi : Inv hist s) (c : Call) :
    Inv (hist ++ [c]) (step s c).1 ∧
    ∀ snap, (step s c).2.2 = some snap → snap.Good (hist ++ [c]) ∧ snap.id = s.cid := by
  have keep := hi.append [c]
  cases step_cases s c with
  | refused r he _ => rw [he]; exact ⟨keep, fun snap hs => nomatch hs⟩
  | started _ ops srs sp r _ he =>
    rw [he]
    refine ⟨fun q hq => ?_, fun snap hs => nomatch hs⟩
    cases hq
    exact ⟨newSnap_wf _ _ _ _, ⟨fun _ h => (nomatch h), fun _ h => (nomatch h)⟩, rfl, newSnap_complete⟩
  | folded p hp he =>
    rw [he]
    refine ⟨fun q hq => ?_, fun snap hs => nomatch hs⟩
    cases hq
    obtain ⟨h1, h2, h3, h4⟩ := keep p hp
    exact ⟨h1.setSavepoint true, h2, h3, h4⟩
  | acked p p' hp ha he =>
    rw [he]
    rcases ha with rfl | ha
    · obtain ⟨h1, h2, h3, _⟩ := keep p' hp
      exact finishIfComplete_inv h1 h2 h3
    · obtain ⟨h1, h2, h3, _⟩ := hi p hp
      exact finishIfComplete_inv (ha.wf h1) (ha.fromCalls h2) (ha.id_eq.trans h3)
  | redeployed _ he => rw [he]; exact ⟨fun q hq => (nomatch hq), fun snap hs => nomatch hs⟩

theorem stale_ack_refused {hist : List Call} {s : St} (hi : Inv hist s) {cp : Nat} (hcp : cp ≠ s.cid)
    (op tag sr : Nat) (splits : List Nat) :
    ((step s (.opAck op cp tag)).1 = s ∧ (step s (.opAck op cp tag)).2.2 = none ∧
      (step s (.opAck op cp tag)).2.1 ≠ .ok) ∧
    ((step s (.srAck sr cp splits)).1 = s ∧ (step s (.srAck sr cp splits)).2.2 = none ∧
      (step s (.srAck sr cp splits)).2.1 ≠ .ok) := by
  cases hp : s.pending with
  | none => simp [step, hp]
  | some p =>
    obtain ⟨_, _, hcid, _⟩ := hi p hp
    have hid : p.id ≠ cp := fun h => hcp (h ▸ hcid)
    simp [step, hp, hid]

theorem bad_opAck_noop {hist : List Call} {s : St} (hi : Inv hist s) {op cp : Nat} (tag : Nat)
    (hb : ∀ p, s.pending = some p → p.id ≠ cp ∨ p.ops.lookup op ≠ some false)
    (hne : ∀ p, s.pending = some p → p.ops ≠ [] ∨ p.srs ≠ []) :
    (step s (.opAck op cp tag)).1 = s ∧ (step s (.opAck op cp tag)).2.2 = none := by
  cases hp : s.pending with
  | none => simp [step, hp]
  | some p =>
    by_cases hid : p.id = cp
    · subst hid
      rcases addOp_cases p op tag with ⟨hl, _⟩ | ⟨_, he⟩
      · exact absurd hl ((hb p hp).resolve_left (not_not_intro rfl))
      · simp [step, hp, he, finishIfComplete_pending hi hp (hne p hp)]
    · simp [step, hp, hid]

theorem bad_srAck_noop {hist : List Call} {s : St} (hi : Inv hist s) {sr cp : Nat} (splits : List Nat)
    (hb : ∀ p, s.pending = some p → p.id ≠ cp ∨ p.srs.lookup sr ≠ some false)
    (hne : ∀ p, s.pending = some p → p.ops ≠ [] ∨ p.srs ≠ []) :
    (step s (.srAck sr cp splits)).1 = s ∧ (step s (.srAck sr cp splits)).2.2 = none := by
  cases hp : s.pending with
  | none => simp [step, hp]
  | some p =>
    by_cases hid : p.id = cp
    · rcases addSr_cases p sr splits with ⟨_, he⟩ | ⟨_, he⟩ | ⟨hl, _⟩
      · simp [step, hp, hid, he]
      · simp [step, hp, hid, he, finishIfComplete_pending hi hp (hne p hp)]
      · exact absurd hl ((hb p hp).resolve_left (not_not_intro hid))
    · simp [step, hp, hid]

theorem step_ids (s : St) (c : Call) :
    ((step s c).2.1.created = [] ∧ (step s c).1.cid = s.cid) ∨
    ((step s c).2.1.created = [s.cid + 1] ∧ (step s c).1.cid = s.cid + 1) := by
  cases step_cases s c with
  | refused r he hr => rw [he]; exact .inl ⟨hr, rfl⟩
  | started _ ops srs sp r hr he => rw [he]; exact .inr ⟨hr, rfl⟩
  | folded p _ he => rw [he]; exact .inl ⟨rfl, rfl⟩
  | acked p p' _ _ he =>
    rw [he]; exact .inl ⟨by rw [(finishIfComplete_shape s _).1]; rfl, (finishIfComplete_shape s _).2.1⟩
  | redeployed _ he => rw [he]; exact .inl ⟨rfl, rfl⟩

theorem step_cid_le (s : St) (c : Call) : s.cid ≤ (step s c).1.cid := by
  rcases step_ids s c with h | h
  · exact Nat.le_of_eq h.2.symm
  · rw [h.2]; exact Nat.le_succ _

theorem step_flow (s : St) {c : Call} (hc : c ≠ .redeploy) :
    ((step s c).2.2.toList ++ (step s c).1.pending.toList).map (·.id) =
      s.pending.toList.map (·.id) ++ (step s c).2.1.created := by
  cases step_cases s c with
  | refused r he hr => rw [he]; show _ = _ ++ r.created; rw [hr]; exact (List.append_nil _).symm
  | started hp ops srs sp r hr he => rw [he, hp]; exact hr.symm
  | folded p hp he => rw [he, hp]; rfl
  | acked p p' hp ha he =>
    have hid : p'.id = p.id := ha.elim (congrArg _) Accepts.id_eq
    rw [he, (finishIfComplete_shape s p').2.2, (finishIfComplete_shape s p').1, hp]
    exact congrArg (· :: []) hid
  | redeployed h _ => exact absurd h hc

/-- the lengths of `step_flow`; a redeployment drops the pending snapshot -/
theorem step_count (s : St) (c : Call) :
    (step s c).2.1.created.length + s.pending.toList.length =
      (step s c).1.pending.toList.length + (step s c).2.2.toList.length +
        (if c = .redeploy ∧ s.pending.isSome then 1 else 0) := by
  by_cases hc : c = .redeploy
  · subst hc
    cases hp : s.pending <;> simp [step, Res.created]
  · have := congrArg List.length (step_flow s hc)
    simp only [List.length_map, List.length_append] at this
    rw [if_neg (fun h => hc h.1)]
    omega

theorem published_cons (s : St) (c : Call) (cs : List Call) :
    published s (c :: cs) = (step s c).2.2.toList ++ published (step s c).1 cs := rfl

theorem createdIds_cons (s : St) (c : Call) (cs : List Call) :
    createdIds s (c :: cs) = (step s c).2.1.created ++ createdIds (step s c).1 cs := rfl

theorem abandoned_cons (s : St) (c : Call) (cs : List Call) :
    abandoned s (c :: cs) = (if c = .redeploy ∧ s.pending.isSome then 1 else 0) + abandoned (step s c).1 cs := rfl

theorem finalState_cons (s : St) (c : Call) (cs : List Call) :
    finalState s (c :: cs) = finalState (step s c).1 cs := rfl

theorem mem_published_cons {s : St} {c : Call} {cs : List Call} {snap : Snap} :
    snap ∈ published s (c :: cs) ↔ (step s c).2.2 = some snap ∨ snap ∈ published (step s c).1 cs := by
  simp only [published_cons, List.mem_append, Option.mem_toList]

theorem published_good (calls : List Call) : ∀ (hist : List Call) (s : St), Inv hist s →
    ∀ snap ∈ published s calls, snap.Good (hist ++ calls) := by
  induction calls with
  | nil => intro hist s _ snap h; cases h
  | cons c cs ih =>
    intro hist s hi snap h
    obtain ⟨hi', hpub⟩ := step_inv hi c
    have : snap.Good ((hist ++ [c]) ++ cs) := by
      rcases mem_published_cons.mp h with h | h
      · exact (hpub snap h).1.append cs
      · exact ih (hist ++ [c]) _ hi' snap h
    rwa [List.append_assoc] at this

theorem created_sorted (calls : List Call) : ∀ s : St, (s.cid :: createdIds s calls).Pairwise (· < ·) := by
  induction calls with
  | nil => intro s; exact List.pairwise_singleton _ _
  | cons c cs ih =>
    intro s
    have ih := ih (step s c).1
    rw [createdIds_cons]
    rcases step_ids s c with h | h <;> rw [h.1]
    · rwa [h.2] at ih
    · rw [h.2] at ih
      refine List.pairwise_cons.mpr ⟨fun a ha => ?_, ih⟩
      rcases List.mem_cons.mp ha with rfl | ha
      · exact Nat.lt_succ_self _
      · exact Nat.lt_trans (Nat.lt_succ_self _) ((List.pairwise_cons.mp ih).1 a ha)

theorem count_trace (calls : List Call) : ∀ (s : St),
    (createdIds s calls).length + s.pending.toList.length =
      (published s calls).length + abandoned s calls + (finalState s calls).pending.toList.length := by
  induction calls with
  | nil => intro s; rfl
  | cons c cs ih =>
    intro s
    have hstep := step_count s c
    have hrest := ih (step s c).1
    simp only [createdIds_cons, published_cons, abandoned_cons, finalState_cons, List.length_append]
    omega

/-- published ids increase because created ids do (`created_sorted`) -/
theorem published_sublist (calls : List Call) : ∀ s : St,
    ((published s calls ++ (finalState s calls).pending.toList).map (·.id)).Sublist
      (s.pending.toList.map (·.id) ++ createdIds s calls) := by
  induction calls with
  | nil => intro s; exact List.sublist_append_left _ _
  | cons c cs ih =>
    intro s
    have ih := ih (step s c).1
    rw [published_cons, createdIds_cons, finalState_cons, ← List.append_assoc (s.pending.toList.map _)]
    by_cases hc : c = .redeploy
    · -- a redeployment publishes nothing, hands out nothing and leaves nothing pending: the pending id is dropped
      subst hc; exact List.sublist_append_of_sublist_right ih
    · rw [← step_flow s hc]
      simp only [List.map_append, List.append_assoc] at ih ⊢
      exact (List.Sublist.refl _).append ih

/-- store states reachable by public calls from any start-up state (any loaded counter) -/
def Reachable (s : St) : Prop := ∃ s0 calls, Booted s0 ∧ s = finalState s0 calls

theorem reachable_inv {s : St} (h : Reachable s) : ∃ hist, Inv hist s := by
  obtain ⟨s0, calls, hb, rfl⟩ := h
  suffices ∀ (cs hist : List Call) (s : St), Inv hist s → ∃ hist', Inv hist' (finalState s cs) from
    this calls [] s0 (inv_booted hb [])
  intro cs
  induction cs with
  | nil => intro hist s hi; exact ⟨hist, hi⟩
  | cons c t ih => intro hist s hi; exact ih _ _ (step_inv hi c).1

end Rxn.Store
