import RxnModel.Model.RunnerRF
import RxnModel.Proofs.Runner
import RxnModel.Props.C20
/-! For C04: seen from outside, the reorder fetcher of C20 is a FIFO of results. One equation says so; the fetcher steps
of the product `Model/RunnerRF.lean` obey it, and its runner steps are steps of `Model/Runner` that leave the FIFO there alone. -/
namespace Rxn.RunnerRF
open Rxn Runner

/-- **the FIFO law.** What the fetcher still owes after a run is `φ = ((inputs as).map g).drop r.out.length`. What a step
hands the consumer, followed by what is owed afterwards, is what was owed before followed by the results of what the
step adds. Uses only what C20 states about the fetcher (`C20.reorder_prefix_no_errors`), once for the run and once for
the run extended by the step. -/
theorem fetcher_fifo_step {ρ : Type} (g : ρ → List KEv) (maxSize : Nat) (hasDelay : Bool) (bufferSize : Nat)
    (as : List (Reorder.Act ρ)) (r : Reorder.Run ρ (List KEv)) (a : Reorder.Act ρ) (s' : Reorder.St ρ (List KEv))
    (o : List (List KEv))
    (hrun : Reorder.exec (List.map g) (fun _ => false) true { st := Reorder.init maxSize hasDelay bufferSize } as = some r)
    (hstep : Reorder.step (List.map g) (fun _ => false) true r.st a = some (s', o)) :
    o ++ ((Reorder.inputs (as ++ [a])).map g).drop (r.out ++ o).length =
      ((Reorder.inputs as).map g).drop r.out.length ++ (Reorder.inputOf a).map g := by
  obtain ⟨rest, hpre⟩ := C20.reorder_prefix_no_errors g maxSize hasDelay bufferSize as r hrun
  obtain ⟨rest', hpre'⟩ := C20.reorder_prefix_no_errors g maxSize hasDelay bufferSize _ _ (Reorder.exec_snoc hrun hstep)
  rw [← hpre', ← hpre, List.drop_left, List.drop_left]
  rw [Reorder.inputs_snoc, List.map_append, ← hpre, List.append_assoc, List.append_assoc] at hpre'
  exact List.append_cancel_left hpre'

theorem rfStep_fifo {ρ : Type} (c : Cfg ρ) (maxSize : Nat) (hasDelay : Bool) (p q : PSt ρ) (a : Reorder.Act ρ)
    (o : List (List KEv))
    (hrun : Reorder.exec (List.map c.keyOf) (fun _ => false) true { st := Reorder.init maxSize hasDelay maxSize } p.rfas = some p.rf)
    (hs : rfStep c p a = some (q, o)) :
    q.r = p.r ∧
    Reorder.exec (List.map c.keyOf) (fun _ => false) true { st := Reorder.init maxSize hasDelay maxSize } q.rfas = some q.rf ∧
    (a ≠ .recv → o = []) ∧
    o ++ ((Reorder.inputs q.rfas).map c.keyOf).drop q.rf.out.length =
      ((Reorder.inputs p.rfas).map c.keyOf).drop p.rf.out.length ++ (Reorder.inputOf a).map c.keyOf := by
  unfold rfStep at hs
  split at hs
  · next s' o' hstep =>
    simp only [Option.some.injEq, Prod.mk.injEq] at hs
    obtain ⟨rfl, rfl⟩ := hs
    exact ⟨rfl, Reorder.exec_snoc hrun hstep, (Reorder.step_out _ _ _ _ _ _ _ hstep).2,
      fetcher_fifo_step c.keyOf maxSize hasDelay maxSize p.rfas p.rf a s' o' hrun hstep⟩
  · simp at hs

/-- a runner action of the product is that action of `Model/Runner` on the runner component, and it leaves the FIFO
there alone: the three that touch it (`enq`, `rfEmit`, the `sTake` of a record placeholder) are not product actions -/
theorem step_run {ρ : Type} {c : Cfg ρ} {p p1 : PSt ρ} {a : Runner.Act ρ} (hs : step c p (.run a) = some p1) :
    ∃ r', Runner.step c p.r a = some r' ∧ p1 = { p with r := r' } ∧ r'.rfOut = p.r.rfOut ∧ r'.rfPending = p.r.rfPending := by
  have key : (Runner.step c p.r a).map (fun r' => { p with r := r' }) = some p1 ∧ a ≠ .enq ∧ a ≠ .rfEmit ∧
      (a = .sTake → ∀ r rest, p.r.stream ≠ .record r :: rest) := by
    -- the branches of the definition's own match: `enq`, `rfEmit`, `sTake`, the three cases of the loop's select
    -- (only while the fetcher's producer is idle), the rest
    simp only [step] at hs
    split at hs
    · cases hs
    · cases hs
    · split at hs
      · cases hs
      · next hne => exact ⟨hs, by simp, by simp, fun _ => hne⟩
    · exact ⟨(Option.ite_none_right_eq_some.mp hs).2, by simp, by simp, by simp⟩
    · exact ⟨(Option.ite_none_right_eq_some.mp hs).2, by simp, by simp, by simp⟩
    · exact ⟨(Option.ite_none_right_eq_some.mp hs).2, by simp, by simp, by simp⟩
    · next h1 h2 h3 _ _ _ => exact ⟨hs, h1, h2, fun e => (h3 e).elim⟩
  obtain ⟨hm, h1, h2, h3⟩ := key
  obtain ⟨r', hr, rfl⟩ := Option.map_eq_some_iff.mp hm
  refine ⟨r', hr, rfl, ?_⟩
  cases Runner.Step.of_step hr with
  | enq => exact absurd rfl h1
  | rfEmit => exact absurd rfl h2
  | takeRecord _ _ hst => exact absurd hst (h3 rfl _ _)
  | _ => exact ⟨rfl, rfl⟩

end Rxn.RunnerRF
