import RxnModel.Proofs.Compaction
/-!
The two views of a level list (`levelsGet`, `scanView`) in terms of the read order, extensionality of sorted runs,
and safe change sets in terms of `LayoutValid`.
-/
namespace Rxn.Compaction
open Rxn Rxn.Lsm

theorem weakValid_of_layoutValid {L : Levels} (h : LayoutValid L) : WeakValid L :=
  ⟨h.sorted, fun l hl => rangeUnique_of_ordered (h.ordered l hl), h.newer⟩

theorem levelsGet_eq_hit {L : Levels} (hv : WeakValid L) (k : Bytes) : levelsGet L k = hit (readOrder L) k :=
  levelsGet_eq L hv.sorted hv.deep k

theorem scanView_eq (L : Levels) (p : Bytes) : scanView L p = scanWithRaw [] L.flatten p := by
  rw [scanWithRaw, scanView]
  exact (merge2.eq_1 _).symm

theorem lookup_scanView {L : Levels} (hv : WeakValid L) (p k : Bytes) :
    (scanView L p).lookup k = if Bytes.hasPrefix k p then hit (readOrder L) k else none := by
  rw [scanView_eq, lookup_scanWithRaw_eq_bestHit (List.forall_mem_nil _) hv.sorted, List.nil_append, hit_eq_firstHit,
    bestHit_eq_firstHit ((newerAbove_map_iff _).mpr hv.newer) fun r => by simp only [List.mem_map, readOrder_mem]]

theorem scanView_sorted {L : Levels} (hv : WeakValid L) (p : Bytes) : SortedRun (scanView L p) :=
  scanView_eq L p ▸ scanWithRaw_sorted (List.forall_mem_nil _) hv.sorted p

theorem run_ext {a b : Run} (ha : SortedRun a) (hb : SortedRun b) (h : ∀ k, a.lookup k = b.lookup k) : a = b :=
  run_sorted_ext ha hb fun x =>
    ⟨fun hx => (Run.lookup_some_mem ((h x.key).symm.trans (Run.lookup_of_mem ha hx))).1,
     fun hx => (Run.lookup_some_mem ((h x.key).trans (Run.lookup_of_mem hb hx))).1⟩

theorem scanView_eq_of_hit_eq {L L' : Levels} (hv : WeakValid L) (hv' : WeakValid L')
    (h : ∀ k, hit (readOrder L') k = hit (readOrder L) k) (p : Bytes) : scanView L' p = scanView L p := by
  apply run_ext (scanView_sorted hv' p) (scanView_sorted hv p)
  intro k
  rw [lookup_scanView hv', lookup_scanView hv, h k]

theorem safe_preserves {L : Levels} {rm : List Nat} {lvl : Nat} {add : List Run} (n : Nat)
    (hv : LayoutValid L) (hs : SafeCS L rm lvl add) :
    (∀ k, levelsGet (applyCS L n ⟨rm, lvl, add⟩) k = levelsGet L k) ∧
    (∀ p, scanView (applyCS L n ⟨rm, lvl, add⟩) p = scanView L p) ∧
    LayoutValid (applyCS L n ⟨rm, lvl, add⟩) := by
  have hw := weakValid_of_layoutValid hv
  obtain ⟨hhit, hw', _⟩ := safe_core n hw hs
  refine ⟨?_, ?_, hw'.sorted, ordered_applyCS n hw hs hv.ordered, hw'.newer⟩
  · intro k; rw [levelsGet_eq_hit hw', levelsGet_eq_hit hw, hhit k]
  · intro p; exact scanView_eq_of_hit_eq hw hw' hhit p

end Rxn.Compaction
