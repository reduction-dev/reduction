import RxnModel.Model.Containers
import RxnModel.Base.BytesOrder
import RxnModel.Proofs.Lists
/-! Invariants of `SortedCache` (ordering and byte accounting), `Set` and `SortedMap`. -/
namespace Rxn.SortedCache

def sumLen (l : List Bytes) : Nat := (l.map List.length).sum

abbrev Asc (l : List Bytes) : Prop := l.Pairwise (fun a b => Bytes.cmp a b = .lt)

/-- strictly ascending (hence duplicate-free) contents, and the counter equals the bytes held -/
structure CInv (c : Cache) : Prop where
  sorted : Asc c.items
  bytes : c.byteSize = sumLen c.items

theorem sumLen_cons (x : Bytes) (l : List Bytes) : sumLen (x :: l) = x.length + sumLen l := by
  rw [sumLen, List.map_cons, List.sum_cons]; rfl

theorem replaceOrInsert_cons (k x : Bytes) (xs : List Bytes) :
    replaceOrInsert k (x :: xs) =
      match Bytes.cmp k x with
      | .lt => (none, k :: x :: xs)
      | .eq => (some x, k :: xs)
      | .gt => ((replaceOrInsert k xs).1, x :: (replaceOrInsert k xs).2) := rfl

/-- the last clause keeps `byteSize - old.length` in `push` from truncating -/
theorem replaceOrInsert_spec (k : Bytes) (l : List Bytes) (h : Asc l) :
    Asc (replaceOrInsert k l).2 ∧
    (∀ e, e ∈ (replaceOrInsert k l).2 ↔ e = k ∨ e ∈ l) ∧
    sumLen (replaceOrInsert k l).2 + (match (replaceOrInsert k l).1 with | some o => o.length | none => 0)
      = sumLen l + k.length ∧
    (∀ o, (replaceOrInsert k l).1 = some o → o.length ≤ sumLen l) := by
  induction l with
  | nil => simp [show replaceOrInsert k [] = (none, [k]) from rfl, sumLen]
  | cons x xs ih =>
    have hx := List.pairwise_cons.mp h
    rw [replaceOrInsert_cons]
    cases hc : Bytes.cmp k x with
    | lt =>
      dsimp only
      refine ⟨?_, by simp, by simp only [sumLen_cons]; omega, by simp⟩
      refine List.pairwise_cons.mpr ⟨?_, h⟩
      intro e he
      simp only [List.mem_cons] at he
      rcases he with rfl | he
      · exact hc
      · exact Bytes.cmp_lt_trans hc (hx.1 e he)
    | eq =>
      have hk : k = x := Bytes.cmp_eq_iff.mp hc
      dsimp only
      refine ⟨?_, ?_, by simp only [sumLen_cons]; omega, ?_⟩
      · exact List.pairwise_cons.mpr ⟨by rw [hk]; exact hx.1, hx.2⟩
      · intro e
        rw [← hk, List.mem_cons, or_self_left]
      · intro o ho; cases ho; rw [sumLen_cons]; exact Nat.le_add_right _ _
    | gt =>
      obtain ⟨a, b, c, d⟩ := ih hx.2
      dsimp only
      refine ⟨?_, ?_, ?_, ?_⟩
      · refine List.pairwise_cons.mpr ⟨?_, a⟩
        intro e he
        rcases (b e).mp he with rfl | h2
        · exact Bytes.cmp_gt_iff_lt.mp hc
        · exact hx.1 e h2
      · intro e
        rw [List.mem_cons, List.mem_cons, b e]
        exact or_left_comm
      · simp only [sumLen_cons] at c ⊢; omega
      · intro o ho; have := d o ho; rw [sumLen_cons]; omega

theorem sumLen_erase (k : Bytes) (l : List Bytes) (h : k ∈ l) : sumLen (l.erase k) + k.length = sumLen l := by
  have := ((List.perm_cons_erase h).map List.length).sum_nat
  rw [List.map_cons, List.sum_cons] at this
  unfold sumLen
  omega

theorem push_inv (c : Cache) (v : Bytes) (h : CInv c) : CInv (push c v) := by
  obtain ⟨a, _, s, d⟩ := replaceOrInsert_spec v c.items h.sorted
  refine ⟨a, ?_⟩
  simp only [push]
  rw [h.bytes]
  cases hr : (replaceOrInsert v c.items).1 with
  | none => rw [hr] at s; simp only at s ⊢; omega
  | some o => rw [hr] at s; have := d o hr; simp only at s ⊢; omega

theorem pop_inv (c : Cache) (h : CInv c) : CInv (pop c).2 := by
  unfold pop
  cases hi : c.items with
  | nil => dsimp only; exact h
  | cons x xs =>
    dsimp only
    have hs := h.sorted; rw [hi] at hs
    refine ⟨(List.pairwise_cons.mp hs).2, ?_⟩
    simp only [h.bytes, hi, sumLen_cons]; omega

theorem popLast_inv (c : Cache) (h : CInv c) : CInv (popLast c).2 := by
  unfold popLast
  cases hl : c.items.getLast? with
  | none => dsimp only; exact h
  | some x =>
    dsimp only
    obtain ⟨ys, hys⟩ := List.getLast?_eq_some_iff.mp hl
    have hs := h.sorted; rw [hys] at hs
    refine ⟨?_, ?_⟩
    · simp only [hys, List.dropLast_concat]; exact (List.pairwise_append.mp hs).1
    · simp only [h.bytes, hys, List.dropLast_concat, sumLen, List.map_append, List.sum_append, List.map_cons,
        List.map_nil, List.sum_cons, List.sum_nil]; omega

theorem delete_inv (c : Cache) (k : Bytes) (h : CInv c) : CInv (delete c k) := by
  unfold delete
  by_cases hk : c.items.contains k = true
  · rw [if_pos hk]
    have hm : k ∈ c.items := by simpa using hk
    refine ⟨List.Pairwise.sublist List.erase_sublist h.sorted, ?_⟩
    have := sumLen_erase k c.items hm
    simp only [h.bytes]; omega
  · rw [if_neg hk]; exact h

theorem step_inv (c : Cache) (o : Op) (h : CInv c) : CInv (step c o) := by
  cases o with
  | push v => exact push_inv c v h
  | pop => exact pop_inv c h
  | popLast => exact popLast_inv c h
  | delete k => exact delete_inv c k h

theorem run_inv (maxSize : Nat) (ops : List Op) : CInv (run maxSize ops) :=
  List.foldlRecOn ops step (motive := CInv) ⟨List.Pairwise.nil, rfl⟩ fun c h o _ => step_inv c o h

end Rxn.SortedCache

namespace Rxn.OSet

/-- the map and the slice hold the same elements; the slice has no duplicates -/
structure SInv (s : S) : Prop where
  same : ∀ v, v ∈ s.m ↔ v ∈ s.l
  nodup : s.l.Nodup

theorem sinv_empty : SInv {} := ⟨fun _ => by simp, .nil⟩

theorem has_iff (s : S) (h : SInv s) (v : Nat) : has s v = true ↔ v ∈ s.l := by
  simp [has, h.same v]

theorem add1_inv (s : S) (v : Nat) (h : SInv s) : SInv (add1 s v) := by
  unfold add1
  by_cases hv : has s v = true
  · rw [if_pos hv]; exact h
  · rw [if_neg hv]
    have hnl : v ∉ s.l := fun hm => hv ((has_iff s h v).mpr hm)
    refine ⟨?_, ?_⟩
    · intro w; simp only [List.mem_cons, List.mem_append, List.not_mem_nil, or_false, h.same w]
      exact Or.comm
    · exact nodup_append_singleton h.nodup hnl

theorem add1_slice (s : S) (v : Nat) (h : SInv s) : (add1 s v).l = if v ∈ s.l then s.l else s.l ++ [v] := by
  unfold add1
  by_cases hv : has s v = true
  · rw [if_pos hv, if_pos ((has_iff s h v).mp hv)]
  · rw [if_neg hv, if_neg (fun hm => hv ((has_iff s h v).mpr hm))]

theorem without_inv (s : S) (vs : List Nat) (h : SInv s) : SInv (without s vs) := by
  refine ⟨?_, ?_⟩
  · intro v; simp only [without, List.mem_filter, h.same v]
  · exact List.Pairwise.sublist List.filter_sublist h.nodup

theorem mem_add1 (s : S) (x : Nat) (h : SInv s) (v : Nat) : v ∈ (add1 s x).l ↔ v ∈ s.l ∨ v = x := by
  rw [add1_slice s x h]
  split
  · rename_i hx
    exact ⟨.inl, fun h' => h'.elim id (fun e => e ▸ hx)⟩
  · rw [List.mem_append, List.mem_singleton]

theorem foldl_add1_mem (vs : List Nat) (s : S) (h : SInv s) (v : Nat) :
    v ∈ (vs.foldl add1 s).l ↔ v ∈ s.l ∨ v ∈ vs := by
  induction vs generalizing s with
  | nil => simp
  | cons x xs ih =>
    rw [List.foldl_cons, ih _ (add1_inv s x h), mem_add1 s x h, List.mem_cons]
    exact or_assoc

theorem add_spec (vs : List Nat) (s : S) (h : SInv s) :
    SInv (add s vs) ∧ (add s vs).l = vs.foldl (fun l v => if v ∈ l then l else l ++ [v]) s.l :=
  List.foldl_rel (r := fun s l => SInv s ∧ s.l = l) ⟨h, rfl⟩ fun v _ s l hs =>
    ⟨add1_inv s v hs.1, by rw [add1_slice s v hs.1, hs.2]⟩

theorem diff_inv (s s2 : S) : SInv (diff s s2) := (add_spec _ {} sinv_empty).1

theorem step_spec (s : S) (o : Op) (h : SInv s) : SInv (step s o) ∧ (step s o).l = specStep s.l o := by
  cases o with
  | add vs => exact add_spec vs s h
  | without vs => exact ⟨without_inv s vs h, rfl⟩

theorem run_spec (ops : List Op) : SInv (run ops) ∧ (run ops).l = specRun ops := by
  refine List.foldl_rel (r := fun s l => SInv s ∧ s.l = l) ⟨sinv_empty, rfl⟩ fun o _ s l h => ?_
  obtain ⟨c, d⟩ := step_spec s o h.1
  exact ⟨c, by rw [d, h.2]⟩

end Rxn.OSet

namespace Rxn.SortedMap

theorem lookup_filter_ne (m : List (Nat × Nat)) (k k' : Nat) :
    lookup (m.filter (fun e => e.1 != k)) k' = if k' = k then none else lookup m k' := by
  unfold lookup
  rw [List.find?_filter]
  by_cases h : k' = k
  · rw [if_pos h, h, List.find?_eq_none.mpr (fun e _ => by simp), Option.map_none]
  · rw [if_neg h]
    have : (fun e : Nat × Nat => decide ((e.1 != k) = true ∧ (e.1 == k') = true)) = fun e => e.1 == k' := by
      funext e
      by_cases he : e.1 = k'
      · simp [he, h]
      · simp [he]
    rw [this]

theorem lookup_mapSet (m : List (Nat × Nat)) (k v k' : Nat) :
    lookup (mapSet m k v) k' = if k' = k then some v else lookup m k' := by
  by_cases hk : k' = k
  · subst hk; simp [lookup, mapSet]
  · have h1 : (k == k') = false := by simp; exact fun e => hk e.symm
    have := lookup_filter_ne m k k'
    rw [if_neg hk] at this ⊢
    rw [← this]
    simp only [lookup, mapSet, List.find?_cons, h1]

/-- the key slice has no duplicates and holds exactly the keys of the map -/
structure MInv (s : M) : Prop where
  nodup : s.list.Nodup
  same : ∀ k, k ∈ s.list ↔ (lookup s.m k).isSome = true

theorem minv_empty : MInv {} := ⟨.nil, fun k => by simp [lookup]⟩

theorem set_inv (s : M) (k v : Nat) (h : MInv s) : MInv (set s k v).2 := by
  unfold set
  dsimp only
  by_cases hk : (lookup s.m k).isSome = true
  · simp only [hk, if_true]
    refine ⟨h.nodup, ?_⟩
    intro k'
    rw [lookup_mapSet]
    by_cases he : k' = k
    · rw [if_pos he, he]; simp [(h.same k).mpr hk]
    · rw [if_neg he]; exact h.same k'
  · have hk' : (lookup s.m k).isSome = false := by simpa using hk
    simp only [hk', Bool.false_eq_true, if_false]
    have hnl : k ∉ s.list := fun hm => hk ((h.same k).mp hm)
    refine ⟨?_, ?_⟩
    · exact nodup_append_singleton h.nodup hnl
    · intro k'
      rw [lookup_mapSet]
      simp only [List.mem_append, List.mem_singleton]
      by_cases he : k' = k
      · rw [if_pos he]; simp [he]
      · rw [if_neg he, ← h.same k']; simp [he]

theorem get_set (s : M) (k v k' : Nat) : get (set s k v).2 k' = if k' = k then some v else get s k' := by
  simp only [get, set, lookup_mapSet]

theorem ensureSorted_inv (s : M) (h : MInv s) : MInv (ensureSorted s) := by
  have hp := List.mergeSort_perm s.list (fun a b => decide (a ≤ b))
  refine ⟨hp.nodup_iff.mpr h.nodup, ?_⟩
  intro k
  simp only [ensureSorted]
  rw [hp.mem_iff]; exact h.same k

theorem keys_sorted (s : M) : (keys s).1.Pairwise (fun a b => a ≤ b) ∧ (keys s).1.Perm s.list := by
  simp only [keys, ensureSorted]
  refine ⟨?_, List.mergeSort_perm _ _⟩
  have := List.pairwise_mergeSort (le := fun (a b : Nat) => decide (a ≤ b))
    (by intro a b c h1 h2; simp only [decide_eq_true_eq] at *; omega)
    (by intro a b; simp only [Bool.or_eq_true, decide_eq_true_eq]; omega) s.list
  exact this.imp (fun h => by simpa using h)

theorem delete_spec (s : M) (k : Nat) (h : MInv s) :
    MInv (delete s k).2 ∧ (delete s k).1 = (get s k).isSome ∧
    ∀ k', get (delete s k).2 k' = if k' = k then none else get s k' := by
  have hs := ensureSorted_inv s h
  unfold delete
  dsimp only
  by_cases hk : (ensureSorted s).list.contains k = true
  · rw [if_pos hk]
    have hm : k ∈ (ensureSorted s).list := by simpa using hk
    refine ⟨⟨hs.nodup.erase k, fun k' => ?_⟩, ((hs.same k).mp hm).symm, fun k' => lookup_filter_ne s.m k k'⟩
    dsimp only
    rw [hs.nodup.mem_erase_iff, lookup_filter_ne]
    by_cases he : k' = k
    · simp [he]
    · rw [if_neg he, ← hs.same k']; simp [he]
  · rw [if_neg hk]
    have hm : k ∉ (ensureSorted s).list := by simpa using hk
    have hnone : lookup s.m k = none := by
      cases hl : lookup s.m k with
      | none => rfl
      | some x => exact absurd ((hs.same k).mpr (by rw [show (ensureSorted s).m = s.m from rfl, hl]; rfl)) hm
    refine ⟨hs, by simp only [get, hnone]; rfl, fun k' => ?_⟩
    by_cases he : k' = k
    · rw [if_pos he, he]; exact hnone
    · rw [if_neg he]; rfl

theorem ensureSorted_get (s : M) (k : Nat) : get (ensureSorted s) k = get s k := rfl

theorem step_spec (s : M) (o : Op) (m : Nat → Option Nat) (h : MInv s) (hm : ∀ k, get s k = m k) :
    MInv (step s o) ∧ ∀ k, get (step s o) k = specStep m o k := by
  cases o with
  | set k v =>
    refine ⟨set_inv s k v h, fun k' => ?_⟩
    show get (set s k v).2 k' = _
    rw [get_set]; simp only [specStep, hm]
  | delete k =>
    obtain ⟨hinv, _, hget⟩ := delete_spec s k h
    refine ⟨hinv, fun k' => ?_⟩
    show get (delete s k).2 k' = _
    rw [hget k']; simp only [specStep, hm]
  | keys => exact ⟨ensureSorted_inv s h, fun k => hm k⟩

theorem run_spec (ops : List Op) : MInv (run ops) ∧ ∀ k, get (run ops) k = specRun ops k :=
  List.foldl_rel (r := fun (s : M) (m : Nat → Option Nat) => MInv s ∧ ∀ k, get s k = m k)
    ⟨minv_empty, by intro k; simp [get, lookup]⟩ fun o _ s m h => step_spec s o m h.1 h.2

/-- the `getD 0` in the model's `all` and `values` never fires: every listed key is in the map -/
theorem all_spec (s : M) (h : MInv s) :
    (all s).1.map Prod.fst = (keys s).1 ∧ (∀ e ∈ (all s).1, get s e.1 = some e.2) ∧
    (values s).1 = (all s).1.map Prod.snd := by
  have hs := ensureSorted_inv s h
  refine ⟨?_, ?_, ?_⟩
  · simp [all, keys, List.map_map, Function.comp_def]
  · intro e he
    simp only [all, List.mem_map] at he
    obtain ⟨k, hk, rfl⟩ := he
    have := (hs.same k).mp hk
    simp only [get]
    show lookup s.m k = some ((lookup s.m k).getD 0)
    have h2 : (lookup s.m k).isSome = true := this
    cases hl : lookup s.m k with
    | none => rw [hl] at h2; cases h2
    | some v => rfl
  · simp [all, values, List.map_map, Function.comp_def]

end Rxn.SortedMap
