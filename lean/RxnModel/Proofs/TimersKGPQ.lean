import RxnModel.Proofs.SortedBytes
/-!
`KeyGroupPriorityQueue` (Model/Timers.lean `KGPQ`) for every cache size: the cache is always a prefix of the key group's
sorted key list in the DB, so `Peek` is the least key of the key group.
-/
namespace Rxn.Timers
open Rxn Rxn.Bytes

def sumLen (l : List Bytes) : Nat := (l.map List.length).sum

theorem sumLen_nil : sumLen [] = 0 := rfl
theorem sumLen_cons (x : Bytes) (l : List Bytes) : sumLen (x :: l) = x.length + sumLen l := by simp [sumLen]
theorem sumLen_append (a b : List Bytes) : sumLen (a ++ b) = sumLen a + sumLen b := by simp [sumLen, List.sum_append]

theorem sumLen_sinsert (k : Bytes) (l : List Bytes) (h : k ∉ l) : sumLen (sinsert k l) = sumLen l + k.length := by
  induction l with
  | nil => simp [sinsert, sumLen]
  | cons y ys ih =>
    simp only [sinsert]
    cases hc : Bytes.cmp k y with
    | lt => simp only [sumLen_cons]; omega
    | eq => exact absurd (Bytes.cmp_eq_iff.mp hc ▸ List.mem_cons_self) h
    | gt =>
      have : k ∉ ys := fun e => h (List.mem_cons_of_mem _ e)
      simp only [sumLen_cons, ih this]; omega

theorem sumLen_erase (k : Bytes) (l : List Bytes) (h : k ∈ l) : sumLen (l.erase k) + k.length = sumLen l := by
  haveI := lawfulBEq_bytes
  have := ((List.perm_cons_erase h).map List.length).sum_nat
  simp only [List.map_cons, List.sum_cons] at this
  unfold sumLen; omega

/-- what the code relies on of a `SortedCache` -/
structure CacheOK (c : Cache) : Prop where
  sorted : Sorted c.items
  size : c.byteSize = sumLen c.items

theorem cacheOK_new (m : Nat) : CacheOK (Cache.new m) := ⟨Sorted.nil, rfl⟩

theorem Cache.push_items (c : Cache) (k : Bytes) : (c.push k).items = sinsert k c.items := rfl

theorem CacheOK.push {c : Cache} (h : CacheOK c) (k : Bytes) : CacheOK (c.push k) := by
  refine ⟨sinsert_sorted k _ h.sorted, ?_⟩
  show (if c.items.contains k then c.byteSize - k.length else c.byteSize) + k.length = sumLen (sinsert k c.items)
  rcases contains_cases k c.items with ⟨hc, hk⟩ | ⟨hc, hk⟩
  · -- a replaced item: its size goes and comes back
    rw [hc, if_pos rfl, sinsert_of_mem k _ h.sorted hk, h.size]
    have := sumLen_erase k c.items hk
    omega
  · rw [hc, if_neg (by simp), sumLen_sinsert k _ hk, h.size]

theorem CacheOK.popLast {c : Cache} (h : CacheOK c) :
    CacheOK c.popLast ∧ ((c.items = [] ∧ c.popLast = c) ∨ ∃ x, c.items = c.popLast.items ++ [x]) := by
  rcases List.eq_nil_or_concat c.items with e | ⟨L, b, e⟩
  · have : c.popLast = c := by simp [Cache.popLast, e]
    rw [this]; exact ⟨h, Or.inl ⟨e, rfl⟩⟩
  · rw [List.concat_eq_append] at e
    have hl : c.items.getLast? = some b := by rw [e]; exact List.getLast?_concat
    have hd : c.items.dropLast = L := by rw [e]; exact List.dropLast_concat
    have hpl : c.popLast = { c with items := L, byteSize := c.byteSize - b.length } := by
      simp only [Cache.popLast, hl, hd]
    rw [hpl]
    refine ⟨⟨?_, ?_⟩, Or.inr ⟨b, e⟩⟩
    · have := h.sorted; rw [e] at this; exact this.append_left
    · show c.byteSize - b.length = sumLen L
      rw [h.size, e, sumLen_append, sumLen_cons, sumLen_nil]; omega

theorem CacheOK.delete {c : Cache} (h : CacheOK c) (k : Bytes) :
    CacheOK (c.delete k) ∧ (c.delete k).items = c.items.erase k := by
  unfold Cache.delete
  rcases contains_cases k c.items with ⟨hc, hk⟩ | ⟨hc, hk⟩
  · rw [hc, if_pos rfl]
    refine ⟨⟨h.sorted.erase k, ?_⟩, rfl⟩
    show c.byteSize - k.length = sumLen (c.items.erase k)
    have := sumLen_erase k c.items hk
    rw [h.size]; omega
  · rw [hc, if_neg Bool.false_ne_true]
    exact ⟨h, (erase_of_not_mem k _ hk).symm⟩

/-- the partition invariant: the cache is a prefix of the key group's keys in the DB (in DB order); if
`allDataInCache` is set it is all of them; the byte accounting is exact -/
structure Inv (q : KGPQ) (db : DB) : Prop where
  cache : CacheOK q.cache
  pre : ∃ rest, db.scan q.pfx = q.cache.items ++ rest ∧ (q.allData = true → rest = [])

theorem scan_sorted {db : DB} (h : Sorted db) (p : Bytes) : Sorted (db.scan p) := h.filter _

theorem mem_scan {db : DB} {p x : Bytes} : x ∈ db.scan p ↔ x ∈ db ∧ Bytes.hasPrefix x p = true := List.mem_filter

theorem scan_put {db : DB} (hdb : Sorted db) (k p : Bytes) :
    DB.scan (sinsert k db) p = if Bytes.hasPrefix k p then sinsert k (db.scan p) else db.scan p :=
  filter_sinsert _ k db hdb

theorem scan_delete {db : DB} (hdb : Sorted db) (k p : Bytes) : DB.scan (db.erase k) p = (db.scan p).erase k :=
  filter_erase _ k db hdb

theorem inv_new (kg size : Nat) (db : DB) : Inv (KGPQ.new kg size) db :=
  ⟨cacheOK_new size, db.scan (kgPrefix kg), by simp [KGPQ.new, Cache.new]⟩

theorem loadLoop_spec (todo : List Bytes) (c : Cache) (hc : CacheOK c) (hs : Sorted (c.items ++ todo)) :
    CacheOK (loadLoop todo c).1 ∧
    ∃ taken rest, (loadLoop todo c).1.items = c.items ++ taken ∧ todo = taken ++ rest ∧
      ((loadLoop todo c).2 = true → rest = []) ∧ (c.items = [] → todo ≠ [] → taken ≠ []) := by
  induction todo generalizing c with
  | nil =>
    refine ⟨hc, [], [], ?_, rfl, fun _ => rfl, fun _ h => absurd rfl h⟩
    simp [loadLoop]
  | cons k ks ih =>
    simp only [loadLoop]
    by_cases hstop : (c.isFull && !c.isEmpty) = true
    · rw [if_pos hstop]
      refine ⟨hc, [], k :: ks, ?_, ?_, ?_, ?_⟩
      · simp
      · rfl
      · intro h; cases h
      · intro he _
        simp [Cache.isEmpty, he] at hstop
    · rw [if_neg hstop]
      have hs' : Sorted (c.items ++ [k] ++ ks) := by simpa using hs
      -- the next key of the scan is above everything cached: `Push` puts it at the end
      have hitems : (c.push k).items = c.items ++ [k] := sinsert_last k c.items hs'.append_left
      obtain ⟨hok, taken, rest, htaken, hrest, hall, _⟩ := ih (c.push k) (hc.push k) (by rw [hitems]; exact hs')
      refine ⟨hok, k :: taken, rest, ?_, by rw [hrest]; rfl, hall, fun _ _ => by simp⟩
      rw [htaken, hitems]; simp

theorem KGPQ.load_spec (q : KGPQ) (db : DB) (h : Inv q db) (hdb : Sorted db) :
    Inv (q.load db) db ∧ (q.load db).pfx = q.pfx ∧
    ((q.load db).cache.items ≠ [] ∨ (q.load db).allData = true) := by
  unfold KGPQ.load
  by_cases hskip : (!q.cache.isEmpty || q.allData) = true
  · rw [if_pos hskip]
    refine ⟨h, rfl, ?_⟩
    simp only [Bool.or_eq_true, Bool.not_eq_true', Cache.isEmpty, List.isEmpty_eq_false_iff] at hskip
    exact hskip
  · rw [if_neg hskip]
    simp only [Bool.or_eq_true, Bool.not_eq_true', Cache.isEmpty, not_or, Bool.not_eq_false,
      List.isEmpty_iff, Bool.not_eq_true] at hskip
    obtain ⟨hempty, _⟩ := hskip
    have hs : Sorted (q.cache.items ++ db.scan q.pfx) := by rw [hempty]; exact scan_sorted hdb _
    obtain ⟨hok, taken, rest, htaken, hrest, hall, hsome⟩ := loadLoop_spec (db.scan q.pfx) q.cache h.cache hs
    refine ⟨⟨hok, rest, ?_, hall⟩, rfl, ?_⟩
    · show db.scan q.pfx = (loadLoop (db.scan q.pfx) q.cache).1.items ++ rest
      rw [htaken, hempty, hrest]; simp
    · by_cases hD : db.scan q.pfx = []
      · right
        show (loadLoop (db.scan q.pfx) q.cache).2 = true
        rw [hD]; rfl
      · left
        show (loadLoop (db.scan q.pfx) q.cache).1.items ≠ []
        rw [htaken, hempty]
        simpa using hsome hempty hD

theorem KGPQ.peekView_eq (q : KGPQ) (db : DB) (h : Inv q db) (hdb : Sorted db) :
    q.peekView db = (db.scan q.pfx).head? := by
  obtain ⟨hi, hp, hpost⟩ := KGPQ.load_spec q db h hdb
  obtain ⟨rest, hr, hall⟩ := hi.pre
  unfold KGPQ.peekView Cache.peek
  rw [hp] at hr
  rw [hr, List.head?_append]
  cases hitems : (q.load db).cache.items with
  | nil =>
    rcases hpost with e | e
    · exact absurd hitems e
    · simp [hall e]
  | cons x xs => simp

theorem evictLoop_spec (n : Nat) (c : Cache) (a : Bool) (hc : CacheOK c) :
    CacheOK (evictLoop n (c, a)).1 ∧
    ∃ dropped, c.items = (evictLoop n (c, a)).1.items ++ dropped ∧
      ((evictLoop n (c, a)).2 = true → a = true ∧ dropped = []) := by
  induction n generalizing c a with
  | zero => exact ⟨hc, [], (List.append_nil _).symm, fun h => ⟨h, rfl⟩⟩
  | succ n ih =>
    simp only [evictLoop]
    by_cases hgo : (c.isFull && !c.isEmpty) = true
    · rw [if_pos hgo]
      obtain ⟨hpop, hlast⟩ := hc.popLast
      -- the loop goes on with the flag cleared, so it cannot end with the flag set
      obtain ⟨hok, dropped, hitems, hflag⟩ := ih c.popLast false hpop
      have hclear {P : Prop} : (evictLoop n (c.popLast, false)).2 = true → P := fun h => nomatch (hflag h).1
      refine ⟨hok, ?_⟩
      rcases hlast with ⟨_, hsame⟩ | ⟨x, e⟩
      · exact ⟨dropped, by rw [← hitems, hsame], hclear⟩
      · exact ⟨dropped ++ [x], by rw [e, hitems]; simp, hclear⟩
    · rw [if_neg hgo]
      exact ⟨hc, [], (List.append_nil _).symm, fun h => ⟨h, rfl⟩⟩

theorem KGPQ.fits_iff (q : KGPQ) (k : Bytes) :
    q.fits k = true ↔ q.allData = true ∨ ∃ last, q.cache.items.getLast? = some last ∧ Bytes.cmp k last ≠ .gt := by
  unfold KGPQ.fits Cache.peekLast
  cases q.cache.items.getLast? with
  | none => simp
  | some last => simp

/-- `Push` keeps the invariant, whatever the cache size: the D11 repair -/
theorem KGPQ.push_spec (q : KGPQ) (db : DB) (k : Bytes) (h : Inv q db) (hdb : Sorted db)
    (hk : Bytes.hasPrefix k q.pfx = true) :
    Inv (q.push db k).1 (q.push db k).2 ∧ (q.push db k).2 = sinsert k db ∧ (q.push db k).1.pfx = q.pfx := by
  obtain ⟨hi, hp, hpost⟩ := KGPQ.load_spec q db h hdb
  obtain ⟨rest, hr, hall⟩ := hi.pre
  have hD' : DB.scan (sinsert k db) (q.load db).pfx = sinsert k (db.scan (q.load db).pfx) := by
    rw [scan_put hdb, hp, if_pos hk]
  have hsD : Sorted ((q.load db).cache.items ++ rest) := by rw [← hr]; exact scan_sorted hdb _
  unfold KGPQ.push
  dsimp only [DB.put]
  generalize hq1 : q.load db = q1 at *
  by_cases hfits : q1.fits k = true
  · rw [if_pos hfits]
    obtain ⟨hev, dropped, hdropped, hflag⟩ :=
      evictLoop_spec ((q1.cache.push k).items.length + 1) (q1.cache.push k) q1.allData (hi.cache.push k)
    -- an admitted key sorts before everything not cached: nothing is uncached, or it is not above the last cached key
    have hbelow : ∀ y ∈ rest, Bytes.lt k y = true := by
      rcases (q1.fits_iff k).mp hfits with hall' | ⟨last, hl, hle⟩
      · rw [hall hall']; nofun
      · exact lt_rest_of_le_last hsD hl hle
    have hkey := sinsert_append_left k q1.cache.items rest hbelow
    refine ⟨⟨hev, dropped ++ rest, ?_, ?_⟩, rfl, hp⟩
    · show DB.scan (sinsert k db) q1.pfx = _
      rw [hD', hr, hkey, ← q1.cache.push_items k, ← List.append_assoc, ← hdropped]
    · intro ht
      obtain ⟨hall', hnone⟩ := hflag ht
      rw [hnone, hall hall']; rfl
  · rw [if_neg hfits]
    -- a refused key: something is cached (the load saw to that), not everything is, and the key is above the last cached key
    rw [q1.fits_iff k, not_or, not_exists] at hfits
    obtain ⟨hnall, hnl⟩ := hfits
    have hne : q1.cache.items ≠ [] := hpost.resolve_right hnall
    have hl := List.getLast?_eq_some_getLast hne
    have hgt : Bytes.lt (q1.cache.items.getLast hne) k = true := by
      have : Bytes.cmp k (q1.cache.items.getLast hne) = .gt := Decidable.not_not.mp fun hc => hnl _ ⟨hl, hc⟩
      exact lt_iff_cmp.mpr (Bytes.cmp_gt_iff_lt.mp this)
    refine ⟨⟨hi.cache, sinsert k rest, ?_, fun ht => absurd ht hnall⟩, rfl, hp⟩
    show DB.scan (sinsert k db) q1.pfx = _
    rw [hD', hr]
    exact sinsert_append_right k _ rest (lt_of_last_lt hsD.append_left hl hgt)

theorem KGPQ.delete_spec (q : KGPQ) (db : DB) (k : Bytes) (h : Inv q db) (hdb : Sorted db) :
    Inv (q.delete db k).1 (q.delete db k).2 ∧ (q.delete db k).2 = db.erase k ∧ (q.delete db k).1.pfx = q.pfx := by
  obtain ⟨hi, hp, _⟩ := KGPQ.load_spec q db h hdb
  obtain ⟨rest, hr, hall⟩ := hi.pre
  obtain ⟨hdel, hitems⟩ := hi.cache.delete k
  unfold KGPQ.delete
  dsimp only [DB.delete]
  have hD' := scan_delete hdb k (q.load db).pfx
  refine ⟨⟨hdel, ?_⟩, rfl, hp⟩
  show ∃ rest', DB.scan (db.erase k) (q.load db).pfx = ((q.load db).cache.delete k).items ++ rest' ∧ _
  rw [hD', hr, hitems]
  rcases contains_cases k (q.load db).cache.items with ⟨_, hk⟩ | ⟨_, hk⟩
  · exact ⟨rest, erase_append_left k rest hk, hall⟩
  · refine ⟨rest.erase k, ?_, ?_⟩
    · rw [erase_append_right k rest hk, erase_of_not_mem k _ hk]
    · intro ht; rw [hall ht]; rfl

/-- an operation of another partition (its keys do not have this partition's prefix) does not disturb the invariant -/
theorem Inv.other_put {q : KGPQ} {db : DB} (h : Inv q db) (hdb : Sorted db) (k : Bytes)
    (hk : Bytes.hasPrefix k q.pfx = false) : Inv q (sinsert k db) := by
  refine ⟨h.cache, ?_⟩
  rw [scan_put hdb, if_neg (by rw [hk]; exact Bool.false_ne_true)]
  exact h.pre

theorem Inv.other_delete {q : KGPQ} {db : DB} (h : Inv q db) (hdb : Sorted db) (k : Bytes)
    (hk : Bytes.hasPrefix k q.pfx = false) : Inv q (db.erase k) := by
  refine ⟨h.cache, ?_⟩
  have hn : k ∉ db.scan q.pfx := fun hm => by rw [(mem_scan.mp hm).2] at hk; cases hk
  rw [scan_delete hdb, erase_of_not_mem k _ hn]
  exact h.pre

end Rxn.Timers
