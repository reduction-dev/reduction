import RxnModel.Base.BytesOrder
import RxnModel.Model.Timers
import RxnModel.Proofs.Lists
/-!
Sorted duplicate-free lists of byte strings: `sinsert`, `erase`, `filter`, extensionality.
-/
namespace Rxn.Timers
open Rxn Rxn.Bytes

/-- strictly ascending in `bytes.Compare` order -/
def Sorted (l : List Bytes) : Prop := l.Pairwise (fun a b => Bytes.lt a b = true)

theorem Sorted.nil : Sorted [] := List.Pairwise.nil

theorem Sorted.tail {x : Bytes} {l : List Bytes} (h : Sorted (x :: l)) : Sorted l := (List.pairwise_cons.mp h).2
theorem Sorted.head_lt {x : Bytes} {l : List Bytes} (h : Sorted (x :: l)) : ∀ y ∈ l, Bytes.lt x y = true :=
  (List.pairwise_cons.mp h).1

theorem Sorted.sublist {a b : List Bytes} (h : a.Sublist b) (hb : Sorted b) : Sorted a := List.Pairwise.sublist h hb

theorem Sorted.nodup {l : List Bytes} (h : Sorted l) : l.Nodup := by
  refine List.Pairwise.imp ?_ h
  intro a b hab e
  subst e
  rw [Bytes.lt_irrefl] at hab
  cases hab

theorem Sorted.filter {l : List Bytes} (p : Bytes → Bool) (h : Sorted l) : Sorted (l.filter p) :=
  Sorted.sublist List.filter_sublist h

theorem Sorted.erase {l : List Bytes} (k : Bytes) (h : Sorted l) : Sorted (l.erase k) :=
  Sorted.sublist List.erase_sublist h

theorem Sorted.append_left {a b : List Bytes} (h : Sorted (a ++ b)) : Sorted a := (List.pairwise_append.mp h).1
theorem Sorted.append_lt {a b : List Bytes} (h : Sorted (a ++ b)) : ∀ x ∈ a, ∀ y ∈ b, Bytes.lt x y = true :=
  (List.pairwise_append.mp h).2.2

theorem sorted_ext {a b : List Bytes} (ha : Sorted a) (hb : Sorted b) (h : ∀ x, x ∈ a ↔ x ∈ b) : a = b :=
  eq_of_pairwise_of_mem_iff (fun _ _ hxy hyx => Bool.false_ne_true ((Bytes.lt_asymm hxy).symm.trans hyx)) ha hb h

theorem mem_sinsert (k x : Bytes) (l : List Bytes) : x ∈ sinsert k l ↔ x = k ∨ x ∈ l := by
  induction l with
  | nil => simp [sinsert]
  | cons y ys ih =>
    simp only [sinsert]
    cases hc : Bytes.cmp k y with
    | lt => simp
    | eq =>
      have := Bytes.cmp_eq_iff.mp hc
      subst this
      simp
    | gt =>
      simp only [List.mem_cons, ih]
      exact or_left_comm

theorem sinsert_sorted (k : Bytes) (l : List Bytes) (h : Sorted l) : Sorted (sinsert k l) := by
  induction l with
  | nil => simp [sinsert, Sorted]
  | cons y ys ih =>
    simp only [sinsert]
    cases hc : Bytes.cmp k y with
    | lt =>
      have hky : Bytes.lt k y = true := lt_iff_cmp.mpr hc
      refine List.pairwise_cons.mpr ⟨?_, h⟩
      intro z hz
      rcases List.mem_cons.mp hz with e | e
      · subst e; exact hky
      · exact Bytes.lt_trans hky (h.head_lt z e)
    | eq =>
      have := Bytes.cmp_eq_iff.mp hc
      subst this
      exact h
    | gt =>
      have hyk : Bytes.lt y k = true := lt_iff_cmp.mpr (Bytes.cmp_gt_iff_lt.mp hc)
      refine List.pairwise_cons.mpr ⟨?_, ih h.tail⟩
      intro z hz
      rcases (mem_sinsert k z ys).mp hz with e | e
      · subst e; exact hyk
      · exact h.head_lt z e

theorem sinsert_append_left (k : Bytes) (a b : List Bytes) (h : ∀ y ∈ b, Bytes.lt k y = true) :
    sinsert k (a ++ b) = sinsert k a ++ b := by
  induction a with
  | nil =>
    cases b with
    | nil => rfl
    | cons y b =>
      have : Bytes.cmp k y = .lt := lt_iff_cmp.mp (h y List.mem_cons_self)
      simp [sinsert, this]
  | cons x a ih =>
    simp only [List.cons_append, sinsert]
    cases Bytes.cmp k x with
    | lt => rfl
    | eq => rfl
    | gt => simp only [ih, List.cons_append]

theorem sinsert_append_right (k : Bytes) (a b : List Bytes) (h : ∀ x ∈ a, Bytes.lt x k = true) :
    sinsert k (a ++ b) = a ++ sinsert k b := by
  induction a with
  | nil => rfl
  | cons x a ih =>
    have : Bytes.cmp k x = .gt := Bytes.cmp_lt_iff_gt.mp (lt_iff_cmp.mp (h x List.mem_cons_self))
    simp only [List.cons_append, sinsert, this, ih fun y hy => h y (List.mem_cons_of_mem _ hy)]

theorem sinsert_last (k : Bytes) (l : List Bytes) (h : Sorted (l ++ [k])) : sinsert k l = l ++ [k] := by
  have := sinsert_append_right k l [] fun x hx => h.append_lt x hx k List.mem_cons_self
  rwa [List.append_nil] at this

theorem lt_rest_of_le_last {items rest : List Bytes} {k last : Bytes} (hs : Sorted (items ++ rest))
    (hl : items.getLast? = some last) (hk : Bytes.cmp k last ≠ .gt) : ∀ y ∈ rest, Bytes.lt k y = true := by
  intro y hy
  have h1 := hs.append_lt last (List.mem_of_getLast? hl) y hy
  rcases Bytes.lt_or_eq_or_gt k last with e | e | e
  · exact Bytes.lt_trans e h1
  · subst e; exact h1
  · exact absurd (Bytes.cmp_lt_iff_gt.mp (lt_iff_cmp.mp e)) hk

theorem lt_of_last_lt {items : List Bytes} {k last : Bytes} (hs : Sorted items)
    (hl : items.getLast? = some last) (hk : Bytes.lt last k = true) : ∀ x ∈ items, Bytes.lt x k = true := by
  intro x hx
  rcases List.eq_nil_or_concat items with e | ⟨L, b, e⟩
  · rw [e] at hx; cases hx
  · rw [List.concat_eq_append] at e
    rw [e, List.getLast?_concat] at hl
    cases hl
    rw [e] at hx hs
    rcases List.mem_append.mp hx with h | h
    · exact Bytes.lt_trans (hs.append_lt x h last (by simp)) hk
    · rw [List.mem_singleton.mp h]; exact hk

theorem sinsert_of_mem (k : Bytes) (l : List Bytes) (h : Sorted l) (hk : k ∈ l) : sinsert k l = l := by
  apply sorted_ext (sinsert_sorted k l h) h
  intro x
  rw [mem_sinsert]
  exact ⟨fun e => e.elim (fun e => e ▸ hk) id, Or.inr⟩

theorem sinsert_idem (k : Bytes) (l : List Bytes) (h : Sorted l) : sinsert k (sinsert k l) = sinsert k l :=
  sinsert_of_mem k _ (sinsert_sorted k l h) ((mem_sinsert k k l).mpr (Or.inl rfl))

/-! The library lemmas on `contains` and `erase` need `LawfulBEq Bytes`; finding that instance anew at every use is slow to
check, so it is found once and the lemmas used are stated for `Bytes`. -/

theorem lawfulBEq_bytes : LawfulBEq Bytes := inferInstance

theorem mem_erase_sorted {l : List Bytes} (h : Sorted l) (k x : Bytes) : x ∈ l.erase k ↔ x ≠ k ∧ x ∈ l :=
  haveI := lawfulBEq_bytes
  List.Nodup.mem_erase_iff h.nodup

theorem contains_cases (k : Bytes) (l : List Bytes) : l.contains k = true ∧ k ∈ l ∨ l.contains k = false ∧ k ∉ l := by
  haveI := lawfulBEq_bytes
  cases hc : l.contains k with
  | true => exact Or.inl ⟨rfl, List.contains_iff_mem.mp hc⟩
  | false => exact Or.inr ⟨rfl, fun hm => by rw [List.contains_iff_mem.mpr hm] at hc; cases hc⟩

theorem erase_append_left (k : Bytes) {a : List Bytes} (b : List Bytes) (h : k ∈ a) : (a ++ b).erase k = a.erase k ++ b :=
  haveI := lawfulBEq_bytes
  List.erase_append_left b h

theorem erase_append_right (k : Bytes) {a : List Bytes} (b : List Bytes) (h : k ∉ a) : (a ++ b).erase k = a ++ b.erase k :=
  haveI := lawfulBEq_bytes
  List.erase_append_right b h

theorem erase_of_not_mem (k : Bytes) (l : List Bytes) (h : k ∉ l) : l.erase k = l :=
  haveI := lawfulBEq_bytes
  List.erase_of_not_mem h

theorem filter_sinsert (p : Bytes → Bool) (k : Bytes) (l : List Bytes) (h : Sorted l) :
    (sinsert k l).filter p = if p k then sinsert k (l.filter p) else l.filter p := by
  by_cases hp : p k = true
  · simp only [hp, if_true]
    apply sorted_ext ((sinsert_sorted k l h).filter p) (sinsert_sorted k _ (h.filter p))
    intro x
    simp only [List.mem_filter, mem_sinsert]
    constructor
    · rintro ⟨e | e, hx⟩
      · left; exact e
      · right; exact ⟨e, hx⟩
    · rintro (e | ⟨e, hx⟩)
      · subst e; exact ⟨Or.inl rfl, hp⟩
      · exact ⟨Or.inr e, hx⟩
  · simp only [hp]
    apply sorted_ext ((sinsert_sorted k l h).filter p) (h.filter p)
    intro x
    simp only [List.mem_filter, mem_sinsert]
    constructor
    · rintro ⟨e | e, hx⟩
      · subst e; exact absurd hx hp
      · exact ⟨e, hx⟩
    · rintro ⟨e, hx⟩; exact ⟨Or.inr e, hx⟩

theorem filter_erase (p : Bytes → Bool) (k : Bytes) (l : List Bytes) (h : Sorted l) :
    (l.erase k).filter p = (l.filter p).erase k := by
  apply sorted_ext ((h.erase k).filter p) ((h.filter p).erase k)
  intro x
  rw [mem_erase_sorted (h.filter p)]
  simp only [List.mem_filter, mem_erase_sorted h]
  exact and_assoc

end Rxn.Timers
