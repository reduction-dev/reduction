import RxnModel.Proofs.HeapIdx
/-! The heap of items over whole operation sequences: order invariant, index map = positions (and `-1` outside),
and refinement of a multiset reference that pops minima. -/
namespace Rxn.HeapItems

theorem ilt_sw : Heap.StrictWeak ilt := by
  constructor
  · intro a b h; simp only [ilt, decide_eq_true_eq, decide_eq_false_iff_not] at *; omega
  · intro a b c h1 h2; simp only [ilt, decide_eq_false_iff_not] at *; omega

structure HInv (h : H) : Prop where
  ord : Heap.Inv ilt h.data
  ok : HeapI.Ok Item.id h.data h.idx
  out : HeapI.Based Item.id h.data h.idx fun _ => -1

/-- the harness pushes an item only while it is not in the heap -/
def opValid (h : H) : Op → Prop
  | .push _ id => ∀ i (hi : i < h.data.size), h.data[i].id ≠ id
  | _ => True

def Valid : H → List Op → Prop
  | _, [] => True
  | h, op :: ops => opValid h op ∧ Valid (step h op) ops

/-- reference: a multiset of items (a list up to order) -/
def specStep (ms : List Item) : Op → Option Item → List Item
  | .push p id, _ => ⟨p, id⟩ :: ms
  | .pop, some x => ms.erase x
  | .pop, none => ms
  | .fix id p, _ => ms.map (fun x => if x.id = id then { x with prio := p } else x)

theorem push_step (h : H) (hi : HInv h) (p id : Nat) (hv : opValid h (.push p id)) :
    HInv (push h ⟨p, id⟩) ∧ (push h ⟨p, id⟩).data.toList.Perm (⟨p, id⟩ :: h.data.toList) := by
  have hfst : (push h ⟨p, id⟩).data = Heap.push ilt h.data ⟨p, id⟩ :=
    HeapI.pushI_fst Item.id ilt h.data h.idx ⟨p, id⟩
  obtain ⟨hok, hout⟩ := HeapI.pushI_ok Item.id ilt h.data h.idx ⟨p, id⟩ hi.ok hi.out hv
  rw [hfst]
  exact ⟨⟨hfst ▸ Heap.push_inv ilt_sw _ _ hi.ord, hok, hout⟩, Heap.push_perm _ _ _⟩

theorem pop_step (h : H) (hi : HInv h) :
    HInv (pop h).2 ∧
    (match (pop h).1 with
     | none => h.data.size = 0 ∧ (pop h).2 = h
     | some x => h.data.toList.Perm (x :: (pop h).2.data.toList) ∧ (∀ y ∈ h.data.toList, x.prio ≤ y.prio)) := by
  unfold pop
  have hfst := HeapI.popI_fst Item.id ilt h.data h.idx
  cases hp : HeapI.popI Item.id ilt h.data h.idx with
  | none =>
    rw [hp] at hfst
    exact ⟨hi, (Heap.pop_none _ _).mp hfst.symm, rfl⟩
  | some xr =>
    obtain ⟨x, r⟩ := xr
    rw [hp] at hfst
    obtain ⟨hinv', hperm, hmin⟩ := Heap.pop_spec ilt_sw h.data hi.ord x r.1 hfst.symm
    obtain ⟨hok', hout⟩ := HeapI.popI_ok Item.id ilt h.data h.idx hi.ok hi.out x r hp
    refine ⟨⟨hinv', hok', fun k hk => ?_⟩, hperm, fun y hy => ?_⟩
    · exact (hout k hk).trans (by unfold HeapI.assign; split <;> rfl)
    · have := hmin y hy
      simp only [Heap.le, ilt, decide_eq_false_iff_not] at this
      exact Nat.le_of_not_lt this

theorem reprio_step (h : H) (hi : HInv h) (id p : Nat) :
    HInv (reprio h id p) ∧
    (reprio h id p).data.toList.Perm (h.data.toList.map (fun x => if x.id = id then { x with prio := p } else x)) := by
  unfold reprio
  by_cases hneg : h.idx id < 0
  · rw [if_pos hneg]
    refine ⟨hi, ?_⟩
    -- the item is not in the heap: the reference changes nothing either
    have habs : ∀ x ∈ h.data.toList, x.id ≠ id := by
      refine HeapI.out_iff.mp fun i hi' e => ?_
      have := hi.ok.pos i hi'
      rw [e] at this; omega
    have e : h.data.toList.map (fun x => if x.id = id then { x with prio := p } else x) =
        h.data.toList.map (fun x => x) := List.map_congr_left fun x hx => if_neg (habs x hx)
    rw [e, List.map_id']
  · rw [if_neg hneg]
    dsimp only
    have hpres : ∃ i, ∃ hi' : i < h.data.size, h.data[i].id = id := by
      apply Classical.byContradiction
      intro hno
      rw [hi.out id (fun i hi' e => hno ⟨i, hi', e⟩)] at hneg
      exact hneg (show (-1 : Int) < 0 by decide)
    obtain ⟨i, hi', hid⟩ := hpres
    have hpos : h.idx id = (i : Int) := by have := hi.ok.pos i hi'; rw [hid] at this; exact this
    let f : Item → Item := fun x => if x.id = id then { x with prio := p } else x
    have hfid : ∀ x, (f x).id = x.id := by intro x; simp only [f]; split <;> rfl
    have hget : ∀ k, k ≠ i → (h.data.map f)[k]? = h.data[k]? := by
      intro k hk
      rw [Array.getElem?_map]
      by_cases hks : k < h.data.size
      · rw [Array.getElem?_eq_getElem hks, Option.map_some]
        exact congrArg some (if_neg (fun e => hk (hi.ok.inj k i hks hi' (by rw [hid]; exact e))))
      · rw [Array.getElem?_eq_none (Nat.le_of_not_lt hks)]; rfl
    -- `f` keeps every identity, so the index map fits the changed array as it fitted the old one
    have hkey : ∀ n (hn : n < (h.data.map f).size),
        ((h.data.map f)[n]).id = (h.data[n]'(by rw [Array.size_map] at hn; exact hn)).id :=
      fun n hn => by rw [Array.getElem_map]; exact hfid _
    have hokm : HeapI.Ok Item.id (h.data.map f) h.idx :=
      .of_pos fun n hn => (congrArg h.idx (hkey n hn)).trans (hi.ok.pos n _)
    have houtm : HeapI.Based Item.id (h.data.map f) h.idx fun _ => -1 :=
      fun k hk => hi.out k fun n hn e => hk n (by rw [Array.size_map]; exact hn) ((hkey n _).trans e)
    have hfst : (HeapI.fixI Item.id ilt (h.data.map f) h.idx (h.idx id)).1 = Heap.fix ilt (h.data.map f) i := by
      rw [HeapI.fixI_fst _ _ _ _ _ (Int.not_lt.mp hneg), hpos]; rfl
    obtain ⟨hok', hout'⟩ := HeapI.fixI_ok Item.id ilt (h.data.map f) h.idx (h.idx id) hokm houtm
    refine ⟨⟨?_, hok', hout'⟩, ?_⟩
    · show Heap.Inv ilt (HeapI.fixI Item.id ilt (h.data.map f) h.idx (h.idx id)).1
      rw [hfst]
      exact Heap.fix_inv ilt_sw _ i (Heap.downInv_of_inv ilt_sw hi.ord hi' hget (fun _ _ _ _ hr => hr))
    · show (HeapI.fixI Item.id ilt (h.data.map f) h.idx (h.idx id)).1.toList.Perm _
      rw [hfst, ← Array.toList_map]
      exact Heap.fix_perm _ _ _

theorem step_refines (h : H) (hi : HInv h) (op : Op) (hv : opValid h op) :
    HInv (step h op) ∧ (step h op).data.toList.Perm (specStep h.data.toList op (out h op)) := by
  cases op with
  | push p id => exact push_step h hi p id hv
  | fix id p => exact reprio_step h hi id p
  | pop =>
    obtain ⟨a, b⟩ := pop_step h hi
    simp only [step, out]
    refine ⟨a, ?_⟩
    cases hp : (pop h).1 with
    | none => rw [hp] at b; rw [b.2]; exact .refl _
    | some x => rw [hp] at b; exact (List.cons_perm_iff_perm_erase.mp b.1.symm).2

theorem run_inv_from (h : H) (hi : HInv h) (ops : List Op) (hv : Valid h ops) : HInv (ops.foldl step h) := by
  induction ops generalizing h with
  | nil => exact hi
  | cons op ops ih => exact ih _ (step_refines h hi op hv.1).1 hv.2

theorem hinv_empty : HInv {} := ⟨Heap.inv_empty _, HeapI.ok_empty _ _, fun _ _ => rfl⟩

def trace : H → List Op → List (Option Item)
  | _, [] => []
  | h, op :: ops => out h op :: trace (step h op) ops

/-- the multiset reference accepts a sequence of outputs: every `Pop` output is a minimum of the reference contents
(which then lose exactly it), `Pop` fails only on empty contents -/
def Accepts : List Item → List Op → List (Option Item) → Prop
  | _, [], [] => True
  | ms, .pop :: ops, none :: outs => ms = [] ∧ Accepts ms ops outs
  | ms, .pop :: ops, some x :: outs => x ∈ ms ∧ (∀ y ∈ ms, x.prio ≤ y.prio) ∧ Accepts (ms.erase x) ops outs
  | ms, op :: ops, none :: outs => Accepts (specStep ms op none) ops outs
  | _, _, _ => False

theorem trace_cons (h : H) (op : Op) (ops : List Op) : trace h (op :: ops) = out h op :: trace (step h op) ops := rfl

theorem accepts_pop_none (ms : List Item) (ops : List Op) (outs : List (Option Item)) :
    Accepts ms (.pop :: ops) (none :: outs) = (ms = [] ∧ Accepts ms ops outs) := rfl

theorem accepts_pop_some (ms : List Item) (x : Item) (ops : List Op) (outs : List (Option Item)) :
    Accepts ms (.pop :: ops) (some x :: outs) =
      (x ∈ ms ∧ (∀ y ∈ ms, x.prio ≤ y.prio) ∧ Accepts (ms.erase x) ops outs) := rfl

theorem accepts_push (ms : List Item) (p id : Nat) (ops : List Op) (outs : List (Option Item)) :
    Accepts ms (.push p id :: ops) (none :: outs) = Accepts (specStep ms (.push p id) none) ops outs := rfl

theorem accepts_fix (ms : List Item) (id p : Nat) (ops : List Op) (outs : List (Option Item)) :
    Accepts ms (.fix id p :: ops) (none :: outs) = Accepts (specStep ms (.fix id p) none) ops outs := rfl

theorem specStep_perm {ms ms' : List Item} (hp : ms.Perm ms') (op : Op) (o : Option Item) :
    (specStep ms op o).Perm (specStep ms' op o) := by
  cases op with
  | push p id => exact (List.perm_cons _).mpr hp
  | fix id p => exact hp.map _
  | pop =>
    cases o with
    | none => exact hp
    | some x => exact hp.erase x

/-- Stated for any list `ms` with the heap's contents: the heap after a step holds a permutation of the reference's
next list, not that list. -/
theorem trace_accepted (h : H) (hi : HInv h) (ops : List Op) (hv : Valid h ops) (ms : List Item)
    (hms : ms.Perm h.data.toList) : Accepts ms ops (trace h ops) := by
  induction ops generalizing h ms with
  | nil => trivial
  | cons op ops ih =>
    obtain ⟨a, b⟩ := step_refines h hi op hv.1
    have hrec := ih _ a hv.2 _ ((specStep_perm hms op (out h op)).trans b.symm)
    rw [trace_cons]
    cases op with
    | push p id => exact (accepts_push _ p id ops _).mpr hrec
    | fix id p => exact (accepts_fix _ id p ops _).mpr hrec
    | pop =>
      obtain ⟨_, c⟩ := pop_step h hi
      simp only [out] at hrec ⊢
      cases ho : (pop h).1 with
      | none =>
        rw [ho] at c hrec
        rw [accepts_pop_none]
        rw [Array.eq_empty_of_size_eq_zero c.1] at hms
        exact ⟨hms.eq_nil, hrec⟩
      | some x =>
        rw [ho] at c hrec
        rw [accepts_pop_some]
        exact ⟨hms.symm.subset (c.1.symm.subset List.mem_cons_self), fun y hy => c.2 y (hms.subset hy), hrec⟩

end Rxn.HeapItems
