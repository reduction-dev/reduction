import RxnModel.Proofs.RescaleRestore
import RxnModel.Proofs.LsmOrder
/-!
The instance produced by a multi-handle restore satisfies the DKV invariant `Lsm.Inv` (C07), so every C07 theorem — `Get`,
`ScanPrefix`, and all later writes / flushes / compactions — applies to it. "Newer above" of the composite is the sources'
own (`SrcOk.newer`): the tables that hold a key are, in the composite's read order, those of the key's old owner in the
owner's read order (`view_merged`).
-/
namespace Rxn.Rescale
open Rxn Lsm Rxn.Search
open Rxn.Compaction (NewerT)

/-- what is assumed of one old instance `(range, checkpoint document)`; implies `OldOk`, hence `CkptOk`. `keys`/`wal` are the
condition the open findings D37/D47 violate (first-generation instances satisfy it: they only ever wrote keys routed to them, C05);
`sorted`, `newer` are C07's invariant of the checkpointing instance (`Lsm.Inv.sorted`, `.newer`), `deeper` is the
layout validity C18 maintains, `nlev` the fixed number of levels. -/
structure SrcOk (n : Nat) (p : KGRange × Ckpt) : Prop where
  keys : ∀ t ∈ p.2.levels.flatten, ∀ e ∈ t.run, 2 ≤ e.key.length ∧ p.1.includes (kgOf e.key) = true
  ne : ∀ t ∈ p.2.levels.flatten, t.run ≠ []
  sorted : ∀ t ∈ p.2.levels.flatten, t.run.Sorted
  deeper : ∀ i l, 1 ≤ i → p.2.levels[i]? = some l → LevelValid l
  newer : NewerAbove ((readOrder p.2.levels).map (·.run))
  wal : ∀ w ∈ p.2.wal, p.1.includes (kgOf w.key) = true
  nlev : p.2.levels.length = n

/-- the boundary keys of a non-empty table are stored keys, so `keys` gives `TblIn` -/
theorem SrcOk.toOldOk {n : Nat} {p : KGRange × Ckpt} (h : SrcOk n p) : OldOk n p := by
  refine ⟨⟨?_, h.deeper⟩, h.wal, h.nlev⟩
  intro l hl t ht
  have htf : t ∈ p.2.levels.flatten := List.mem_flatten.mpr ⟨l, hl, ht⟩
  obtain ⟨e1, he1, hk1⟩ := Compaction.startKey_mem (h.ne t htf)
  obtain ⟨e2, he2, hk2⟩ := Compaction.endKey_mem (h.ne t htf)
  refine ⟨⟨?_, ?_, ?_, ?_⟩, tblOk_of_sorted t (h.sorted t htf)⟩
  · rw [hk1]; exact (h.keys t htf e1 he1).1
  · rw [hk2]; exact (h.keys t htf e2 he2).1
  · rw [hk1]; exact (h.keys t htf e1 he1).2
  · rw [hk2]; exact (h.keys t htf e2 he2).2

theorem srcs_nlev {n : Nat} (ps : List (KGRange × Ckpt)) (hok : ∀ p ∈ ps, SrcOk n p) :
    ∀ c ∈ ps.map (·.2), c.levels.length = n := by
  intro c hc; obtain ⟨p, hp, rfl⟩ := List.mem_map.mp hc; exact (hok p hp).nlev

theorem mem_mergeLevels_src {n : Nat} (ps : List (KGRange × Ckpt)) (hok : ∀ p ∈ ps, SrcOk n p) (t : Tbl)
    (ht : t ∈ (mergeLevels (ps.map (·.2))).flatten) : ∃ p ∈ ps, t ∈ p.2.levels.flatten := by
  obtain ⟨c, hc, htc⟩ := (mem_mergeLevels (srcs_nlev ps hok)).mp ht
  obtain ⟨p, hp, rfl⟩ := List.mem_map.mp hc
  exact ⟨p, hp, htc⟩

theorem merged_sorted {n : Nat} (ps : List (KGRange × Ckpt)) (hok : ∀ p ∈ ps, SrcOk n p) :
    ∀ t ∈ (mergeLevels (ps.map (·.2))).flatten, t.run.Sorted := fun t ht => by
  obtain ⟨p, hp, htp⟩ := mem_mergeLevels_src ps hok t ht
  exact (hok p hp).sorted t htp

theorem merged_tail_valid {n : Nat} (ps : List (KGRange × Ckpt)) (hok : ∀ p ∈ ps, SrcOk n p)
    (hdis : ps.Pairwise (fun a b => a.1.overlaps b.1 = false)) : ∀ l ∈ (mergeLevels (ps.map (·.2))).tail, LevelValid l :=
  mergeLevels_tail_valid ps (fun p hp => (hok p hp).toOldOk.ck) hdis

theorem pairwise_of_filters {α κ : Type} {R : α → α → Prop} (q : κ → α → Bool) (l : List α)
    (h : ∀ a ∈ l, ∀ b ∈ l, R a b ∨ ∃ k, q k a = true ∧ q k b = true ∧ (l.filter (q k)).Pairwise R) : l.Pairwise R :=
  List.pairwise_iff_forall_sublist.mpr fun {a b} hab => by
    rcases h a (hab.subset List.mem_cons_self) b (hab.subset (List.mem_cons_of_mem _ List.mem_cons_self)) with
      hr | ⟨k, ha, hb, hp⟩
    · exact hr
    · have hf := hab.filter (q k)
      rw [List.filter_cons_of_pos ha, List.filter_cons_of_pos hb] at hf
      exact List.pairwise_iff_forall_sublist.mp hp hf

/-- the composite level list keeps "newer above" in read order: two tables that share a key `k` both lie in `k`'s view,
which is that of `k`'s old owner (`view_merged`), a sublist of the owner's read order -/
theorem newer_merged {n : Nat} (ps : List (KGRange × Ckpt)) (hok : ∀ p ∈ ps, SrcOk n p)
    (hdis : ps.Pairwise (fun a b => a.1.overlaps b.1 = false)) :
    (readOrder (mergeLevels (ps.map (·.2)))).Pairwise NewerT := by
  refine pairwise_of_filters (fun k (t : Tbl) => t.rangeContainsKey k) _ fun t ht u hu => ?_
  by_cases hs : ∃ e ∈ t.run, ∃ e' ∈ u.run, e.key = e'.key
  · obtain ⟨e, he, e', he', hk⟩ := hs
    obtain ⟨p, hp, htp⟩ := mem_mergeLevels_src ps hok t ((readOrder_mem _ t).mp ht)
    obtain ⟨q, hq, huq⟩ := mem_mergeLevels_src ps hok u ((readOrder_mem _ u).mp hu)
    have hkp := (hok p hp).keys t htp e he
    obtain ⟨pre, post, rfl⟩ := List.append_of_mem hp
    refine Or.inr ⟨e.key, rangeContainsKey_of_mem ((hok p hp).sorted t htp) he,
      hk ▸ rangeContainsKey_of_mem ((hok q hq).sorted u huq) he', ?_⟩
    show (view _ e.key).Pairwise NewerT
    rw [view_merged n pre post p.1 p.2 (fun p hp => (hok p hp).toOldOk) hdis e.key hkp.1 hkp.2]
    exact ((Compaction.newerAbove_map_iff _).mp (hok p hp).newer).sublist List.filter_sublist
  · exact Or.inl fun e he e' he' hk => absurd ⟨e, he, e', he', hk⟩ hs

theorem openDB_deepOrdered (own : Bytes → Bool) (n : Nat) (ps : List (KGRange × Ckpt)) (hne : ps ≠ [])
    (hok : ∀ p ∈ ps, SrcOk (n + 1) p) (hdis : ps.Pairwise (fun a b => a.1.overlaps b.1 = false)) :
    DeepOrdered (openDB own (ps.map (·.2))) := by
  apply deepOrdered_of_levelValid
  rw [(openDB_replayInv own _ (by simpa using hne)).levels]
  exact merged_tail_valid ps hok hdis

/-- the instance `DB.Start` has built before the replay is a C07 state: `seq` bounds every loaded version
(`LatestSeqNum`), the rest is the layout -/
theorem inv_startState (L : List (List Tbl)) (hne : L ≠ []) (hsorted : ∀ t ∈ L.flatten, t.run.Sorted)
    (hnewer : (readOrder L).Pairwise NewerT) (hv : ∀ l ∈ L.tail, LevelValid l) :
    Inv (startState tblEndSeq L) (containers (startState tblEndSeq L)).flatten :=
  Compaction.inv_fresh (mm := []) rfl hne
    ⟨hsorted, fun l hl => (hv l hl).rangeUnique, hnewer⟩
    Run.sorted_nil (seq_le_latest L) (Nat.le_refl _) nofun

/-- **the restored instance satisfies C07's invariant** for the specification map "its containers in read order": the
start state does, and the replay is a sequence of C07 writes -/
theorem openDB_lsm_inv (own : Bytes → Bool) (n : Nat) (ps : List (KGRange × Ckpt)) (hne : ps ≠ [])
    (hok : ∀ p ∈ ps, SrcOk (n + 1) p) (hdis : ps.Pairwise (fun a b => a.1.overlaps b.1 = false)) :
    Inv (openDB own (ps.map (·.2))) (containers (openDB own (ps.map (·.2)))).flatten := by
  have hne' : ps.map (·.2) ≠ [] := by simpa using hne
  have hstart := inv_startState (mergeLevels (ps.map (·.2)))
    (fun h => by
      have := mergeLevels_length _ (n + 1) hne' (srcs_nlev ps hok)
      rw [h] at this; cases this)
    (merged_sorted ps hok) (newer_merged ps hok hdis) (merged_tail_valid ps hok hdis)
  rw [openDB_of_ne_nil own _ hne']
  obtain ⟨spec, hinv⟩ := foldl_applyWal_inv own (fun _ s => ∃ spec, Inv s spec) (fun _ _ _ _ h => h)
    (fun _ s m w hm _ ⟨spec, h⟩ => ⟨wEntry (s.seq + 1) w.key w.del w.val :: spec,
      inv_write h _ (wEntry_seq _ _ _ _) m [] (by rw [hm]; rfl)⟩)
    ((ps.map (·.2)).flatMap (·.wal)) [] _ [] rfl rfl ⟨_, hstart⟩
  -- of the invariant only `hit` mentions the map, and the containers appended in read order satisfy it as they are
  exact { hinv with hit := fun k => firstHit_flatten _ k }

end Rxn.Rescale
