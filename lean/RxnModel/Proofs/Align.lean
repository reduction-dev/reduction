import RxnModel.Proofs.AlignStep
/-!
The state invariant `Inv` of the alignment model (C02), its preservation by every plain step, and what it gives for
whole runs from a `Fresh` state.
-/
namespace Rxn.Align

/-- `base`/`u0` = keyed state and keyed events waiting in the batcher when the deployment started; `p` = items the
consumer took since, `a` = entries the handler received since, `g` = (sender, id) of the barriers accepted since
the last snapshot -/
structure Inv (base : KVf) (u0 : List (Nat × Bytes × Nat × Nat)) (s : St) (p : List (Nat × Item))
    (a : List Entry) (g : List (Nat × Nat)) : Prop where
  kv_eq : s.kv = a.foldl applyRec base
  users : userOf (a ++ s.pending) = u0 ++ userProcs p
  ck : ∀ id m, s.ckpt = some (id, m) → m ≠ [] ∧ ∀ sr, sr < s.k → sr ∉ m →
        lastProc sr p = some (.bar id) ∧ ∀ it, s.slots sr ≠ some (it, true)
  parked : ∀ sr it, s.slots sr = some (it, false) → ∃ id m, s.ckpt = some (id, m) ∧ sr ∉ m
  got : ∀ sr i, (sr, i) ∈ g ↔ ∃ m, s.ckpt = some (i, m) ∧ sr < s.k ∧ sr ∉ m
  af : s.ackFails = false

/-- a deployment starts here: no checkpoint in progress, nobody parked, the job reachable -/
structure Fresh (s : St) : Prop where
  ckpt : s.ckpt = none
  noParked : ∀ sr it, s.slots sr ≠ some (it, false)
  af : s.ackFails = false
  /-- at least one source runner is deployed -/
  kpos : 0 < s.k

theorem inv_fresh {s : St} (h : Fresh s) : Inv s.kv (userOf s.pending) s [] [] [] :=
  ⟨rfl, (List.append_nil _).symm, (by intro id m hc; rw [h.ckpt] at hc; cases hc),
   (by intro sr it hs; exact absurd hs (h.noParked sr it)),
   (by intro sr i; simp [h.ckpt]), h.af⟩

theorem init_fresh (k b : Nat) (hk : 0 < k) : Fresh (init k b) := ⟨rfl, by intro sr it; simp [init], rfl, hk⟩

variable {base : KVf} {u0 : List (Nat × Bytes × Nat × Nat)}

theorem Inv.passed_not_got {s : St} {p a g} (h : Inv base u0 s p a g) {sr : Nat} {it : Item}
    (hslot : s.slots sr = some (it, true)) : ∀ i, (sr, i) ∉ g := by
  intro i hg
  obtain ⟨m, hc, hsr, hm⟩ := (h.got sr i).mp hg
  exact ((h.ck i m hc).2 sr hsr hm).2 it hslot

theorem Inv.got_iff {s : St} {p a g} (h : Inv base u0 s p a g) {id : Nat} {m : List Nat} (hc : s.ckpt = some (id, m))
    {x i : Nat} : (x, i) ∈ g ↔ i = id ∧ x < s.k ∧ x ∉ m := by
  rw [h.got, hc]
  constructor
  · rintro ⟨m', e, hx⟩
    cases e
    exact ⟨rfl, hx⟩
  · rintro ⟨rfl, hx⟩
    exact ⟨m, rfl, hx⟩

theorem Inv.parked_missing {s : St} {p a g} (h : Inv base u0 s p a g) {id : Nat} {m : List Nat}
    (hc : s.ckpt = some (id, m)) {x : Nat} {it : Item} (hs : s.slots x = some (it, false)) : x ∉ m := by
  obtain ⟨id', m', e, hx⟩ := h.parked x it hs
  rw [hc] at e
  cases e
  exact hx

/-- clearing the slot of a sender (its `HandleEvent` returned) -/
theorem Inv.clear {s : St} {p a g} (h : Inv base u0 s p a g) (sr : Nat) :
    Inv base u0 { s with slots := fun i => if i = sr then none else s.slots i } p a g := by
  refine ⟨h.kv_eq, h.users, ?_, ?_, h.got, h.af⟩
  · intro id m hc
    refine ⟨(h.ck id m hc).1, fun x hx hxm => ⟨((h.ck id m hc).2 x hx hxm).1, fun it e => ?_⟩⟩
    exact ((h.ck id m hc).2 x hx hxm).2 it (Option.ite_none_left_eq_some.mp e).2
  · intro x it hslot
    exact h.parked x it (Option.ite_none_left_eq_some.mp hslot).2

theorem Inv.of_ext {s s' : St} {p p' a g} {o : List Obs} {es : List Entry} (h : Inv base u0 s p a g)
    (hx : Ext s s' o es) (hu : userProcs p' = userProcs p ++ userOf es)
    (hl : ∀ id m sr, s.ckpt = some (id, m) → sr < s.k → sr ∉ m → lastProc sr p' = lastProc sr p) :
    Inv base u0 s' p' (a ++ entriesOf o) g := by
  refine ⟨?_, ?_, ?_, ?_, ?_, by rw [hx.af]; exact h.af⟩
  · rw [hx.kv, List.foldl_append, ← h.kv_eq]
  · rw [List.append_assoc, hx.ents, ← List.append_assoc, userOf_append, h.users, hu, List.append_assoc]
  · intro id m hc
    rw [hx.ckpt] at hc
    refine ⟨(h.ck id m hc).1, ?_⟩
    intro sr hsr hm
    rw [hx.k] at hsr
    rw [hx.slots, hl id m sr hc hsr hm]
    exact (h.ck id m hc).2 sr hsr hm
  · intro sr it hslot
    rw [hx.slots] at hslot
    rw [hx.ckpt]
    exact h.parked sr it hslot
  · intro sr i
    rw [hx.ckpt, hx.k]
    exact h.got sr i

/-- `handleCheckpointBarrier` creates the record if there is none: a record that misses every runner is as good as
none -/
theorem Inv.virt {s : St} {p a g} (h : Inv base u0 s p a g) (hk : 0 < s.k) (id : Nat) :
    Inv base u0 { s with ckpt := some (virtCk s id) } p a g := by
  cases hc : s.ckpt with
  | some c =>
    rw [virtCk_some hc, ← hc]
    exact h
  | none =>
    rw [virtCk_none hc]
    refine ⟨h.kv_eq, h.users, ?_, ?_, ?_, h.af⟩
    · intro i m e
      cases e
      exact ⟨List.range_ne_nil.mpr (Nat.ne_of_gt hk), fun x hx hxm => absurd (List.mem_range.mpr hx) hxm⟩
    · intro x it hs
      obtain ⟨_, _, e, _⟩ := h.parked x it hs
      rw [hc] at e
      cases e
    · intro x i
      constructor
      · intro hg
        obtain ⟨_, e, _⟩ := (h.got x i).mp hg
        rw [hc] at e
        cases e
      · rintro ⟨m, e, hx, hxm⟩
        cases e
        exact absurd (List.mem_range.mpr hx) hxm

theorem Inv.align {s : St} {p a g} (h : Inv base u0 s p a g) (sr : Nat) (it : Item) :
    Inv base u0 { s with slots := fun i => if i = sr then some (it, passes s sr) else s.slots i } p a g := by
  refine ⟨h.kv_eq, h.users, ?_, ?_, h.got, h.af⟩
  · intro id m hc
    refine ⟨(h.ck id m hc).1, ?_⟩
    intro x hx hxm
    refine ⟨((h.ck id m hc).2 x hx hxm).1, ?_⟩
    intro it'
    by_cases hxs : x = sr
    · subst hxs
      have hpass : passes s x = false := passes_eq_false.mpr ⟨id, m, hc, hxm, (h.ck id m hc).1⟩
      simp [hpass]
    · simp only [hxs, if_false]
      exact ((h.ck id m hc).2 x hx hxm).2 it'
  · intro x it' hs
    by_cases hxs : x = sr
    · subst hxs
      simp only [if_true, Option.some.injEq, Prod.mk.injEq] at hs
      obtain ⟨id, m, hc, hm, _⟩ := passes_eq_false.mp hs.2
      exact ⟨id, m, hc, hm⟩
    · simp only [hxs, if_false] at hs
      exact h.parked x it' hs

theorem not_mem_filter_ne {m : List Nat} {sr x : Nat} : x ∉ m.filter (· ≠ sr) ↔ x ∉ m ∨ x = sr := by
  rw [List.mem_filter, Decidable.not_and_iff_not_or_not, decide_eq_true_eq, Decidable.not_not]

theorem Inv.lastProc_bar {s : St} {p a g} (h : Inv base u0 s p a g) {id sr : Nat} {m : List Nat}
    (hc : s.ckpt = some (id, m)) {x : Nat} (hx : x < s.k) (hxm : x ∉ m.filter (· ≠ sr)) :
    lastProc x (p ++ [(sr, .bar id)]) = some (.bar id) := by
  rw [lastProc_concat]
  by_cases hxs : sr = x
  · rw [if_pos hxs]
  · rw [if_neg hxs]
    exact ((h.ck id m hc).2 x hx ((not_mem_filter_ne.mp hxm).resolve_right (Ne.symm hxs))).1

theorem Inv.reg {s : St} {p a g} (h : Inv base u0 s p a g) {id sr : Nat} {m : List Nat} (hc : s.ckpt = some (id, m))
    (hsr : sr < s.k) (hm : m.filter (· ≠ sr) ≠ []) :
    Inv base u0 { s with ckpt := some (id, m.filter (· ≠ sr)), slots := fun i => if i = sr then none else s.slots i }
      (p ++ [(sr, .bar id)]) a ((sr, id) :: g) := by
  refine ⟨h.kv_eq, ?_, ?_, ?_, ?_, h.af⟩
  · rw [userProcs_concat_bar]
    exact h.users
  · intro i m' e
    cases e
    refine ⟨hm, fun x hx hxm => ⟨h.lastProc_bar hc hx hxm, fun it e => ?_⟩⟩
    obtain ⟨hxs, e⟩ := Option.ite_none_left_eq_some.mp e
    exact ((h.ck id m hc).2 x hx ((not_mem_filter_ne.mp hxm).resolve_right hxs)).2 it e
  · intro x it hs
    exact ⟨_, _, rfl, fun hin =>
      h.parked_missing hc (Option.ite_none_left_eq_some.mp hs).2 (List.mem_filter.mp hin).1⟩
  · intro x i
    rw [List.mem_cons, h.got_iff hc]
    constructor
    · rintro (e | ⟨rfl, hx, hxm⟩)
      · cases e
        exact ⟨_, rfl, hsr, not_mem_filter_ne.mpr (Or.inr rfl)⟩
      · exact ⟨_, rfl, hx, not_mem_filter_ne.mpr (Or.inl hxm)⟩
    · rintro ⟨m', e, hx, hxm⟩
      cases e
      rcases not_mem_filter_ne.mp hxm with hxm | rfl
      · exact Or.inr ⟨rfl, hx, hxm⟩
      · exact Or.inl rfl

/-- the last barrier; `hx`, `hp`: the pending batch was flushed -/
theorem Inv.complete {s s' : St} {p a g} {o : List Obs} (h : Inv base u0 s p a g) {id sr : Nat} {m : List Nat}
    (hc : s.ckpt = some (id, m)) (hm : m.filter (· ≠ sr) = []) (hx : Ext s s' o []) (hp : s'.pending = []) :
    Inv base u0 { s' with ckpt := none, slots := fun i => if i = sr then none else release s'.slots i }
      (p ++ [(sr, .bar id)]) (a ++ entriesOf o) [] ∧
    Cut s.k base u0 (p ++ [(sr, .bar id)]) (a ++ entriesOf o) id s'.kv := by
  have hents : entriesOf o = s.pending := by
    have := hx.ents
    rw [hp] at this
    simpa using this
  have hkv : s'.kv = (a ++ entriesOf o).foldl applyRec base := by rw [hx.kv, List.foldl_append, ← h.kv_eq]
  have hus : userOf (a ++ entriesOf o) = u0 ++ userProcs (p ++ [(sr, .bar id)]) := by
    rw [hents, userProcs_concat_bar]
    exact h.users
  refine ⟨⟨hkv, by rw [hp, List.append_nil]; exact hus, ?_, ?_, ?_, hx.af.trans h.af⟩, hkv, hus, ?_⟩
  · intro i m' e
    cases e
  · intro x it hs
    exact (release_ne_parked _ _ _ (Option.ite_none_left_eq_some.mp hs).2).elim
  · intro x i
    constructor
    · intro hg
      cases hg
    · rintro ⟨_, e, _⟩
      cases e
  · intro x hx'
    exact h.lastProc_bar hc hx' (hm ▸ List.not_mem_nil)

/-! ## every plain step preserves the invariant and emits a well-aligned piece of trace -/

structure StepOK (base : KVf) (u0 : List (Nat × Bytes × Nat × Nat)) (k : Nat) (p : List (Nat × Item)) (a : List Entry)
    (g : List (Nat × Nat)) (r : St × List Obs) : Prop where
  inv : Inv base u0 r.1 (p ++ procsOf r.2) (a ++ entriesOf r.2) (gotOf g r.2)
  cut : cutOK k base u0 p a r.2
  align : alignOK k g r.2

def Obs.inert : Obs → Bool
  | .proc _ _ => false
  | .handler _ _ _ => false
  | .reg _ _ => false
  | .snap _ _ _ => false
  | _ => true

abbrev Inert (base : KVf) (u0 : List (Nat × Bytes × Nat × Nat)) (k : Nat) (o : List Obs) : Prop :=
  procsOf o = [] ∧ entriesOf o = [] ∧ (∀ g, gotOf g o = g) ∧ (∀ p a, cutOK k base u0 p a o) ∧ ∀ g, alignOK k g o

theorem inert_nil (k : Nat) : procsOf [] = [] ∧ entriesOf [] = [] ∧ (∀ g, gotOf g [] = g) ∧
    (∀ p a, cutOK k base u0 p a []) ∧ ∀ g, alignOK k g [] :=
  ⟨rfl, rfl, fun _ => rfl, fun _ _ => trivial, fun _ => trivial⟩

theorem inert_of_all {k : Nat} {o : List Obs} (h : o.all Obs.inert = true) : Inert base u0 k o := by
  refine forall_mem_induct (P := Inert base u0 k) (inert_nil k) (fun x r hx ih => ?_) (List.all_eq_true.mp h)
  cases x with
  | proc _ _ => cases hx
  | handler _ _ _ => cases hx
  | reg _ _ => cases hx
  | snap _ _ _ => cases hx
  | _ => exact ih

theorem stepOK_inert {s' : St} {k : Nat} {p a g} {o : List Obs} (h' : Inv base u0 s' p a g)
    (ho : o.all Obs.inert = true) : StepOK base u0 k p a g (s', o) := by
  obtain ⟨t1, t2, t3, t4, t5⟩ : Inert base u0 k o := inert_of_all ho
  refine ⟨?_, t4 _ _, t5 _⟩
  rw [t1, t2, t3, List.append_nil, List.append_nil]
  exact h'

theorem stepOK_go_ext {s s' : St} {p a g} {o tl : List Obs} {es : List Entry} {sr : Nat} {it : Item}
    (h : Inv base u0 s p a g) (hslot : s.slots sr = some (it, true)) (hx : Ext s s' o es)
    (hu : userOf es = userProcs [(sr, it)])
    (htl : tl.all Obs.inert = true) :
    StepOK base u0 s.k p a g
      ({ s' with slots := fun i => if i = sr then none else s'.slots i }, .proc sr it :: (o ++ tl)) := by
  obtain ⟨t1, t2, t3, t4, t5⟩ : Inert base u0 s.k tl := inert_of_all htl
  have hu' : userProcs (p ++ [(sr, it)]) = userProcs p ++ userOf es := by rw [userProcs_append, hu]
  -- `sr` stands at the gate, so it is none of the runners whose barrier was accepted: their last items stay
  have hl : ∀ id m x, s.ckpt = some (id, m) → x < s.k → x ∉ m → lastProc x (p ++ [(sr, it)]) = lastProc x p := by
    intro id m x hc hx' hxm
    have hne : ¬ sr = x := fun e => ((h.ck id m hc).2 x hx' hxm).2 it (e ▸ hslot)
    rw [lastProc_concat, if_neg hne]
  refine ⟨?_, ?_, ?_⟩
  · simp only [procsOf_cons, entriesOf_cons, gotOf_cons, procsOf_append, entriesOf_append, gotOf_append,
      hx.onlyH.procsOf_eq_nil, hx.onlyH.gotOf_eq, t1, t2, t3, List.append_nil]
    exact (h.of_ext hx hu' hl).clear sr
  · rw [cutOK_cons, cutOK_append]
    exact ⟨trivial, hx.onlyH.cutOK _ _ _ _ _, t4 _ _⟩
  · rw [alignOK_cons, alignOK_append]
    exact ⟨h.passed_not_got hslot, hx.onlyH.alignOK _ _, t5 _⟩

theorem stepOK_record {s : St} {p a g} (h : Inv base u0 s p a g) (hkpos : 0 < s.k) {sr id : Nat}
    (hslot : s.slots sr = some (.bar id, true)) {tl : List Obs} (htl : tl.all Obs.inert = true) :
    StepOK base u0 s.k p a g
      ({ s with ckpt := some (virtCk s id), slots := fun i => if i = sr then none else s.slots i },
       .proc sr (.bar id) :: tl) :=
  stepOK_go_ext (tl := tl) (h.virt hkpos id) hslot (Ext.refl _) rfl htl

theorem barrierU_ok {s : St} {p a g} (h : Inv base u0 s p a g) {sr id : Nat} (hkpos : 0 < s.k)
    (hslot : s.slots sr = some (.bar id, true)) :
    StepOK base u0 s.k p a g
      ({ (barrierU s sr id).1 with slots := fun i => if i = sr then none else (barrierU s sr id).1.slots i },
       .proc sr (.bar id) :: (barrierU s sr id).2) := by
  -- under `Inv` no record is complete (`ck`: somebody is missing), so `barrierU` never hands over to `barrier`
  have hne : (virtCk s id).2.isEmpty = false :=
    List.isEmpty_eq_false_iff.mpr ((h.virt hkpos id).ck (virtCk s id).1 (virtCk s id).2 rfl).1
  obtain ⟨e1, e2⟩ := barrierU_plain (s := s) sr id (Or.inl hne)
  rw [e1]
  rcases e2 with e2 | e2
  · rw [e2]
    exact stepOK_record h hkpos hslot rfl
  · rw [e2]
    exact stepOK_record h hkpos hslot rfl

theorem stepOK_complete {s s' : St} {p a g} {o : List Obs} (h : Inv base u0 s p a g) {id sr : Nat} {m : List Nat}
    (hc : s.ckpt = some (id, m)) (hslot : s.slots sr = some (.bar id, true))
    (hm : m.filter (· ≠ sr) = []) (hx : Ext s s' o []) (hp : s'.pending = []) (T : Timers) (l : List Nat) :
    StepOK base u0 s.k p a g
      ({ s' with ckpt := none, slots := fun i => if i = sr then none else release s'.slots i },
       .proc sr (.bar id) :: .reg sr id :: (o ++ [.snap id s'.kv T, .ack id, .released l])) := by
  obtain ⟨hinv, hcut⟩ := h.complete hc hm hx hp
  have hng := h.passed_not_got hslot
  refine ⟨?_, ?_, ?_⟩
  · have htl : entriesOf [Obs.snap id s'.kv T, .ack id, .released l] = [] := rfl
    simp only [procsOf_cons, entriesOf_cons, gotOf_cons, procsOf_append, entriesOf_append, gotOf_append,
      hx.onlyH.procsOf_eq_nil, hx.onlyH.gotOf_eq, htl, List.append_nil]
    exact hinv
  · show cutOK s.k base u0 (p ++ [(sr, .bar id)]) a (o ++ [.snap id s'.kv T, .ack id, .released l])
    rw [cutOK_append, hx.onlyH.procsOf_eq_nil, List.append_nil]
    exact ⟨hx.onlyH.cutOK _ _ _ _ _, hcut, trivial⟩
  · show (∀ i, (sr, i) ∉ g) ∧ (∀ i, (sr, i) ∉ g) ∧
      alignOK s.k ((sr, id) :: g) (o ++ [.snap id s'.kv T, .ack id, .released l])
    rw [alignOK_append, hx.onlyH.gotOf_eq]
    refine ⟨hng, hng, hx.onlyH.alignOK _ _, ?_, trivial⟩
    -- every runner's barrier `id` is accepted: `sr`'s just now, the others' are not missing
    intro x hxk
    rcases not_mem_filter_ne.mp (hm ▸ List.not_mem_nil : x ∉ m.filter (· ≠ sr)) with hxm | rfl
    · exact List.mem_cons_of_mem _ ((h.got_iff hc).mpr ⟨rfl, hxk, hxm⟩)
    · exact List.mem_cons_self

/-- the consumer runs `handleCheckpointBarrier` for a deployed runner -/
theorem barrier_ok {s : St} {p a g} (h : Inv base u0 s p a g) {sr id : Nat} (hsr : sr < s.k)
    (hslot : s.slots sr = some (.bar id, true)) :
    StepOK base u0 s.k p a g
      ({ (barrier s sr id).1 with slots := fun i => if i = sr then none else (barrier s sr id).1.slots i },
       .proc sr (.bar id) :: (barrier s sr id).2) := by
  have hkpos : 0 < s.k := Nat.zero_lt_of_lt hsr
  have h1 := h.virt hkpos id
  have hng := h.passed_not_got hslot
  by_cases hid : id = (virtCk s id).1
  · have hc1 : ({ s with ckpt := some (virtCk s id) } : St).ckpt = some (id, (virtCk s id).2) :=
      congrArg some (Prod.ext hid.symm rfl)
    cases hm : ((virtCk s id).2.filter (· ≠ sr)).isEmpty
    · -- barrier accepted, checkpoint still incomplete
      rw [barrier_reg hid hm, ← hid]
      refine { inv := ?_, cut := trivial, align := ⟨hng, hng, trivial⟩ }
      show Inv base u0 _ (p ++ [(sr, .bar id)]) (a ++ []) ((sr, id) :: g)
      rw [List.append_nil]
      exact h1.reg hc1 hsr (List.isEmpty_eq_false_iff.mp hm)
    · -- last barrier: flush, snapshot, ack, reset, release
      rw [barrier_done hid hm h.af, ← hid]
      have hf := flush_ext { s with ckpt := some (virtCk s id) }
      have hfp := flush_pending { s with ckpt := some (virtCk s id) }
      rw [flush_ckpt] at hf hfp
      exact stepOK_complete h1 hc1 hslot (List.isEmpty_iff.mp hm) hf hfp _ _
  · -- id mismatch: rejected, nothing changes
    rw [barrier_reject hid]
    exact stepOK_record h hkpos hslot rfl

theorem go_ok {s : St} {p a g} (h : Inv base u0 s p a g) (hkpos : 0 < s.k) {sr : Nat} {it : Item}
    (hs : s.slots sr = some (it, true)) :
    StepOK base u0 s.k p a g
      ({ (process s sr it).1 with slots := fun i => if i = sr then none else (process s sr it).1.slots i },
       .proc sr it :: (process s sr it).2) := by
  refine process_cases s sr (P := fun it r => s.slots sr = some (it, true) → StepOK base u0 s.k p a g
    ({ r.1 with slots := fun i => if i = sr then none else r.1.slots i }, .proc sr it :: r.2)) ?_ ?_ ?_ it hs
  · intro id hk hs
    exact barrier_ok h hk hs
  · intro id _ hs
    exact barrierU_ok h hkpos hs
  · intro it s' o es tl hx hu htl hs
    exact stepOK_go_ext h hs hx.toExt hu (htl Obs.inert rfl rfl)

theorem step_ok {s : St} {p a g} (h : Inv base u0 s p a g) (hkpos : 0 < s.k) (act : Act) (hpl : act.plain = true) :
    StepOK base u0 s.k p a g (step s act) := by
  refine step_cases s (P := fun b r => b.plain = true → StepOK base u0 s.k p a g r)
    ?noop ?busy ?aligned ?go ?timeout ?armFail ?armDbFail ?redeploy act hpl
  case noop => intro _ _; exact stepOK_inert h rfl
  case busy => intro _ _ _; exact stepOK_inert h rfl
  case aligned => intro sr it _ _; exact stepOK_inert (h.align sr it) rfl
  case go => intro sr it _ hs _; exact go_ok h hkpos hs
  case timeout =>
    intro _ t _
    have hx := (timeout_batch s t).toExt
    refine ⟨?_, hx.onlyH.cutOK _ _ _ _ _, hx.onlyH.alignOK _ _⟩
    simp only [hx.onlyH.procsOf_eq_nil, hx.onlyH.gotOf_eq, List.append_nil]
    exact h.of_ext hx (List.append_nil _).symm (fun _ _ _ _ _ _ => rfl)
  case armFail => intro h; cases h
  case armDbFail => intro h; cases h
  case redeploy => intro h; cases h

/-- invariant + the checkers of cut and alignment for a trace prefix of a deployment that started in `s0` -/
structure EpochOK (s0 s : St) (obs : List Obs) : Prop where
  k : s.k = s0.k
  inv : Inv s0.kv (userOf s0.pending) s (procsOf obs) (entriesOf obs) (gotOf [] obs)
  cut : cutOK s0.k s0.kv (userOf s0.pending) [] [] obs
  align : alignOK s0.k [] obs

theorem epoch_ok {s0 : St} (hf : Fresh s0) (as : List Act) (hpl : ∀ a ∈ as, a.plain = true) :
    EpochOK s0 (runFrom s0 [] as).1 (runFrom s0 [] as).2 := by
  refine runFrom_induct (I := EpochOK s0) as s0 [] ?_ ⟨rfl, inv_fresh hf, trivial, trivial⟩
  intro a ha s acc h
  obtain ⟨hinv', hcut', hal'⟩ := step_ok h.inv (h.k ▸ hf.kpos) a (hpl a ha)
  rw [h.k] at hcut' hal'
  refine ⟨(step_kz s a).1.trans h.k, ?_, ?_, ?_⟩
  · rw [procsOf_append, entriesOf_append, gotOf_append]
    exact hinv'
  · rw [cutOK_append]
    exact ⟨h.cut, hcut'⟩
  · rw [alignOK_append]
    exact ⟨h.align, hal'⟩

/-- the timer part needs no invariant (`runFrom_timers`) -/
structure TraceOK (s0 s : St) (obs : List Obs) : Prop extends EpochOK s0 s obs where
  timers : s.timers = timersOf s0.timers obs
  snaps : timersOK s0.timers obs

theorem run_ok {s0 : St} (hf : Fresh s0) (as : List Act) (hpl : ∀ a ∈ as, a.plain = true) :
    TraceOK s0 (runFrom s0 [] as).1 (runFrom s0 [] as).2 :=
  have ht := runFrom_timers as s0 fun hin => nomatch hpl _ hin
  ⟨epoch_ok hf as hpl, ht.1, ht.2⟩

end Rxn.Align
