import RxnModel.Proofs.Files
/-!
One-step facts about the C09 model (`Model/Files.lean`): unfoldings of `decision`, `keeps`, `needsTable`, `step`,
each under the name of the rule of the code it states. The property theorems (`Props/C09.lean`) are the statements
about whole histories that are built from them.
-/
namespace Rxn.Files
open Rxn

/-- a checkpoint is kept exactly if its id is listed or it is newer than every listed id -/
theorem keeps_iff (ids : List Nat) (c : Ckpt) : keeps ids c = true ↔ c.id ∈ ids ∨ ids.foldl max 0 < c.id := by
  simp [keeps]

/-- `Checkpoint.NextWALID` (`c09NextWalIsMax`): the number of the first WAL a restored instance writes is larger than
the number of EVERY WAL handle of the loaded checkpoint, whatever the order of the handles. -/
theorem next_wal_above_all_handles (ws : List Wal) : ∀ w ∈ ws, w.num < nextWalId ws :=
  nextWalId_gt ws

/-- Sealing a WAL at a checkpoint removes no table file and no WAL file with another name. -/
theorem sealed_wal_overwrites_only_its_name (s s' : State) (i id : Nat) (wal : Wal)
    (h : step s (.ckpt i id wal) = some s') :
    ∀ f ∈ s.files, (∀ v, f = .wal v → wal.same v = false) → f ∈ s'.files := by
  obtain ⟨_, _, _, _, _, _, _, rfl⟩ := step_ckpt h
  exact fun f hf hv => List.mem_cons_of_mem _
    (mem_clobber.mpr ⟨hf, fun ⟨v, he, hsm⟩ => Bool.false_ne_true ((hv v he).symm.trans hsm)⟩)

/-- A cleanup runs only for an unreachable object, can remove only that object's file, and removes it only if the
object was written by the instance itself or the ownership rule said delete. -/
theorem collect_deletes_only_unreachable (s s' : State) (i : Nat) (u : Path) (answers : List Ans) (x : Inst)
    (hx : s.insts[i]? = some x) (h : step s (.collect i u answers) = some s') :
    x.unreachable u = true ∧ (∀ f ∈ s.files, f ≠ .sst u → f ∈ s'.files) ∧
    (.sst u ∈ s.files → .sst u ∉ s'.files → u ∈ x.created ∨
      ∃ t ∈ x.loaded, t.uri = u ∧ decision x.range t (x.nbrs.zip answers) = .delete) :=
  let ⟨a, b, _, d⟩ := collect_effect hx h
  ⟨a, b, d⟩

/-- For a running instance "unreachable" means: in no level list the instance holds — not the current one, not one
captured by a checkpoint in its list, not a snapshot of a reader or compaction. -/
theorem unreachable_alive (x : Inst) (u : Path) (hl : x.life = .alive) (h : x.unreachable u = true) :
    u ∉ uris x.current ∧ (∀ c ∈ x.ckpts, u ∉ uris c.tables) ∧ ∀ sn ∈ x.snaps, u ∉ uris sn :=
  unreferenced_of_unreachable (by simp [hl]) h

/-- A table loaded from a checkpoint document whose key-group span is not inside the operator's own range is deleted
only if every neighbour whose range overlaps the table answered a definite "no". -/
theorem shared_table_needs_all_no (own : KGRange) (t : Tbl) (nbrs : List (KGRange × Ans))
    (hnc : Gen.kgContains own t.span = false) (h : decision own t nbrs = .delete) :
    ∀ ra ∈ nbrs, Gen.kgOverlaps ra.1 t.span = true → ra.2 = .no :=
  (decision_delete_cases own t nbrs h).resolve_left (by simp [hnc])

/-- error ⇒ keep, the pure rule (D9, repaired: `c09OwnsErrKeeps`) -/
theorem error_means_keep_rule (own : KGRange) (t : Tbl) (nbrs : List (KGRange × Ans))
    (hnc : Gen.kgContains own t.span = false)
    (h : ∃ ra ∈ nbrs, Gen.kgOverlaps ra.1 t.span = true ∧ (ra.2 = .err ∨ ra.2 = .hang)) :
    decision own t nbrs ≠ .delete :=
  let ⟨ra, hra, ho, hans⟩ := h
  decision_ne_delete own t nbrs hnc ⟨ra, hra, ho, hans.imp_right Or.inl⟩

/-- … and the step that uses it: if a neighbour whose range overlaps a shared table could not be asked (error) or does not answer
(the query has no deadline: `arrives`), collecting the table object never deletes the file. (D9, repaired: `c09OwnsErrKeeps`.) -/
theorem error_means_keep_step (s s' : State) (i : Nat) (u : Path) (answers : List Ans) (x : Inst)
    (hx : s.insts[i]? = some x) (h : step s (.collect i u answers) = some s')
    (hload : u ∉ x.created)
    (hbad : ∀ t ∈ x.loaded, t.uri = u → Gen.kgContains x.range t.span = false ∧
      ∃ ra ∈ x.nbrs.zip answers, Gen.kgOverlaps ra.1 t.span = true ∧ (ra.2 = .err ∨ ra.2 = .hang))
    (hin : .sst u ∈ s.files) : .sst u ∈ s'.files := by
  obtain ⟨_, _, _, hd⟩ := collect_effect hx h
  by_cases hout : File.sst u ∈ s'.files
  · exact hout
  · rcases hd hin hout with hc | ⟨t, ht, hu, hdel⟩
    · exact absurd hc hload
    · obtain ⟨hnc, hbad⟩ := hbad t ht hu
      exact absurd hdel (error_means_keep_rule x.range t _ hnc hbad)

/-- An operator whose redeploy fails (or is still loading) keeps serving the instance it had: nothing it holds
changes, so its `NeedsTable` answers stay what they were (`HandleDeploy` assigns `o.db` only after `dkv.Open`
returned). The correspondence drives a real `operator.Operator` through a failing `HandleDeploy` and asks it through
`HandleNeedsTable` in that window. -/
theorem failed_redeploy_keeps_serving (s s' : State) (i : Nat) (h : step s (.redeployFailed i) = some s') :
    s' = s ∧ ∃ x, s.insts[i]? = some x ∧ x.life = .alive := by
  obtain ⟨x, hx, hl, rfl⟩ := step_redeployFailed h
  exact ⟨rfl, x, hx, hl⟩

/-- A neighbour's "no" (`DB.NeedsTable = false`) means the table is in none of its retained checkpoints — whether
loaded from a document or taken by the instance itself — and not in its live level list. (D24, repaired:
`c09NeedsChecksLive`, `c09CkptUsesLevels`.) -/
theorem neighbour_no_is_truthful (x : Inst) (u : Path) (h : needsTable x u = false) :
    u ∉ uris x.current ∧ ∀ c ∈ x.ckpts, u ∉ uris c.tables :=
  needsTable_false.mp h

/-- with nothing in between the two reads give the atomic answer -/
theorem needsTable2_same (x : Inst) (u : Path) : needsTable2 x x u = needsTable x u := by
  rw [needsTable2, needsFirst_eq, needsSecond_eq, needsTable_eq, Bool.or_comm]

end Rxn.Files
