import RxnModel.Proofs.TimersRun
/-!
The operator-level fire loop (`Op.fireLoop`: `handleWatermark` over the iterator of `AdvanceWatermark`, with batches
flushed — and the handler's new timers registered — between two firings) refines the timer-set specification.
-/
namespace Rxn.Timers
open Rxn Rxn.Bytes

/-- found once: finding it anew at every use is slow to check -/
theorem lawfulBEq_timer : LawfulBEq (Bytes × Int) := inferInstance

def dueOf (sp : Spec) (c : Int) : List (Bytes × Int) := sp.pending.filter fun p => decide (p.2 ≤ c)

/-- what the handler's registrations during a flush do to the specification: only timers later than its watermark are added -/
structure SpecExt (sp sp' : Spec) : Prop where
  wm : sp'.wm = sp.wm
  due : dueOf sp' sp.wm = dueOf sp sp.wm
  mono : ∀ p ∈ sp.pending, p ∈ sp'.pending

theorem SpecExt.refl (sp : Spec) : SpecExt sp sp := ⟨rfl, rfl, fun _ hp => hp⟩

theorem SpecExt.trans {a b c : Spec} (h1 : SpecExt a b) (h2 : SpecExt b c) : SpecExt a c := by
  refine ⟨h2.wm.trans h1.wm, ?_, fun p hp => h2.mono p (h1.mono p hp)⟩
  have := h2.due
  rw [h1.wm] at this
  rw [this, h1.due]

theorem SpecExt.setTimer (sp : Spec) (k : Bytes) (t : Int) : SpecExt sp (sp.setTimer k t) := by
  unfold Spec.setTimer
  haveI := lawfulBEq_timer
  by_cases h : t > sp.wm ∧ (k, t) ∉ sp.pending
  · rw [if_pos h]
    refine ⟨rfl, ?_, fun p hp => List.mem_cons_of_mem _ hp⟩
    have : ¬ t ≤ sp.wm := by omega
    simp [dueOf, this]
  · rw [if_neg h]
    exact SpecExt.refl sp

theorem handle_refines (evs : List HEv) (r : Registry) (sp : Spec) (kgc start stop : Nat)
    (h : Rel r sp) (hsh : Shape r.store kgc start stop) (hv : ∀ e ∈ evs, e.valid kgc start stop) :
    Rel (evs.foldl handlerFold r) (specHandle sp evs) ∧ Shape (evs.foldl handlerFold r).store kgc start stop ∧
    (specHandle sp evs).wm = sp.wm ∧ dueOf (specHandle sp evs) sp.wm = dueOf sp sp.wm ∧
    (∀ p ∈ sp.pending, p ∈ (specHandle sp evs).pending) := by
  -- one relation goes through both folds, over the events and over each event's timers
  let R (r' : Registry) (sp' : Spec) := Rel r' sp' ∧ Shape r'.store kgc start stop ∧ SpecExt sp sp'
  have hset (k : Bytes) (t : Int) (hv : (ROp.set k t).valid kgc start stop) (r' : Registry) (sp' : Spec) (h' : R r' sp') :
      R (r'.setTimer k t) (sp'.setTimer k t) := by
    obtain ⟨s1, s2⟩ := setTimer_refines r' sp' kgc start stop h'.1 h'.2.1 k t hv
    exact ⟨s1, s2, h'.2.2.trans (SpecExt.setTimer sp' k t)⟩
  have hR : R (evs.foldl handlerFold r) (specHandle sp evs) := by
    refine List.foldl_rel (r := R) ⟨h, hsh, SpecExt.refl sp⟩ (fun e he r' sp' h' => ?_)
    cases e with
    | keyed k ts =>
      obtain ⟨v1, v2, v3⟩ := hv _ he
      exact List.foldl_rel (r := R) h' (fun t ht => hset k t ⟨v1, v2, (v3 t ht).1, (v3 t ht).2⟩)
    | expired k t => exact h'
  exact ⟨hR.1, hR.2.1, hR.2.2.wm, hR.2.2.due, hR.2.2.mono⟩

/-- adding an event (and flushing when the batch is full) keeps the registry related to the specification, where a flush
lets the handler register the timers of the keyed events it is given -/
theorem add_refines (o : Op) (e : HEv) (sp : Spec) (kgc start stop : Nat) (h : Rel o.reg sp)
    (hsh : Shape o.reg.store kgc start stop) (hv : ∀ x ∈ o.batch, x.valid kgc start stop) (he : e.valid kgc start stop) :
    ∃ sp', Rel (o.add e).1.reg sp' ∧ Shape (o.add e).1.reg.store kgc start stop ∧ sp'.wm = sp.wm ∧
      dueOf sp' sp.wm = dueOf sp sp.wm ∧ (∀ p ∈ sp.pending, p ∈ sp'.pending) ∧
      (∀ x ∈ (o.add e).1.batch, x.valid kgc start stop) := by
  have hv' : ∀ x ∈ o.batch ++ [e], x.valid kgc start stop := by
    intro x hx
    rcases List.mem_append.mp hx with h1 | h1
    · exact hv x h1
    · rw [List.mem_singleton.mp h1]; exact he
  unfold Op.add
  by_cases hfull : ({ o with batch := o.batch ++ [e] } : Op).batch.length ≥ ({ o with batch := o.batch ++ [e] } : Op).maxBatch
  · simp only [hfull, if_true]
    obtain ⟨hreg, hbatch⟩ := flush_reg ({ o with batch := o.batch ++ [e] } : Op)
    obtain ⟨hrel, hshape, hwm, hdue, hmono⟩ := handle_refines (o.batch ++ [e]) o.reg sp kgc start stop h hsh hv'
    refine ⟨specHandle sp (o.batch ++ [e]), by rw [hreg]; exact hrel, by rw [hreg]; exact hshape, hwm, hdue, hmono, ?_⟩
    intro x hx; rw [hbatch] at hx; cases hx
  · simp only [hfull, if_false]
    exact ⟨sp, h, hsh, rfl, rfl, fun p hp => hp, hv'⟩

/-- deleting a stored timer key removes exactly its timer from the pending set -/
theorem delete_refines (r : Registry) (sp : Spec) (kgc start stop : Nat) (h : Rel r sp)
    (hsh : Shape r.store kgc start stop) (k : Bytes) (hk : k ∈ r.store.timerKeys) :
    Rel { r with store := r.store.deleteKey k } { sp with pending := sp.pending.filter fun p => !(p == timerOf k) } ∧
    Shape (r.store.deleteKey k) kgc start stop := by
  obtain ⟨hstep, hmem⟩ := deleteKey_of_mem r.store h.inv k hk
  refine ⟨h.filter hstep.inv hstep.kgc _ (fun x => ?_) h.ups h.wm, hsh.of_step hstep⟩
  haveI := lawfulBEq_timer
  rw [hmem x, Bool.not_eq_true', beq_eq_false_iff_ne]
  -- distinct stored keys are distinct timers: the codec is injective on well-formed keys
  constructor
  · rintro ⟨hx, hne⟩; exact ⟨hx, fun e => hne (wf_inj (h.wf x hx) (h.wf k hk) e)⟩
  · rintro ⟨hx, hne⟩; exact ⟨hx, fun e => hne (e ▸ rfl)⟩

theorem dueOf_remove (sp : Spec) (hn : sp.pending.Nodup) (p0 : Bytes × Int) (c : Int) (h0 : p0 ∈ sp.pending) (hdue : p0.2 ≤ c) :
    (p0 :: dueOf { sp with pending := sp.pending.filter fun p => !(p == p0) } c).Perm (dueOf sp c) := by
  have hcomm : dueOf { sp with pending := sp.pending.filter fun p => !(p == p0) } c =
      (dueOf sp c).filter fun p => !(p == p0) := by
    show (sp.pending.filter _).filter _ = (sp.pending.filter _).filter _
    rw [List.filter_filter, List.filter_filter]
    exact List.filter_congr fun x _ => Bool.and_comm _ _
  have hmem : p0 ∈ dueOf sp c := List.mem_filter.mpr ⟨h0, by simpa using hdue⟩
  haveI := lawfulBEq_timer
  have : (dueOf sp c).erase p0 = (dueOf sp c).filter fun p => !(p == p0) :=
    List.Nodup.erase_eq_filter (List.Pairwise.filter _ hn) p0
  rw [hcomm, ← this]
  exact (List.perm_cons_erase hmem).symm

/-- what the loop of `handleWatermark` does, against the specification: the `TimerExpired` events it adds are exactly the
pending timers at or before the composite (each once), in non-decreasing timestamp order; afterwards the registry is related
to some specification state at that composite in which nothing at or before it is pending and every timer that was pending
and is later still is (what else is pending there, the handler's registrations in between, `rel` does not say) -/
structure OpFireOK (comp : Int) (kgc start stop : Nat) (o : Op) (sp : Spec) (res : Op × List Req) : Prop where
  out : ∃ fired : List (Bytes × Int),
    allEvents res.2 res.1 = o.batch ++ fired.map (fun p => HEv.expired p.1 p.2) ∧
    fired.Perm (dueOf sp comp) ∧ fired.Pairwise (fun a b => a.2 ≤ b.2)
  rel : ∃ sp', Rel res.1.reg sp' ∧ sp'.wm = comp ∧ dueOf sp' comp = [] ∧
    (∀ p ∈ sp.pending, p.2 > comp → p ∈ sp'.pending)
  shape : Shape res.1.reg.store kgc start stop
  valid : ∀ x ∈ res.1.batch, x.valid kgc start stop

theorem dueOf_eq_nil_of_stopped (r : Registry) (sp : Spec) (h : Rel r sp) (comp : Int)
    (hstop : r.store.nextDue comp = none) : dueOf sp comp = [] := by
  unfold dueOf
  apply List.filter_eq_nil_iff.mpr
  intro p hp
  rcases nextDue_eq_none.mp hstop with e | ⟨k, e, hgt⟩
  · rw [h.pending_nil e] at hp; cases hp
  · have := (h.earliest_le e).2 p hp
    simp only [decide_eq_true_eq]; omega

theorem opFireLoop_refines (comp : Int) (kgc start stop : Nat) (n : Nat) (o : Op) (sp : Spec)
    (h : Rel o.reg sp) (hsh : Shape o.reg.store kgc start stop) (hwm : sp.wm = comp)
    (hv : ∀ x ∈ o.batch, x.valid kgc start stop) (hfuel : (dueOf sp comp).length < n) :
    OpFireOK comp kgc start stop o sp (Op.fireLoop comp n o) := by
  induction n generalizing o sp with
  | zero => omega
  | succ n ih =>
    cases he : o.reg.store.nextDue comp with
    | none =>
      rw [Op.fireLoop_done comp he]
      have hd := dueOf_eq_nil_of_stopped o.reg sp h comp he
      exact ⟨⟨[], by simp [allEvents], by rw [hd], List.Pairwise.nil⟩, ⟨sp, h, hwm, hd, fun p hp _ => hp⟩, hsh, hv⟩
    | some k0 =>
      rw [Op.fireLoop_fire comp he]
      obtain ⟨he, hdue⟩ := nextDue_eq_some.mp he
      have hk0 := (h.earliest_le he).1
      have hp0 : timerOf k0 ∈ sp.pending := (h.pend _).mpr ⟨k0, hk0, rfl⟩
      obtain ⟨d1, d2⟩ := delete_refines o.reg sp kgc start stop h hsh k0 hk0
      let sp1 : Spec := { sp with pending := sp.pending.filter fun p => !(p == timerOf k0) }
      let o1 : Op := { o with reg := { o.reg with store := o.reg.store.deleteKey k0 } }
      have hperm0 : (timerOf k0 :: dueOf sp1 comp).Perm (dueOf sp comp) := dueOf_remove sp h.nodup _ comp hp0 hdue
      -- a flush inside `add` lets the handler register timers, none of them due
      obtain ⟨sp2, hrel2, hshape2, hwm21, hdue2, hmono2, hvalid2⟩ :=
        add_refines o1 (.expired (timerOf k0).1 (timerOf k0).2) sp1 kgc start stop d1 d2 hv trivial
      have hwm1 : sp1.wm = comp := hwm
      have hwm2 : sp2.wm = comp := hwm21.trans hwm1
      rw [hwm1] at hdue2
      have hlen : (dueOf sp2 comp).length < n := by
        rw [hdue2]
        have := hperm0.length_eq
        simp only [List.length_cons] at this
        omega
      have hr := ih (o1.add (.expired (timerOf k0).1 (timerOf k0).2)).1 sp2 hrel2 hshape2 hwm2 hvalid2 hlen
      obtain ⟨fired, hev, hperm, hsorted⟩ := hr.out
      obtain ⟨sp', r1, r2, r3, r4⟩ := hr.rel
      refine ⟨⟨timerOf k0 :: fired, ?_, ?_, ?_⟩, ⟨sp', r1, r2, r3, ?_⟩, hr.shape, hr.valid⟩
      · exact allEvents_step o1 _ hev
      · rw [hdue2] at hperm
        exact (List.Perm.cons _ hperm).trans hperm0
      · refine List.pairwise_cons.mpr ⟨?_, hsorted⟩
        intro p hp
        have hp1 : p ∈ dueOf sp1 comp := by rw [← hdue2]; exact hperm.subset hp
        have hp2 : p ∈ sp.pending := by
          have := (List.mem_filter.mp hp1).1
          exact (List.mem_filter.mp this).1
        exact (h.earliest_le he).2 p hp2
      · intro p hp hgt
        have hp1 : p ∈ sp1.pending := by
          refine List.mem_filter.mpr ⟨hp, ?_⟩
          have hne : p ≠ timerOf k0 := by intro e; rw [e] at hgt; omega
          haveI := lawfulBEq_timer
          simp [hne]
        exact r4 p (hmono2 p hp1) hgt

/-- `handleWatermark` as a whole: the sender's report is entered on both sides, then the loop runs at the new composite -/
theorem opWatermark_refines (o : Op) (sp : Spec) (kgc start stop : Nat) (h : Rel o.reg sp)
    (hsh : Shape o.reg.store kgc start stop) (hv : ∀ x ∈ o.batch, x.valid kgc start stop) (sender : String) (v : Int) :
    OpFireOK (sp.ups.report sender v).2 kgc start stop o { sp with ups := (sp.ups.report sender v).1, wm := (sp.ups.report sender v).2 }
      (o.watermark sender v) := by
  unfold Op.watermark
  rw [h.ups]
  let sp1 : Spec := { sp with ups := (sp.ups.report sender v).1, wm := (sp.ups.report sender v).2 }
  let o1 : Op := { o with reg := { o.reg with ups := sp1.ups, wm := sp1.wm } }
  have hrel : Rel o1.reg sp1 := ⟨h.inv, rfl, rfl, h.wf, h.pend, h.nodup⟩
  -- fuel: the due timers are pending timers, and those are timers of distinct DB keys
  have r := opFireLoop_refines sp1.wm kgc start stop (o.reg.store.db.length + 1) o1 sp1 hrel hsh rfl hv
    (Nat.lt_succ_of_le (Nat.le_trans (List.length_filter_le _ _) h.pending_length_le))
  -- `OpFireOK` speaks of the operator before the step only through its batch, which entering the report leaves alone
  exact ⟨r.out, r.rel, r.shape, r.valid⟩

end Rxn.Timers
