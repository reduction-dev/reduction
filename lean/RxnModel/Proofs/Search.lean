import RxnModel.Model.Search
import RxnModel.Base.BytesOrder
/-! Correctness of the `SearchUnique` loop on inputs whose compare values are sign-sorted (− … − 0? + … +). -/
namespace Rxn.Search
variable {α : Type}

/-- what "sorted without duplicates with respect to the target" means for the compare callback:
an element that is not above the target has only strictly-below elements before it -/
def SignSorted (xs : Array α) (c : α → Int) : Prop :=
  ∀ i j (_ : i < j) (hj : j < xs.size), c xs[j] ≤ 0 → c (xs[i]'(by omega)) < 0

theorem go_spec (xs : Array α) (c : α → Int) (hs : SignSorted xs c) (low high : Nat) (hh : high ≤ xs.size)
    (hlow : ∀ i (h : i < xs.size), i < low → c xs[i] < 0)
    (hhigh : ∀ i (h : i < xs.size), high ≤ i → 0 < c xs[i]) :
    (∀ r, go xs c low high = some r → ∃ h : r < xs.size, c xs[r] = 0) ∧
    (go xs c low high = none → ∀ i (h : i < xs.size), c xs[i] ≠ 0) := by
  fun_induction go xs c low high with
  | case1 low high hlh i hi v hv0 => exact ⟨fun r hr => (by cases hr; exact ⟨hi, hv0⟩), fun h => (by cases h)⟩
  | case2 low high hlh i hi v hv0 hneg ih =>
    have hneg' : c xs[i] < 0 := hneg
    refine ih hh (fun k hk hlt => ?_) hhigh
    by_cases hke : k = i
    · subst hke; exact hneg'
    · exact hs k i (Nat.lt_of_le_of_ne (Nat.le_of_lt_succ hlt) hke) hi (Int.le_of_lt hneg')
  | case3 low high hlh i hi v hv0 hneg ih =>
    have hpos : 0 < c xs[i] := Int.lt_iff_le_and_ne.mpr ⟨Int.not_lt.mp hneg, Ne.symm hv0⟩
    refine ih (Nat.le_of_lt hi) hlow (fun k hk hge => ?_)
    by_cases hke : k = i
    · subst hke; exact hpos
    · apply Int.lt_of_not_ge
      intro hle
      exact absurd (hs i k (Nat.lt_of_le_of_ne hge (Ne.symm hke)) hk hle) (Int.not_lt.mpr (Int.le_of_lt hpos))
  | case4 low high hlh i hi => omega
  | case5 low high hlh =>
    refine ⟨fun r hr => (by cases hr), fun _ i hi => ?_⟩
    by_cases hil : i < low
    · exact Int.ne_of_lt (hlow i hi hil)
    · exact (Int.ne_of_lt (hhigh i hi (Nat.le_trans (Nat.le_of_not_lt hlh) (Nat.le_of_not_lt hil)))).symm

theorem searchUnique_sound (xs : Array α) (c : α → Int) (hs : SignSorted xs c) (r : Nat)
    (h : searchUnique xs c = some r) : ∃ hr : r < xs.size, c xs[r] = 0 :=
  (go_spec xs c hs 0 xs.size (Nat.le_refl _) (fun _ _ h => absurd h (Nat.not_lt_zero _))
    (fun i h h2 => absurd h (by omega))).1 r h

theorem searchUnique_complete (xs : Array α) (c : α → Int) (hs : SignSorted xs c)
    (h : searchUnique xs c = none) : ∀ i (hi : i < xs.size), c xs[i] ≠ 0 :=
  (go_spec xs c hs 0 xs.size (Nat.le_refl _) (fun _ _ h => absurd h (Nat.not_lt_zero _))
    (fun i h h2 => absurd h (by omega))).2 h

theorem signSorted_unique (xs : Array α) (c : α → Int) (hs : SignSorted xs c) (i j : Nat)
    (hi : i < xs.size) (hj : j < xs.size) (h1 : c xs[i] = 0) (h2 : c xs[j] = 0) : i = j := by
  rcases Nat.lt_trichotomy i j with h | h | h
  · exact absurd (hs i j h hj (Int.le_of_eq h2)) (by rw [h1]; exact Int.lt_irrefl 0)
  · exact h
  · exact absurd (hs j i h hi (Int.le_of_eq h1)) (by rw [h2]; exact Int.lt_irrefl 0)

theorem searchUnique_iff (xs : Array α) (c : α → Int) (hs : SignSorted xs c) (r : Nat) :
    searchUnique xs c = some r ↔ ∃ hr : r < xs.size, c xs[r] = 0 := by
  constructor
  · exact searchUnique_sound xs c hs r
  · rintro ⟨hr, h0⟩
    cases hq : searchUnique xs c with
    | none => exact absurd h0 (searchUnique_complete xs c hs hq r hr)
    | some q =>
      obtain ⟨hq1, hq2⟩ := searchUnique_sound xs c hs q hq
      rw [signSorted_unique xs c hs q r hq1 hr hq2 h0]

theorem searchUnique_spec (xs : Array α) (c : α → Int) (hs : SignSorted xs c) {P : α → Prop} (hz : ∀ x, c x = 0 ↔ P x) :
    (∀ r, searchUnique xs c = some r ↔ ∃ hr : r < xs.size, P xs[r]) ∧
    (searchUnique xs c = none ↔ ∀ i (hi : i < xs.size), ¬ P xs[i]) := by
  refine ⟨fun r => (searchUnique_iff xs c hs r).trans (exists_congr fun _ => hz _), ?_, ?_⟩
  · exact fun h i hi hp => searchUnique_complete xs c hs h i hi ((hz _).mpr hp)
  · intro h
    cases hq : searchUnique xs c with
    | none => rfl
    | some q =>
      obtain ⟨hq1, hq2⟩ := searchUnique_sound xs c hs q hq
      exact absurd ((hz _).mp hq2) (h q hq1)

theorem cmpInt_neg {a b : Bytes} : cmpInt a b < 0 ↔ Bytes.cmp a b = .lt := by
  unfold cmpInt; cases Bytes.cmp a b <;> simp
theorem cmpInt_zero {a b : Bytes} : cmpInt a b = 0 ↔ a = b := by
  rw [← Bytes.cmp_eq_iff]; unfold cmpInt; cases Bytes.cmp a b <;> simp
theorem cmpInt_pos {a b : Bytes} : 0 < cmpInt a b ↔ Bytes.cmp a b = .gt := by
  unfold cmpInt; cases Bytes.cmp a b <;> simp
theorem cmpInt_nonpos {a b : Bytes} : cmpInt a b ≤ 0 ↔ Bytes.cmp a b ≠ .gt := by
  unfold cmpInt; cases Bytes.cmp a b <;> simp

theorem signSorted_bytes (xs : Array Bytes) (t : Bytes)
    (hasc : ∀ i j (_ : i < j) (hj : j < xs.size), Bytes.cmp (xs[i]'(by omega)) xs[j] = .lt) :
    SignSorted xs (fun x => cmpInt x t) := by
  intro i j hij hj hle
  exact cmpInt_neg.mpr (Bytes.cmp_lt_le_trans (hasc i j hij hj) (cmpInt_nonpos.mp hle))

/-- a level: every table has `start ≤ end`, and tables are disjoint and ascending (`end_i < start_j` for `i < j`) -/
def LevelOk (ts : Array (Bytes × Bytes)) : Prop :=
  (∀ i (h : i < ts.size), Bytes.cmp ts[i].1 ts[i].2 ≠ .gt) ∧
  (∀ i j (_ : i < j) (hj : j < ts.size), Bytes.cmp (ts[i]'(by omega)).2 ts[j].1 = .lt)

theorem rangeKeyCompare_nonpos {s e k : Bytes} : Gen.tblRangeKeyCompare s e k ≤ 0 ↔ Bytes.cmp s k ≠ .gt := by
  unfold Gen.tblRangeKeyCompare cmpInt
  cases Bytes.cmp s k <;> cases Bytes.cmp e k <;> simp

theorem rangeKeyCompare_neg {s e k : Bytes} (hse : Bytes.cmp s e ≠ .gt) :
    Gen.tblRangeKeyCompare s e k < 0 ↔ Bytes.cmp e k = .lt := by
  constructor
  · unfold Gen.tblRangeKeyCompare cmpInt
    cases Bytes.cmp s k <;> cases Bytes.cmp e k <;> simp
  · intro h
    have hs : Bytes.cmp s k = .lt := Bytes.cmp_le_lt_trans hse h
    unfold Gen.tblRangeKeyCompare cmpInt
    rw [hs, h]; simp

theorem rangeKeyCompare_zero {s e k : Bytes} :
    Gen.tblRangeKeyCompare s e k = 0 ↔ Gen.tblRangeContainsKey s e k = true := by
  unfold Gen.tblRangeKeyCompare Gen.tblRangeContainsKey cmpInt
  cases Bytes.cmp s k <;> cases Bytes.cmp e k <;> simp

theorem signSorted_level (ts : Array (Bytes × Bytes)) (key : Bytes) (h : LevelOk ts) :
    SignSorted ts (fun t => Gen.tblRangeKeyCompare t.1 t.2 key) := by
  intro i j hij hj hle
  have hi : i < ts.size := by omega
  show Gen.tblRangeKeyCompare ts[i].1 ts[i].2 key < 0
  rw [rangeKeyCompare_neg (h.1 i hi)]
  exact Bytes.cmp_lt_le_trans (h.2 i j hij hj) (rangeKeyCompare_nonpos.mp hle)

end Rxn.Search
