import RxnModel.Proofs.Sst
import RxnModel.Proofs.Lsm
/-!
Hand-off between C17 and C07/C18: the tables written by `WriteRun` from a sorted run, seen as `Lsm.Tbl`s (the LSM
model's abstraction: a table is its sorted run, `Tbl.get` = range test + lookup), satisfy what the LSM proofs assume of
a deeper level — `Lsm.Run.Sorted`, `Lsm.RangeUnique` — and answer like the byte-level table.
-/
namespace Rxn.Sst
open Rxn

def toLsm (e : Entry) : Lsm.Entry := ⟨e.key, e.seq, e.del, e.val⟩
def toRun (es : List Entry) : Lsm.Run := es.map toLsm

theorem toRun_lookup (es : List Entry) (k : Bytes) : Lsm.Run.lookup (toRun es) k = (lookup es k).map toLsm := by
  induction es with
  | nil => rfl
  | cons e es ih =>
    simp only [toRun, List.map_cons, Lsm.Run.lookup, lookup, List.find?_cons] at ih ⊢
    by_cases h : e.key = k
    · simp [h, toLsm]
    · simp only [toLsm, h, if_false, decide_false]
      exact ih

theorem toRun_sorted (es : List Entry) (h : SortedKeys es) : Lsm.Run.Sorted (toRun es) := by
  unfold Lsm.Run.Sorted toRun; rw [List.pairwise_map]; exact h

theorem toRun_filter (es : List Entry) (p : Bytes) :
    toRun (es.filter (fun e => e.key.hasPrefix p)) = (toRun es).filter (fun e => Bytes.hasPrefix e.key p) := by
  unfold toRun; rw [List.filter_map]; rfl

theorem tbl_startKey (id : Nat) (es : List Entry) : (⟨id, toRun es⟩ : Lsm.Tbl).startKey = (docOf es).startKey := by
  cases es with
  | nil => rfl
  | cons e es => rfl

theorem tbl_endKey (id : Nat) (es : List Entry) : (⟨id, toRun es⟩ : Lsm.Tbl).endKey = (docOf es).endKey := by
  simp only [Lsm.Tbl.endKey, docOf, toRun, List.getLast?_map]
  cases es.getLast? with
  | none => rfl
  | some e => rfl

theorem tbl_get_toRun (id : Nat) (c : List Entry) (hs : SortedKeys c) (k : Bytes) :
    Lsm.Tbl.get ⟨id, toRun c⟩ k = (lookup c k).map toLsm := by
  rw [Lsm.tblGet_eq_lookup ⟨id, toRun c⟩ (toRun_sorted c hs) k, toRun_lookup]

/-- the tables of `WriteRun`, whatever their ids, are a level of the LSM model: sorted runs, pairwise exclusive ranges -/
theorem writeRun_level (target : Nat) (ht : 0 < target) (es : List Entry) (hs : SortedKeys es)
    (ts : List Lsm.Tbl) (hts : ts.map (·.run) = (writeRun target es).map toRun) :
    (∀ t ∈ ts, Lsm.Run.Sorted t.run) ∧ Lsm.RangeUnique ts := by
  refine ⟨fun t ht' => ?_, ?_⟩
  · have : t.run ∈ (writeRun target es).map toRun := by rw [← hts]; exact List.mem_map_of_mem ht'
    obtain ⟨c, hc, hrun⟩ := List.mem_map.mp this
    rw [← hrun]
    exact toRun_sorted c ((writeRun_pairwise target es hs).2 c hc)
  -- the relation looks at the runs only, and on the chunks it follows from the order of the documents' ranges
  have hp : ((writeRun target es).map toRun).Pairwise (fun r1 r2 => ∀ k,
      ¬ ((⟨0, r1⟩ : Lsm.Tbl).rangeContainsKey k = true ∧ (⟨0, r2⟩ : Lsm.Tbl).rangeContainsKey k = true)) := by
    rw [List.pairwise_map]
    refine (writeRun_docs_ordered target ht es hs).imp ?_
    intro c d h k
    exact Lsm.ranges_exclusive (by rw [tbl_startKey, tbl_endKey]; exact h) k
  rw [← hts, List.pairwise_map] at hp
  exact hp

theorem writeRun_lookup (target : Nat) (es : List Entry) (k : Bytes) :
    lookup es k = (writeRun target es).findSome? (fun c => lookup c k) := by
  conv => lhs; rw [← writeRun_flatten target es]
  unfold lookup
  rw [List.find?_flatten]

end Rxn.Sst
