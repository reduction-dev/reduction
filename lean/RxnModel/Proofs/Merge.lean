import RxnModel.Model.Merge
import RxnModel.Generated.Fns
import RxnModel.Proofs.Heap
import RxnModel.Proofs.Lists
/-! k-way merge over the heap: the popped sequence is a sorted permutation of the inputs (`StOK` is the loop invariant,
`pull` the step shared by constructor and loop); duplicate resolution keeps per key the item a preorder `R` prefers
(`Rep`, `RInv`); a consumer that stops at its `n`-th item has seen a prefix. -/
namespace Rxn.Merge
variable {α : Type}

/-- what the merges need from the compare callback: sign-antisymmetric and transitive (a total preorder) -/
structure CmpOK (cmp : α → α → Int) : Prop where
  antisymm : ∀ a b, cmp a b < 0 ↔ 0 < cmp b a
  trans : ∀ a b c, cmp a b ≤ 0 → cmp b c ≤ 0 → cmp a c ≤ 0

theorem CmpOK.flip_le {cmp : α → α → Int} (hc : CmpOK cmp) {a b : α} (h : 0 ≤ cmp a b) : cmp b a ≤ 0 := by
  apply Int.not_lt.mp
  intro h2
  have := (hc.antisymm a b).mpr h2
  omega

theorem CmpOK.refl {cmp : α → α → Int} (hc : CmpOK cmp) (a : α) : cmp a a = 0 := by
  have h1 := hc.antisymm a a
  omega

theorem CmpOK.eq_symm {cmp : α → α → Int} (hc : CmpOK cmp) {a b : α} (h : cmp a b = 0) : cmp b a = 0 := by
  have h1 := hc.antisymm a b
  have h2 := hc.antisymm b a
  omega

theorem CmpOK.eq_trans {cmp : α → α → Int} (hc : CmpOK cmp) {a b c : α} (h1 : cmp a b = 0) (h2 : cmp b c = 0) :
    cmp a c = 0 := by
  -- `≤ 0` both ways by transitivity; antisymmetry turns the second into `0 ≤ cmp a c`
  have h3 := hc.trans a b c (by omega) (by omega)
  have h4 := hc.trans c b a (by have := hc.eq_symm h2; omega) (by have := hc.eq_symm h1; omega)
  have h5 := hc.antisymm a c
  have h6 := hc.antisymm c a
  omega

theorem CmpOK.lt_of_lt_le {cmp : α → α → Int} (hc : CmpOK cmp) {a b c : α} (h1 : cmp a b < 0) (h2 : cmp b c ≤ 0) :
    cmp a c < 0 := by
  apply Int.not_le.mp
  intro h3
  have h4 := hc.trans b c a h2 (hc.flip_le h3)
  have := (hc.antisymm a b).mp h1
  omega

theorem CmpOK.lt_of_le_lt {cmp : α → α → Int} (hc : CmpOK cmp) {a b c : α} (h1 : cmp a b ≤ 0) (h2 : cmp b c < 0) :
    cmp a c < 0 := by
  apply Int.not_le.mp
  intro h3
  have h4 := hc.trans c a b (hc.flip_le h3) h1
  have := (hc.antisymm b c).mp h2
  omega

theorem hlt_strictWeak {cmp : α → α → Int} (hc : CmpOK cmp) : Heap.StrictWeak (hlt cmp) := by
  constructor
  · intro a b h
    simp only [hlt, decide_eq_true_eq, decide_eq_false_iff_not] at *
    have := (hc.antisymm a.2 b.2).mp h
    omega
  · intro a b c h1 h2
    simp only [hlt, decide_eq_false_iff_not] at *
    have := hc.trans c.2 b.2 a.2 (hc.flip_le (by omega)) (hc.flip_le (by omega))
    intro h3
    have := (hc.antisymm a.2 c.2).mp h3
    omega

theorem hlt_le_iff {cmp : α → α → Int} (hc : CmpOK cmp) (a b : Nat × α) : Heap.le (hlt cmp) a b ↔ cmp a.2 b.2 ≤ 0 := by
  simp only [Heap.le, hlt, decide_eq_false_iff_not]
  constructor
  · intro h; exact hc.flip_le (by omega)
  · intro h h2
    have := (hc.antisymm b.2 a.2).mp h2
    omega

/-- everything not yet popped -/
def pending (s : St α) : List α := s.heap.toList.map (·.2) ++ s.rests.flatten

/-- loop invariant: every iterator with unread items has an item in the heap, and that item is not above them -/
structure StOK (cmp : α → α → Int) (s : St α) : Prop where
  inv : Heap.Inv (hlt cmp) s.heap
  head_le : ∀ ix ∈ s.heap.toList, ∀ y ∈ s.rests.getD ix.1 [], cmp ix.2 y ≤ 0
  covered : ∀ i, s.rests.getD i [] ≠ [] → ∃ x, (i, x) ∈ s.heap.toList
  sorted : ∀ r ∈ s.rests, r.Pairwise (fun a b => cmp a b ≤ 0)

/-- what the constructor does with every iterator, and the loop with the iterator of the item it has popped -/
def pull (cmp : α → α → Int) (i : Nat) (s : St α) : St α :=
  match s.rests.getD i [] with
  | [] => s
  | y :: ys => ⟨Heap.push (hlt cmp) s.heap (i, y), s.rests.set i ys⟩

theorem pull_length (cmp : α → α → Int) (i : Nat) (s : St α) : (pull cmp i s).rests.length = s.rests.length := by
  unfold pull
  split
  · rfl
  · exact List.length_set

/-- the hypotheses are the fields of `StOK` with `covered` excused for iterator `i` -/
theorem pull_spec {cmp : α → α → Int} (hc : CmpOK cmp) (i : Nat) (s : St α) (hinv : Heap.Inv (hlt cmp) s.heap)
    (hhead : ∀ ix ∈ s.heap.toList, ∀ y ∈ s.rests.getD ix.1 [], cmp ix.2 y ≤ 0)
    (hcov : ∀ j, j ≠ i → s.rests.getD j [] ≠ [] → ∃ x, (j, x) ∈ s.heap.toList)
    (hsorted : ∀ r ∈ s.rests, r.Pairwise (fun a b => cmp a b ≤ 0)) :
    StOK cmp (pull cmp i s) ∧ (pending s).Perm (pending (pull cmp i s)) ∧
      ∀ e ∈ (pull cmp i s).heap.toList, e ∈ s.heap.toList ∨ e.1 = i := by
  unfold pull
  cases hrest : s.rests.getD i [] with
  | nil =>
    refine ⟨⟨hinv, hhead, fun j hne => ?_, hsorted⟩, .refl _, fun e he => .inl he⟩
    exact hcov j (fun e => hne (by rw [e]; exact hrest)) hne
  | cons y ys =>
    have hmem := getD_mem_of_ne_nil (l := s.rests) (i := i) (by rw [hrest]; exact List.cons_ne_nil _ _)
    have hys : (y :: ys).Pairwise (fun a b => cmp a b ≤ 0) := by
      rw [← hrest]; exact hsorted _ hmem.2
    have hpp := Heap.push_perm (hlt cmp) s.heap (i, y)
    have hpush : ∀ e ∈ (Heap.push (hlt cmp) s.heap (i, y)).toList, e = (i, y) ∨ e ∈ s.heap.toList :=
      fun e he => List.mem_cons.mp (hpp.subset he)
    refine ⟨⟨Heap.push_inv (hlt_strictWeak hc) _ _ hinv, ?_, ?_, ?_⟩, ?_, ?_⟩
    · intro e he z hz
      rw [getD_set] at hz
      rcases hpush e he with e1 | e1
      · rw [e1, if_pos ⟨rfl, hmem.1⟩] at hz
        rw [e1]
        exact (List.pairwise_cons.mp hys).1 z hz
      · refine hhead e e1 z ?_
        by_cases hcond : i = e.1 ∧ i < s.rests.length
        · rw [if_pos hcond] at hz
          rw [← hcond.1, hrest]
          exact List.mem_cons_of_mem _ hz
        · rw [if_neg hcond] at hz
          exact hz
    · intro j hne
      by_cases hj : j = i
      · exact ⟨y, hpp.symm.subset (by rw [hj]; exact List.mem_cons_self)⟩
      · rw [getD_set, if_neg (fun h => hj h.1.symm)] at hne
        obtain ⟨x, hx⟩ := hcov j hj hne
        exact ⟨x, hpp.symm.subset (List.mem_cons_of_mem _ hx)⟩
    · intro r hr
      rcases List.mem_or_eq_of_mem_set hr with h | h
      · exact hsorted r h
      · rw [h]; exact (List.pairwise_cons.mp hys).2
    · have hf := flatten_set_remove s.rests i y ys (by rw [hrest])
      exact ((List.Perm.append_left _ hf).trans List.perm_middle).trans ((hpp.map (·.2)).symm.append_right _)
    · intro e he
      rcases hpush e he with e1 | e1
      · right; rw [e1]
      · left; exact e1

theorem pops_succ (cmp : α → α → Int) (fuel : Nat) (s : St α) :
    pops cmp (fuel + 1) s =
      match Heap.pop (hlt cmp) s.heap with
      | none => []
      | some (ix, h1) => ix.2 :: pops cmp fuel (pull cmp ix.1 ⟨h1, s.rests⟩) := by
  show (match Heap.pop (hlt cmp) s.heap with
    | none => []
    | some (ix, h1) =>
      match s.rests.getD ix.1 [] with
      | [] => ix.2 :: pops cmp fuel ⟨h1, s.rests⟩
      | y :: ys => ix.2 :: pops cmp fuel ⟨Heap.push (hlt cmp) h1 (ix.1, y), s.rests.set ix.1 ys⟩) = _
  cases Heap.pop (hlt cmp) s.heap with
  | none => rfl
  | some p =>
    obtain ⟨ix, h1⟩ := p
    dsimp only [pull]
    cases s.rests.getD ix.1 [] <;> rfl

theorem popsN_succ (cmp : α → α → Int) (fuel n : Nat) (s : St α) :
    popsN cmp (fuel + 1) n s =
      match Heap.pop (hlt cmp) s.heap with
      | none => []
      | some (ix, h1) =>
        if n ≤ 1 then [ix.2] else ix.2 :: popsN cmp fuel (n - 1) (pull cmp ix.1 ⟨h1, s.rests⟩) := by
  show (match Heap.pop (hlt cmp) s.heap with
    | none => []
    | some (ix, h1) =>
      if n ≤ 1 then [ix.2] else
      match s.rests.getD ix.1 [] with
      | [] => ix.2 :: popsN cmp fuel (n - 1) ⟨h1, s.rests⟩
      | y :: ys => ix.2 :: popsN cmp fuel (n - 1) ⟨Heap.push (hlt cmp) h1 (ix.1, y), s.rests.set ix.1 ys⟩) = _
  cases Heap.pop (hlt cmp) s.heap with
  | none => rfl
  | some p =>
    obtain ⟨ix, h1⟩ := p
    dsimp only [pull]
    cases s.rests.getD ix.1 [] <;> rfl

theorem popsN_eq (cmp : α → α → Int) (fuel n : Nat) (hn : 1 ≤ n) (s : St α) :
    popsN cmp fuel n s = (pops cmp fuel s).take n := by
  induction fuel generalizing n s with
  | zero => exact List.take_nil.symm
  | succ fuel ih =>
    rw [popsN_succ, pops_succ]
    cases Heap.pop (hlt cmp) s.heap with
    | none => exact List.take_nil.symm
    | some r =>
      obtain ⟨k, rfl⟩ : ∃ k, n = k + 1 := ⟨n - 1, by omega⟩
      show (if k + 1 ≤ 1 then [r.1.2] else r.1.2 :: popsN cmp fuel k (pull cmp r.1.1 ⟨r.2, s.rests⟩)) = _
      rw [List.take_succ_cons]
      by_cases h1n : k + 1 ≤ 1
      · rw [if_pos h1n, (by omega : k = 0), List.take_zero]
      · rw [if_neg h1n, ih k (by omega)]

theorem pops_step {cmp : α → α → Int} (hc : CmpOK cmp) (s : St α) (hs : StOK cmp s) (ix : Nat × α)
    (h1 : Array (Nat × α)) (hp : Heap.pop (hlt cmp) s.heap = some (ix, h1)) :
    StOK cmp (pull cmp ix.1 ⟨h1, s.rests⟩) ∧ (pending s).Perm (ix.2 :: pending (pull cmp ix.1 ⟨h1, s.rests⟩)) ∧
      ∀ z ∈ pending s, cmp ix.2 z ≤ 0 := by
  obtain ⟨hinv1, hperm, hmin⟩ := Heap.pop_spec (hlt_strictWeak hc) s.heap hs.inv ix h1 hp
  have hsub : ∀ e ∈ h1.toList, e ∈ s.heap.toList := fun e he => hperm.symm.subset (List.mem_cons_of_mem _ he)
  -- without the popped pair only its iterator may lack a heap entry
  obtain ⟨hok, hrem, _⟩ := pull_spec hc ix.1 ⟨h1, s.rests⟩ hinv1 (fun e he => hs.head_le e (hsub e he))
    (fun j hj hne => by
      obtain ⟨x, hx⟩ := hs.covered j hne
      rcases List.mem_cons.mp (hperm.subset hx) with e | e
      · exact absurd (by rw [← e]) hj
      · exact ⟨x, e⟩)
    hs.sorted
  have hpop : (pending s).Perm (ix.2 :: pending ⟨h1, s.rests⟩) := (hperm.map (·.2)).append_right _
  refine ⟨hok, hpop.trans ((List.perm_cons _).mpr hrem), ?_⟩
  intro z hz
  rcases List.mem_append.mp hz with hz | hz
  · obtain ⟨e, he, rfl⟩ := List.mem_map.mp hz
    exact (hlt_le_iff hc ix e).mp (hmin e he)
  · obtain ⟨i, hzi⟩ := (mem_flatten_iff_getD _ z).mp hz
    obtain ⟨x, hx⟩ := hs.covered i (List.ne_nil_of_mem hzi)
    exact hc.trans _ _ _ ((hlt_le_iff hc ix (i, x)).mp (hmin _ hx)) (hs.head_le (i, x) hx z hzi)

theorem pops_spec {cmp : α → α → Int} (hc : CmpOK cmp) (fuel : Nat) (s : St α) (hs : StOK cmp s)
    (hf : (pending s).length < fuel) :
    (pops cmp fuel s).Perm (pending s) ∧ (pops cmp fuel s).Pairwise (fun a b => cmp a b ≤ 0) := by
  induction fuel generalizing s with
  | zero => omega
  | succ fuel ih =>
    rw [pops_succ]
    cases hp : Heap.pop (hlt cmp) s.heap with
    | none =>
      -- an empty heap covers no iterator: nothing is left
      have hnil : s.heap.toList = [] :=
        List.eq_nil_of_length_eq_zero (by rw [Array.length_toList]; exact (Heap.pop_none _ _).mp hp)
      have : pending s = [] := by
        simp only [pending, hnil, List.map_nil, List.nil_append]
        refine List.eq_nil_iff_forall_not_mem.mpr fun y hy => ?_
        obtain ⟨i, hi⟩ := (mem_flatten_iff_getD _ y).mp hy
        obtain ⟨x, hx⟩ := hs.covered i (List.ne_nil_of_mem hi)
        rw [hnil] at hx
        cases hx
      rw [this]
      exact ⟨.refl _, .nil⟩
    | some p =>
      obtain ⟨ix, h1⟩ := p
      obtain ⟨hok, hperm, hmin⟩ := pops_step hc s hs ix h1 hp
      have hlen : (pending (pull cmp ix.1 ⟨h1, s.rests⟩)).length < fuel := by
        have := hperm.length_eq; rw [List.length_cons] at this; omega
      obtain ⟨ihp, ihs⟩ := ih _ hok hlen
      refine ⟨((List.perm_cons _).mpr ihp).trans hperm.symm, List.pairwise_cons.mpr ⟨fun z hz => ?_, ihs⟩⟩
      exact hmin z (hperm.symm.subset (List.mem_cons_of_mem _ (ihp.subset hz)))

theorem initGo_cons (cmp : α → α → Int) (r : List α) (rs : List (List α)) (s : St α) :
    initGo cmp (r :: rs) s.rests.length s =
      initGo cmp rs (s.rests.length + 1) (pull cmp s.rests.length ⟨s.heap, s.rests ++ [r]⟩) := by
  have h : (s.rests ++ [r]).getD s.rests.length [] = r := by rw [getD_append_one, if_pos rfl]
  cases r with
  | nil => rw [pull, h]; rfl
  | cons x xs =>
    rw [pull, h]
    dsimp only
    rw [List.set_append_right _ _ (Nat.le_refl _), Nat.sub_self, List.set_cons_zero]
    rfl

theorem initGo_spec {cmp : α → α → Int} (hc : CmpOK cmp) (runs : List (List α)) (s : St α)
    (hs : StOK cmp s) (hidx : ∀ e ∈ s.heap.toList, e.1 < s.rests.length)
    (hsorted : ∀ r ∈ runs, r.Pairwise (fun a b => cmp a b ≤ 0)) :
    StOK cmp (initGo cmp runs s.rests.length s) ∧
      (pending (initGo cmp runs s.rests.length s)).Perm (pending s ++ runs.flatten) := by
  induction runs generalizing s with
  | nil =>
    rw [List.flatten_nil, List.append_nil]
    exact ⟨hs, .refl _⟩
  | cons r rs ih =>
    rw [initGo_cons]
    -- iterator `r` is appended with nothing of it in the heap yet, then pulled
    obtain ⟨hok, hrem, hheap⟩ := pull_spec hc s.rests.length ⟨s.heap, s.rests ++ [r]⟩ hs.inv
      (fun e he y hy => by
        rw [getD_append_one, if_neg (Nat.ne_of_lt (hidx e he))] at hy
        exact hs.head_le e he y hy)
      (fun j hj hne => by
        rw [getD_append_one, if_neg hj] at hne
        exact hs.covered j hne)
      (fun r' hr => by
        rcases List.mem_append.mp hr with h | h
        · exact hs.sorted r' h
        · rw [List.mem_singleton.mp h]; exact hsorted r List.mem_cons_self)
    have hlen := pull_length cmp s.rests.length ⟨s.heap, s.rests ++ [r]⟩
    rw [List.length_append, List.length_singleton] at hlen
    rw [← hlen]
    obtain ⟨a, b⟩ := ih _ hok (fun e he => by
        rw [hlen]
        rcases hheap e he with h | h
        · exact Nat.lt_succ_of_lt (hidx e h)
        · rw [h]; exact Nat.lt_succ_self _)
      (fun r' hr => hsorted r' (List.mem_cons_of_mem _ hr))
    refine ⟨a, b.trans ((hrem.symm.append_right _).trans ?_)⟩
    simp only [pending, List.flatten_append, List.flatten_cons, List.flatten_nil, List.append_nil, List.append_assoc]
    exact .refl _

theorem mergeSorted_spec {cmp : α → α → Int} (hc : CmpOK cmp) (runs : List (List α))
    (hsorted : ∀ r ∈ runs, r.Pairwise (fun a b => cmp a b ≤ 0)) :
    (mergeSorted cmp runs).Perm runs.flatten ∧ (mergeSorted cmp runs).Pairwise (fun a b => cmp a b ≤ 0) := by
  have h0 : StOK cmp (⟨#[], []⟩ : St α) := by
    refine ⟨?_, ?_, ?_, ?_⟩
    · exact Heap.inv_empty _
    · intro e he; simp at he
    · intro i hne; simp at hne
    · intro r hr; cases hr
  obtain ⟨hok, hperm0⟩ := initGo_spec hc runs _ h0 (by intro e he; simp at he) hsorted
  have hperm : (pending (init cmp runs)).Perm runs.flatten := by
    refine hperm0.trans ?_
    simp [pending]
  have hlen : (pending (init cmp runs)).length < total runs + 1 := by
    rw [hperm.length_eq, List.length_flatten]
    simp [total]
  obtain ⟨p, q⟩ := pops_spec hc (total runs + 1) (init cmp runs) hok hlen
  exact ⟨p.trans hperm, q⟩

/-- `O` represents the popped prefix `ps` -/
def Rep (cmp : α → α → Int) (R : α → α → Prop) (O ps : List α) : Prop :=
  O.Pairwise (fun a b => cmp a b < 0) ∧ (∀ o ∈ O, o ∈ ps) ∧ ∀ y ∈ ps, ∃ o ∈ O, cmp o y = 0 ∧ R o y

namespace Rep

theorem snoc {cmp : α → α → Int} (hc : CmpOK cmp) {R : α → α → Prop} (hrefl : ∀ a, R a a) {O ps : List α} {x : α}
    (h : Rep cmp R O ps) (hx : ∀ o ∈ O, cmp o x < 0) : Rep cmp R (O ++ [x]) (ps ++ [x]) := by
  have hxm : x ∈ O ++ [x] := List.mem_append_right _ (List.mem_singleton_self x)
  refine ⟨List.pairwise_append.mpr ⟨h.1, List.pairwise_singleton _ _, fun a ha b hb => ?_⟩, fun o ho => ?_,
    fun y hy => ?_⟩
  · rw [List.mem_singleton.mp hb]; exact hx a ha
  · rcases List.mem_append.mp ho with ho | ho
    · exact List.mem_append_left _ (h.2.1 o ho)
    · exact List.mem_append_right _ ho
  · rcases List.mem_append.mp hy with hy | hy
    · obtain ⟨o, ho, h1⟩ := h.2.2 y hy
      exact ⟨o, List.mem_append_left _ ho, h1⟩
    · rw [List.mem_singleton.mp hy]; exact ⟨x, hxm, hc.refl x, hrefl x⟩

theorem replace_last {cmp : α → α → Int} (hc : CmpOK cmp) {R : α → α → Prop}
    (htrans : ∀ a b c, R a b → R b c → R a c) {O ps : List α} {p x w : α} (h : Rep cmp R (O ++ [p]) ps)
    (hpx : cmp p x = 0) (hw : w = p ∨ w = x) (hwp : R w p) (hwx : R w x) : Rep cmp R (O ++ [w]) (ps ++ [x]) := by
  have hwp0 : cmp w p = 0 := hw.elim (fun e => e ▸ hc.refl p) (fun e => e ▸ hc.eq_symm hpx)
  have hwx0 : cmp w x = 0 := hw.elim (fun e => e ▸ hpx) (fun e => e ▸ hc.refl x)
  have hwm : w ∈ O ++ [w] := List.mem_append_right _ (List.mem_singleton_self w)
  obtain ⟨hasc, _, hasc3⟩ := List.pairwise_append.mp h.1
  refine ⟨List.pairwise_append.mpr ⟨hasc, List.pairwise_singleton _ _, fun a ha b hb => ?_⟩, fun o ho => ?_,
    fun y hy => ?_⟩
  · rw [List.mem_singleton.mp hb]
    exact hc.lt_of_lt_le (hasc3 a ha p (List.mem_singleton_self p)) (Int.le_of_eq (hc.eq_symm hwp0))
  · rcases List.mem_append.mp ho with ho | ho
    · exact List.mem_append_left _ (h.2.1 o (List.mem_append_left _ ho))
    · rw [List.mem_singleton.mp ho]
      rcases hw with e | e
      · rw [e]; exact List.mem_append_left _ (h.2.1 p (List.mem_append_right _ (List.mem_singleton_self p)))
      · rw [e]; exact List.mem_append_right _ (List.mem_singleton_self x)
  · rcases List.mem_append.mp hy with hy | hy
    · obtain ⟨o, ho, ho1, ho2⟩ := h.2.2 y hy
      rcases List.mem_append.mp ho with ho | ho
      · exact ⟨o, List.mem_append_left _ ho, ho1, ho2⟩
      · rw [List.mem_singleton.mp ho] at ho1 ho2
        exact ⟨w, hwm, hc.eq_trans hwp0 ho1, htrans _ _ _ hwp ho2⟩
    · rw [List.mem_singleton.mp hy]; exact ⟨w, hwm, hwx0, hwx⟩

end Rep

section resolve
variable [DecidableEq α]

theorem rstep_panicked (cmp : α → α → Int) (pick : α → α → α) {s : RSt α} (x : α) (h : s.panicked = true) :
    rstep cmp pick s x = s := by
  unfold rstep; rw [if_pos h]

theorem rstep_none (cmp : α → α → Int) (pick : α → α → α) {s : RSt α} (x : α) (hnp : s.panicked = false)
    (hp : s.prev = none) : rstep cmp pick s x = { s with prev := some x } := by
  unfold rstep; rw [if_neg (by rw [hnp]; exact Bool.false_ne_true), hp]

theorem rstep_some (cmp : α → α → Int) (pick : α → α → α) {s : RSt α} {p : α} (x : α) (hnp : s.panicked = false)
    (hp : s.prev = some p) :
    rstep cmp pick s x =
      if cmp p x = 0 then
        if pick p x = p then s
        else if pick p x = x then { s with prev := some x }
        else { s with panicked := true }
      else { s with out := s.out ++ [p], prev := some x } := by
  unfold rstep; rw [if_neg (by rw [hnp]; exact Bool.false_ne_true), hp]

/-- what `Merge` has yielded plus what it still holds back -/
def outOf (s : RSt α) : List α := s.out ++ s.prev.toList

structure RInv (cmp : α → α → Int) (R : α → α → Prop) (s : RSt α) (ps : List α) : Prop where
  np : s.panicked = false
  rep : Rep cmp R (outOf s) ps
  start : s.prev = none → s.out = []

/-- `hpick`: an equal pair is answered with the one of the two that the preorder `R` prefers; `R` is "at least as new"
for `keepNewest` and `True` for any pick that returns one of its arguments. -/
theorem rstep_spec {cmp : α → α → Int} (hc : CmpOK cmp) (pick : α → α → α) {R : α → α → Prop} (hrefl : ∀ a, R a a)
    (htrans : ∀ a b c, R a b → R b c → R a c)
    (hpick : ∀ a b, cmp a b = 0 → (pick a b = a ∧ R a b) ∨ (pick a b = b ∧ R b a))
    (s : RSt α) (ps : List α) (x : α) (h : RInv cmp R s ps) (hle : ∀ p ∈ ps, cmp p x ≤ 0) :
    RInv cmp R (rstep cmp pick s x) (ps ++ [x]) := by
  cases hprev : s.prev with
  | none =>
    -- nothing is held back, so nothing has been yielded either: `x` is the first representative
    rw [rstep_none cmp pick x h.np hprev]
    have hrep : Rep cmp R s.out ps := by
      have := h.rep
      rw [outOf, hprev] at this
      exact (List.append_nil s.out) ▸ this
    exact ⟨h.np, hrep.snoc hc hrefl (fun o ho => by rw [h.start hprev] at ho; cases ho), fun e => by cases e⟩
  | some p =>
    rw [rstep_some cmp pick x h.np hprev]
    have hrep : Rep cmp R (s.out ++ [p]) ps := by
      have := h.rep
      rw [outOf, hprev] at this
      exact this
    have hpx : cmp p x ≤ 0 := hle p (hrep.2.1 p (List.mem_append_right _ (List.mem_singleton_self p)))
    by_cases h0 : cmp p x = 0
    · rw [if_pos h0]
      by_cases hpk : pick p x = p
      · rw [if_pos hpk]
        have hr : R p x := by
          rcases hpick p x h0 with ⟨_, hr⟩ | ⟨hpx', _⟩
          · exact hr
          · rw [← hpk.symm.trans hpx']; exact hrefl p
        refine ⟨h.np, ?_, h.start⟩
        rw [outOf, hprev]
        exact hrep.replace_last hc htrans h0 (.inl rfl) (hrefl p) hr
      · rw [if_neg hpk]
        obtain ⟨hx, hr⟩ : pick p x = x ∧ R x p := (hpick p x h0).resolve_left (fun e => hpk e.1)
        rw [if_pos hx]
        exact ⟨h.np, hrep.replace_last hc htrans h0 (.inr rfl) hr (hrefl x), fun e => by cases e⟩
    · rw [if_neg h0]
      refine ⟨h.np, hrep.snoc hc hrefl (fun o ho => ?_), fun e => by cases e⟩
      rcases List.mem_append.mp ho with ho | ho
      · exact hc.lt_of_lt_le ((List.pairwise_append.mp hrep.1).2.2 o ho p (List.mem_singleton_self p)) hpx
      · rw [List.mem_singleton.mp ho]; omega

theorem resolve_prefers {cmp : α → α → Int} (hc : CmpOK cmp) (pick : α → α → α) {R : α → α → Prop}
    (hrefl : ∀ a, R a a) (htrans : ∀ a b c, R a b → R b c → R a c)
    (hpick : ∀ a b, cmp a b = 0 → (pick a b = a ∧ R a b) ∨ (pick a b = b ∧ R b a))
    (xs : List α) (hs : xs.Pairwise (fun a b => cmp a b ≤ 0)) :
    ∃ out, resolve cmp pick xs = some out ∧
      out.Pairwise (fun a b => cmp a b < 0) ∧ (∀ o ∈ out, o ∈ xs) ∧ (∀ y ∈ xs, ∃ o ∈ out, cmp o y = 0 ∧ R o y) := by
  have fold : ∀ (xs : List α) (s : RSt α) (ps : List α), RInv cmp R s ps →
      (ps ++ xs).Pairwise (fun a b => cmp a b ≤ 0) → RInv cmp R (xs.foldl (rstep cmp pick) s) (ps ++ xs) := by
    intro xs
    induction xs with
    | nil => intro s ps h _; rw [List.append_nil]; exact h
    | cons x xs ih =>
      intro s ps h hs
      have hle : ∀ p ∈ ps, cmp p x ≤ 0 := fun p hp => (List.pairwise_append.mp hs).2.2 p hp x List.mem_cons_self
      have := ih _ (ps ++ [x]) (rstep_spec hc pick hrefl htrans hpick s ps x h hle)
        (by rw [List.append_assoc]; exact hs)
      rw [List.append_assoc] at this
      exact this
  have h0 : RInv cmp R ({} : RSt α) [] := ⟨rfl, ⟨.nil, fun _ ho => (nomatch ho), fun _ hy => (nomatch hy)⟩, fun _ => rfl⟩
  have h := fold xs {} [] h0 hs
  rw [List.nil_append] at h
  refine ⟨outOf (xs.foldl (rstep cmp pick) {}), ?_, h.rep⟩
  unfold resolve finish
  rw [if_neg (by rw [h.np]; exact Bool.false_ne_true)]
  rfl

theorem merge_prefers {cmp : α → α → Int} (hc : CmpOK cmp) (pick : α → α → α) {R : α → α → Prop}
    (hrefl : ∀ a, R a a) (htrans : ∀ a b c, R a b → R b c → R a c)
    (hpick : ∀ a b, cmp a b = 0 → (pick a b = a ∧ R a b) ∨ (pick a b = b ∧ R b a))
    (runs : List (List α)) (hsorted : ∀ r ∈ runs, r.Pairwise (fun a b => cmp a b ≤ 0)) :
    ∃ out, merge cmp pick runs = some out ∧
      out.Pairwise (fun a b => cmp a b < 0) ∧ (∀ o ∈ out, o ∈ runs.flatten) ∧
      (∀ y ∈ runs.flatten, ∃ o ∈ out, cmp o y = 0 ∧ R o y) := by
  obtain ⟨hperm, hs⟩ := mergeSorted_spec hc runs hsorted
  obtain ⟨out, h1, h2, h3, h4⟩ := resolve_prefers hc pick hrefl htrans hpick _ hs
  exact ⟨out, h1, h2, fun o ho => hperm.subset (h3 o ho), fun y hy => h4 y (hperm.symm.subset hy)⟩

end resolve

theorem keepNewest_prefers (rk : α → Nat) (a b : α) :
    (Gen.c19KeepNewest rk a b = a ∧ rk b ≤ rk a) ∨ (Gen.c19KeepNewest rk a b = b ∧ rk a ≤ rk b) := by
  unfold Gen.c19KeepNewest
  by_cases hgt : rk a > rk b
  · rw [if_pos (decide_eq_true hgt)]; exact .inl ⟨rfl, Nat.le_of_lt hgt⟩
  · rw [if_neg (by rw [decide_eq_true_eq]; exact hgt)]; exact .inr ⟨rfl, Nat.le_of_not_lt hgt⟩

section earlyResolve
variable [DecidableEq α]

theorem rstep_out (cmp : α → α → Int) (pick : α → α → α) (s : RSt α) (x : α) :
    (rstep cmp pick s x).out = s.out ∨
    (s.panicked = false ∧ (rstep cmp pick s x).panicked = false ∧ ∃ p, (rstep cmp pick s x).out = s.out ++ [p]) := by
  cases hnp : s.panicked with
  | true => rw [rstep_panicked cmp pick x hnp]; exact .inl rfl
  | false =>
    cases hprev : s.prev with
    | none => rw [rstep_none cmp pick x hnp hprev]; exact .inl rfl
    | some p =>
      rw [rstep_some cmp pick x hnp hprev]
      by_cases h0 : cmp p x = 0
      · rw [if_pos h0]
        left
        split
        · rfl
        · split <;> rfl
      · rw [if_neg h0]; exact .inr ⟨rfl, hnp, p, rfl⟩

/-- relation between the full loop state and the state of the loop that stopped at `n` items -/
def Stopped (n : Nat) (s s' : RSt α) : Prop :=
  (s' = s ∧ s.out.length < n) ∨ (s'.out.length = n ∧ s'.panicked = false ∧ ∃ t, s.out = s'.out ++ t)

theorem stopped_step (cmp : α → α → Int) (pick : α → α → α) (n : Nat) (s s' : RSt α) (x : α)
    (h : Stopped n s s') : Stopped n (rstep cmp pick s x) (rstepN cmp pick n s' x) := by
  unfold rstepN
  rcases h with ⟨rfl, hlt⟩ | ⟨hl, hnp, t, ht⟩
  · rw [if_neg (by omega)]
    by_cases h2 : (rstep cmp pick s' x).out.length < n
    · exact Or.inl ⟨rfl, h2⟩
    · right
      rcases rstep_out cmp pick s' x with h3 | ⟨_, h3, p, h4⟩
      · rw [h3] at h2; omega
      · refine ⟨?_, h3, [], (List.append_nil _).symm⟩
        rw [h4, List.length_append, List.length_singleton] at h2 ⊢
        omega
  · rw [if_pos (by omega)]
    right
    rcases rstep_out cmp pick s x with h3 | ⟨_, _, p, h3⟩
    · exact ⟨hl, hnp, t, by rw [h3, ht]⟩
    · exact ⟨hl, hnp, t ++ [p], by rw [h3, ht, List.append_assoc]⟩

theorem resolveN_prefix (cmp : α → α → Int) (pick : α → α → α) (n : Nat) (hn : 1 ≤ n) (xs : List α)
    (out : List α) (h : resolve cmp pick xs = some out) : resolveN cmp pick n xs = some (out.take n) := by
  have hst : Stopped n (xs.foldl (rstep cmp pick) {}) (xs.foldl (rstepN cmp pick n) {}) :=
    List.foldl_rel (Or.inl ⟨rfl, by show 0 < n; omega⟩) fun x _ s s' => stopped_step cmp pick n s s' x
  unfold resolve finish at h
  unfold resolveN finishN
  by_cases hp : (xs.foldl (rstep cmp pick) {}).panicked = true
  · rw [if_pos hp] at h; cases h
  · rw [if_neg hp] at h
    simp only [Option.some.injEq] at h
    rcases hst with ⟨e, hlt⟩ | ⟨hl, hnp, t, ht⟩
    · rw [e, if_neg hp, if_neg (by omega), ← h]
      congr 1
      symm
      apply List.take_of_length_le
      have := Option.length_toList_le (o := (xs.foldl (rstep cmp pick) {}).prev)
      rw [List.length_append]
      omega
    · rw [if_neg (by simp [hnp]), if_pos (by omega), ← h, ht]
      congr 1
      rw [List.append_assoc, List.take_append_of_le_length (by omega), List.take_of_length_le (by omega)]

end earlyResolve

end Rxn.Merge
