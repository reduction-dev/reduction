import RxnModel.Model.KeyedStateLsm
import RxnModel.Proofs.KeyedState
import RxnModel.Proofs.Lsm
/-! Any run with the characterisation C07 proves of the LSM's scans equals the scan of the sorted-map specification
that C03's model uses; C07's one-phase and two-phase scans both have it. -/
namespace Rxn.KeyedState
open Rxn Bytes

theorem lastW_writesOf_cons (k : Bytes) (m : Lsm.Spec) (seq : Nat) (a : Lsm.Act) (as : List Lsm.Act) :
    lastW (writesOf (a :: as)) k (Lsm.answer (Lsm.Spec.get m k)) =
      lastW (writesOf as) k (Lsm.answer (Lsm.Spec.get (Lsm.specStep m seq a) k)) := by
  cases a with
  | put k0 v =>
    exact congrArg (lastW (writesOf as) k)
      (apply_ite Lsm.answer (k0 = k) (some ⟨k0, seq + 1, false, v⟩) (Lsm.Run.lookup m k)).symm
  | del k0 =>
    exact congrArg (lastW (writesOf as) k)
      (apply_ite Lsm.answer (k0 = k) (some ⟨k0, seq + 1, true, []⟩) (Lsm.Run.lookup m k)).symm
  | _ => rfl

theorem answer_eq_lastW (k : Bytes) : ∀ (as : List Lsm.Act) (s : Lsm.State) (m : Lsm.Spec) (s' : Lsm.State) (m' : Lsm.Spec),
    Lsm.runBoth s m as = some (s', m') →
    Lsm.answer (Lsm.Spec.get m' k) = lastW (writesOf as) k (Lsm.answer (Lsm.Spec.get m k)) := by
  intro as
  induction as with
  | nil => intro s m s' m' h; cases h; rfl
  | cons a as ih =>
    intro s m s' m' h
    obtain ⟨_, _, h⟩ := Lsm.runBoth_cons_some h
    rw [lastW_writesOf_cons k m s.seq a as]
    exact ih _ _ s' m' h

theorem kvOfRun_eq_scan (kgc : Nat) (acts : List Act) (as : List Lsm.Act) (s : Lsm.State) (m : Lsm.Spec)
    (hrun : Lsm.runBoth {} [] as = some (s, m)) (hw : writesOf as = acts.flatMap (Act.rawWrites kgc))
    (p : Bytes) (r : Lsm.Run) (hs : r.Pairwise (fun a b => Bytes.lt a.key b.key = true))
    (hr : ∀ e, e ∈ r ↔ (Lsm.Spec.get m e.key = some e ∧ e.del = false ∧ Bytes.hasPrefix e.key p = true)) :
    kvOfRun r = (run kgc [] acts).scan p := by
  have hm : ∀ k, Lsm.answer (Lsm.Spec.get m k) = lastW (acts.flatMap (Act.rawWrites kgc)) k none := by
    intro k; rw [← hw]; exact answer_eq_lastW k as {} [] s m hrun
  refine sorted_ext _ _ (List.pairwise_map.mpr (hs.imp Bytes.lt_iff_cmp.mp)) (List.Pairwise.filter _ (run_sorted kgc acts))
    fun ⟨k, v⟩ => ?_
  rw [KV.scan, List.mem_filter, mem_run, ← hm k]
  exact Lsm.scan_kv hr k v

end Rxn.KeyedState
