import RxnModel.Model.Publish
import RxnModel.Proofs.Store
/-! Lemmas about `Model/Publish.lean` for C13 and C12: file names decode to their ids, `load` is the maximum, one
equation per action of `step`, and the invariants of the whole system. `InvCore` (storage, id counter, only complete
snapshots persisted; its part `Stored` is what a crash leaves untouched) holds for both job configurations; `Inv` adds
`InvCur` (current checkpoint, notifications) for jobs started without a savepoint URI. -/
namespace Rxn.Publish
open Rxn

theorem digitsLE_succ (k n : Nat) : digitsLE (k + 1) n = n % 64 :: digitsLE k (n / 64) := rfl

theorem undigitsLE_cons (d : Nat) (ds : List Nat) : undigitsLE (d :: ds) = d + 64 * undigitsLE ds := rfl

theorem undigits_digits (k n : Nat) : undigitsLE (digitsLE k n) = n % 64 ^ k := by
  induction k generalizing n with
  | zero => exact (Nat.mod_one n).symm
  | succ k ih =>
    simp only [digitsLE_succ, undigitsLE_cons, ih]
    rw [Nat.pow_succ, Nat.mul_comm (64 ^ k) 64, Nat.mod_mul]

theorem digits_length (k n : Nat) : (digitsLE k n).length = k := by
  induction k generalizing n with
  | zero => rfl
  | succ k ih => rw [digitsLE_succ, List.length_cons, ih]

theorem digits_lt (k n : Nat) : ∀ d ∈ digitsLE k n, d < 64 := by
  induction k generalizing n with
  | zero => intro d h; cases h
  | succ k ih =>
    intro d h
    simp only [digitsLE_succ, List.mem_cons] at h
    rcases h with h | h
    · subst h; exact Nat.mod_lt _ (by decide)
    · exact ih _ d h

theorem val_char {v : Nat} (h : v < 64) : b64urlVal (b64urlChar v) = some v :=
  (by decide : ∀ v : Fin 64, b64urlVal (b64urlChar v.val) = some v.val) ⟨v, h⟩

theorem vals_map_char (ds : List Nat) (h : ∀ d ∈ ds, d < 64) : vals (ds.map b64urlChar) = some ds := by
  induction ds with
  | nil => rfl
  | cons d t ih =>
    have h1 := val_char (h d List.mem_cons_self)
    have h2 := ih (fun x hx => h x (List.mem_cons_of_mem _ hx))
    simp only [List.map_cons, vals, h1, h2]

/-- every complement, shifted by the two padding bits, fits in eleven sextets -/
theorem complBase_fits : complBase * 4 < 64 ^ 11 := by decide

theorem parse_pathSegment {id : Nat} (h : id ≤ complBase) : parseSegment (pathSegment id) = some id := by
  have hlen : (pathSegment id).length = 11 := by
    unfold pathSegment; rw [List.length_map, List.length_reverse, digits_length]
  have hv : vals (pathSegment id) = some (digitsLE 11 ((complBase - id) * 4)).reverse :=
    vals_map_char _ (fun d hd => digits_lt _ _ d (List.mem_reverse.mp hd))
  have hx : (complBase - id) * 4 < 64 ^ 11 :=
    Nat.lt_of_le_of_lt (Nat.mul_le_mul_right 4 (Nat.sub_le _ _)) complBase_fits
  unfold parseSegment
  rw [if_pos hlen, hv]
  simp only [List.reverse_reverse, undigits_digits]
  rw [Nat.mod_eq_of_lt hx, Nat.mul_div_cancel _ (by decide : 0 < 4), Nat.sub_sub_self h]

theorem stripPrefix_cons (a : UInt8) (as : Bytes) (p : UInt8) (ps : Bytes) :
    stripPrefix (a :: as) (p :: ps) = if a = p then stripPrefix as ps else none := rfl

theorem stripPrefix_append (p r : Bytes) : stripPrefix (p ++ r) p = some r := by
  induction p with
  | nil => cases r <;> rfl
  | cons a t ih => rw [List.cons_append, stripPrefix_cons, if_pos rfl, ih]

theorem decode_snapName {id : Nat} (h : id ≤ complBase) : decodeName (snapName id) = some id := by
  unfold decodeName snapName
  rw [List.append_assoc, stripPrefix_append]
  simp only [List.reverse_append, stripPrefix_append, List.reverse_reverse]
  exact parse_pathSegment h

theorem maxL_cons (x : Nat) (xs : List Nat) : maxL (x :: xs) = max x (maxL xs) := rfl

theorem maxL_le_iff {l : List Nat} {b : Nat} : maxL l ≤ b ↔ ∀ x ∈ l, x ≤ b := by
  induction l with
  | nil => exact ⟨fun _ _ h => (nomatch h), fun _ => Nat.zero_le b⟩
  | cons a t ih => rw [maxL_cons, Nat.max_le, ih, List.forall_mem_cons]

theorem le_maxL {x : Nat} {l : List Nat} (h : x ∈ l) : x ≤ maxL l := maxL_le_iff.mp (Nat.le_refl _) x h

theorem maxL_mem {l : List Nat} (h : l ≠ []) : maxL l ∈ l := by
  induction l with
  | nil => exact absurd rfl h
  | cons a t ih =>
    rw [maxL_cons]
    by_cases ht : t = []
    · subst ht; exact List.mem_singleton.mpr (Nat.max_zero a)
    · have := ih ht
      by_cases hm : a ≤ maxL t
      · rw [Nat.max_eq_right hm]; exact List.mem_cons_of_mem _ this
      · rw [Nat.max_eq_left (by omega)]; exact List.mem_cons_self

theorem loadLoop_some (ids : List Nat) (b : Nat) : loadLoop ids (some b) = some (max b (maxL ids)) := by
  induction ids generalizing b with
  | nil => exact congrArg some (Nat.max_zero b).symm
  | cons a t ih =>
    have hstep : (if a > b then some a else some b) = some (max b a) := by
      by_cases h : a > b
      · rw [if_pos h, Nat.max_eq_right (Nat.le_of_lt h)]
      · rw [if_neg h, Nat.max_eq_left (Nat.le_of_not_lt h)]
    show loadLoop t (if a > b then some a else some b) = some (max b (max a (maxL t)))
    rw [hstep, ih, Nat.max_assoc]

theorem load_eq (ids : List Nat) : load ids = if ids = [] then none else some (maxL ids) := by
  cases ids with
  | nil => rfl
  | cons a t => rw [if_neg (List.cons_ne_nil a t)]; exact loadLoop_some t a

theorem load_nil : load [] = none := rfl

theorem load_getD (ids : List Nat) : (load ids).getD 0 = maxL ids := by
  cases ids with
  | nil => rfl
  | cons a t => rw [load_eq, if_neg (List.cons_ne_nil a t)]; rfl

theorem run_cons {s s' : Sys} {a : Act} {as : List Act} {obs : List Obs} (h : run s (a :: as) = some (s', obs)) :
    ∃ s1 o1 o2, step s a = some (s1, o1) ∧ run s1 as = some (s', o2) ∧ obs = o1 ++ o2 := by
  simp only [run] at h
  split at h
  · cases h
  · next s1 o1 hs =>
    split at h
    · cases h
    · next s2 o2 hr =>
      cases h
      exact ⟨s1, o1, o2, hs, hr, rfl⟩

theorem run_preserves {P : Sys → Prop}
    (hstep : ∀ {s s' : Sys} {a : Act} {obs : List Obs}, P s → step s a = some (s', obs) → P s') :
    ∀ (as : List Act) {s s' : Sys} {obs : List Obs}, P s → run s as = some (s', obs) → P s' := by
  intro as
  induction as with
  | nil => intro s s' obs hp h; cases h; exact hp
  | cons a t ih =>
    intro s s' obs hp h
    obtain ⟨s1, o1, o2, hs, hr, _⟩ := run_cons h
    exact ih (hstep hp hs) hr

theorem step_call {s s' : Sys} {c : Store.Call} {obs : List Obs} (h : step s (.call c) = some (s', obs)) :
    s' = { s with store := (Store.step s.store c).1,
                  pub := { s.pub with
                    inflight := s.pub.inflight ++ (Store.step s.store c).2.2.toList.map (·.id, false),
                    finished := s.pub.finished ++ (Store.step s.store c).2.2.toList } } := by
  simp only [step] at h
  cases hf : (Store.step s.store c).2.2 with
  | none => rw [hf] at h; simp only [Option.some.injEq, Prod.mk.injEq] at h; rw [← h.1]; simp
  | some snap => rw [hf] at h; simp only [Option.some.injEq, Prod.mk.injEq] at h; rw [← h.1]; simp

theorem step_write {s s' : Sys} {n : Nat} {obs : List Obs} (h : step s (.write n) = some (s', obs)) :
    (n, false) ∈ s.pub.inflight ∧
    s' = { s with pub := { s.pub with
             files := n :: s.pub.files.filter (· ≠ n),
             inflight := s.pub.inflight.map (fun e => if e = (n, false) then (n, true) else e),
             written := n :: s.pub.written } } := by
  simp only [step] at h
  split at h
  · next hin => simp only [Option.some.injEq, Prod.mk.injEq] at h; exact ⟨hin, h.1.symm⟩
  · exact absurd h (by simp)

theorem step_lock {s s' : Sys} {n : Nat} {obs : List Obs} (h : step s (.lock n) = some (s', obs)) :
    (n, true) ∈ s.pub.inflight ∧ s' = { s with pub := (lockUpdate s.pub n).1 } ∧
    obs = [.locked n (lockUpdate s.pub n).2.1 (lockUpdate s.pub n).2.2] := by
  simp only [step] at h
  split at h
  · next hin => simp only [Option.some.injEq, Prod.mk.injEq] at h; exact ⟨hin, h.1.symm, h.2.symm⟩
  · exact absurd h (by simp)

theorem step_remove {s s' : Sys} {ids : List Nat} {obs : List Obs} (h : step s (.remove ids) = some (s', obs)) :
    ids ∈ s.pub.removes ∧
    s' = { s with pub := { s.pub with files := s.pub.files.filter (· ∉ ids), removes := s.pub.removes.erase ids } } := by
  simp only [step] at h
  split at h
  · next hin => simp only [Option.some.injEq, Prod.mk.injEq] at h; exact ⟨hin, h.1.symm⟩
  · exact absurd h (by simp)

/-- `fifo` stays as it is: `deliverAt` at index 0 records `fifo && (0 == 0)` -/
theorem step_deliver {s s' : Sys} {obs : List Obs} (h : step s .deliver = some (s', obs)) :
    ∃ ids rest, s.pub.notifs = ids :: rest ∧
      s' = { s with pub := { s.pub with notifs := rest, delivered := s.pub.delivered ++ ids } } := by
  simp only [step, deliverAt] at h
  cases hq : s.pub.notifs with
  | nil => rw [hq] at h; exact absurd h (by simp)
  | cons ids rest =>
    rw [hq] at h
    simp only [List.getElem?_cons_zero, List.eraseIdx_cons_zero, beq_self_eq_true, Bool.and_true,
      Option.some.injEq, Prod.mk.injEq] at h
    exact ⟨ids, rest, rfl, h.1.symm⟩

theorem step_crash {s s' : Sys} {obs : List Obs} (h : step s .crash = some (s', obs)) :
    (s.savepoint = none ∧
      s' = boot s.pub.files s.pub.written s.pub.delivered s.pub.initial s.pub.finished s.pub.fifo) ∨
    (∃ k, s.savepoint = some k ∧
      s' = { bootSavepoint k s.pub.files s.pub.written s.pub.delivered s.pub.initial s.pub.finished with
             savepoint := some k }) := by
  simp only [step] at h
  split at h
  · next hsp => simp only [Option.some.injEq, Prod.mk.injEq] at h; exact .inl ⟨hsp, h.1.symm⟩
  · next k hsp => simp only [Option.some.injEq, Prod.mk.injEq] at h; exact .inr ⟨k, hsp, h.1.symm⟩

theorem run_initial {as : List Act} {s s' : Sys} {obs : List Obs} (h : run s as = some (s', obs)) :
    s'.pub.initial = s.pub.initial := by
  refine run_preserves (P := fun t => t.pub.initial = s.pub.initial) ?_ as rfl h
  intro t t' a o ht hs
  rw [← ht]
  cases a with
  | call c => rw [step_call hs]
  | write n => rw [(step_write hs).2]
  | lock n => rw [(step_lock hs).2.1]; rfl
  | remove ids => rw [(step_remove hs).2]
  | deliver => obtain ⟨_, _, _, rfl⟩ := step_deliver hs; rfl
  | crash => rcases step_crash hs with ⟨_, rfl⟩ | ⟨k, _, rfl⟩ <;> rfl

theorem lockUpdate_completed (p : Pub) (n : Nat) :
    (lockUpdate p n).1.completed = n :: p.completed.filter (fun c => ¬ c < n) := rfl

theorem lockUpdate_notifs (p : Pub) (n : Nat) :
    (lockUpdate p n).1.notifs = if (lockUpdate p n).2.2 then p.notifs ++ [[n]] else p.notifs := rfl

theorem mem_lockUpdate_removes {p : Pub} {n : Nat} {R : List Nat} (h : R ∈ (lockUpdate p n).1.removes) :
    R ∈ p.removes ∨ R = p.completed.filter (· < n) := by
  simp only [lockUpdate] at h
  split at h
  · exact Or.inl h
  · simpa using h

theorem lockUpdate_queue (p : Pub) (n : Nat) :
    (lockUpdate p n).1.notifs.flatten = p.notifs.flatten ++ (if (lockUpdate p n).2.2 then [n] else []) := by
  rw [lockUpdate_notifs]
  cases (lockUpdate p n).2.2 <;> simp

theorem lockUpdate_notify_lt {p : Pub} {n : Nat} (h : (lockUpdate p n).2.2 = true) : ∀ c ∈ p.completed, c < n := by
  simp only [lockUpdate, Bool.and_eq_true, List.isEmpty_iff] at h
  intro c hc
  have := List.filter_eq_nil_iff.mp h.2 c hc
  simpa using this

theorem pairwise_append_notify {l : List Nat} {d : Bool} {n : Nat} (hl : l.Pairwise (· < ·))
    (hlt : d = true → ∀ a ∈ l, a < n) : (l ++ if d then [n] else []).Pairwise (· < ·) := by
  cases d with
  | false => simpa using hl
  | true =>
    refine List.pairwise_append.mpr ⟨hl, by simp, fun a ha b hb => ?_⟩
    rw [List.mem_singleton.mp hb]
    exact hlt rfl a ha

theorem getLast?_filter_pos {p : Nat → Bool} {l : List Nat} {x : Nat}
    (h : l.getLast? = some x) (hp : p x = true) : (l.filter p).getLast? = some x := by
  obtain ⟨ys, rfl⟩ := List.getLast?_eq_some_iff.mp h
  rw [List.filter_append, List.filter_cons_of_pos hp, List.filter_nil, List.getLast?_concat]

theorem lockUpdate_current {p : Pub} {cur : Nat} (n : Nat) (hc : p.current = some cur)
    (hmax : ∀ c ∈ p.completed, c ≤ cur) : (lockUpdate p n).1.current = some (max n cur) := by
  unfold Pub.current at hc ⊢
  rw [lockUpdate_completed, List.getLast?_cons]
  by_cases hlt : cur < n
  · have hnil : p.completed.filter (fun c => ¬ c < n) = [] :=
      List.filter_eq_nil_iff.mpr (fun c hcm => by have := hmax c hcm; simp only [decide_eq_true_eq]; omega)
    rw [hnil, Nat.max_eq_left (Nat.le_of_lt hlt)]; rfl
  · rw [getLast?_filter_pos (p := fun c => ¬ c < n) hc (by simpa using hlt), Nat.max_eq_right (Nat.le_of_not_lt hlt)]
    rfl

theorem lockUpdate_curMax {p : Pub} (n : Nat) (hmax : ∀ cur, p.current = some cur → ∀ c ∈ p.completed, c ≤ cur) :
    ∀ cur, (lockUpdate p n).1.current = some cur → ∀ c ∈ (lockUpdate p n).1.completed, c ≤ cur := by
  intro cur' hcur c hcm
  rw [lockUpdate_completed] at hcm
  cases hold : p.current with
  | none =>
    unfold Pub.current at hold hcur
    rw [lockUpdate_completed, List.getLast?_eq_none_iff.mp hold] at hcur
    rw [List.getLast?_eq_none_iff.mp hold] at hcm
    rw [← Option.some.inj hcur, List.mem_singleton.mp hcm]
    exact Nat.le_refl _
  | some cur =>
    rw [lockUpdate_current n hold (hmax cur hold), Option.some.injEq] at hcur
    rw [← hcur]
    rcases List.mem_cons.mp hcm with rfl | hcm
    · exact Nat.le_max_left _ _
    · exact Nat.le_trans (hmax cur hold c (List.mem_filter.mp hcm).1) (Nat.le_max_right _ _)

/-- What a crash leaves behind: the storage content and the history about it. `newest` is the retention property
itself; `Inv.wrFile` (every persisted id is bounded by a present file) follows from it. -/
structure Stored (p : Pub) : Prop where
  fileWr : ∀ f ∈ p.files, f ∈ p.written
  newest : p.written ≠ [] → maxL p.written ∈ p.files
  wrFin : ∀ n ∈ p.written, n ∈ p.initial ∨ ∃ snap ∈ p.finished, snap.id = n
  finGood : ∀ snap ∈ p.finished, snap.WF ∧ snap.isComplete = true

namespace Stored

theorem wrFile {p : Pub} (hp : Stored p) : ∀ w ∈ p.written, ∃ f ∈ p.files, w ≤ f :=
  fun _ hw => ⟨_, hp.newest (List.ne_nil_of_mem hw), le_maxL hw⟩

theorem maxFiles_eq {p : Pub} (hp : Stored p) (h : p.written ≠ []) : maxL p.files = maxL p.written :=
  Nat.le_antisymm (le_maxL (hp.fileWr _ (maxL_mem (List.ne_nil_of_mem (hp.newest h))))) (le_maxL (hp.newest h))

theorem load_files {p : Pub} (hp : Stored p) :
    load p.files = if p.written = [] then none else some (maxL p.written) := by
  by_cases hw : p.written = []
  · have hf : p.files = [] :=
      List.eq_nil_iff_forall_not_mem.mpr (fun a ha => List.not_mem_nil (hw ▸ hp.fileWr a ha))
    rw [if_pos hw, hf]; rfl
  · rw [if_neg hw, load_eq, if_neg (List.ne_nil_of_mem (hp.newest hw)), hp.maxFiles_eq hw]

theorem persisted {p : Pub} (hp : Stored p) {n : Nat} (hn : n ∈ p.written ∨ n ∈ p.files) :
    n ∈ p.initial ∨ ∃ snap ∈ p.finished, snap.id = n ∧ snap.WF ∧ snap.isComplete = true := by
  rcases hp.wrFin n (hn.elim id (hp.fileWr n)) with h | ⟨snap, hs, hid⟩
  · exact Or.inl h
  · exact Or.inr ⟨snap, hs, hid, hp.finGood snap hs⟩

end Stored

/-- Storage, id counter and "only complete snapshots are persisted". Holds for both job configurations: it does not
depend on which checkpoint the job considers current, so it survives the savepoint start mode going back to the
savepoint on a restart (D64). -/
structure InvCore (s : Sys) : Prop extends Stored s.pub where
  store : ∃ hist, Store.Inv hist s.store
  remLt : ∀ R ∈ s.pub.removes, ∀ k ∈ R, k < maxL s.pub.written
  wrCid : ∀ w ∈ s.pub.written, w ≤ s.store.cid
  infl : ∀ e ∈ s.pub.inflight, e.1 ≤ s.store.cid ∧ (∃ snap ∈ s.pub.finished, snap.id = e.1) ∧
    (e.2 = true → e.1 ∈ s.pub.written)

namespace InvCore

theorem inflWr {s : Sys} (hi : InvCore s) {n : Nat} (h : (n, true) ∈ s.pub.inflight) : n ∈ s.pub.written :=
  (hi.infl _ h).2.2 rfl

theorem not_removed {s : Sys} (hi : InvCore s) : ∀ R ∈ s.pub.removes, maxL s.pub.written ∉ R :=
  fun R hR hm => Nat.lt_irrefl _ (hi.remLt R hR _ hm)

theorem crash_loads_newest {s : Sys} (hi : InvCore s) (hsp : s.savepoint = none) :
    ∃ s', step s .crash = some (s', [.loaded (if s.pub.written = [] then none else some (maxL s.pub.written))]) ∧
      s'.pub.current = (if s.pub.written = [] then none else some (maxL s.pub.written)) ∧
      s'.store.cid = maxL s.pub.written ∧ s'.store.pending = none ∧ s'.pub.files = s.pub.files := by
  have hl := hi.load_files
  refine ⟨boot s.pub.files s.pub.written s.pub.delivered s.pub.initial s.pub.finished s.pub.fifo, ?_, ?_, ?_, rfl, rfl⟩
  · rw [← hl]; simp only [step, hsp]
  · show (load s.pub.files).toList.getLast? = _
    rw [hl]; split <;> rfl
  · show (load s.pub.files).getD 0 = _
    rw [hl]; split
    · next hw => rw [hw]; rfl
    · rfl

theorem new_id {s : Sys} (hi : InvCore s) (c : Store.Call) {n : Nat}
    (hn : n ∈ (Store.step s.store c).2.1.created) :
    (∀ w ∈ s.pub.written, w < n) ∧ s.store.cid < n ∧ (Store.step s.store c).1.cid = n := by
  rcases Store.step_ids s.store c with h' | h' <;> rw [h'.1] at hn
  · cases hn
  · rw [List.mem_singleton.mp hn]
    exact ⟨fun w hw => Nat.lt_succ_of_le (hi.wrCid w hw), Nat.lt_succ_self _, h'.2⟩

end InvCore

theorem core_fresh {s : Sys} (hp : s.store.pending = none) (hin : s.pub.inflight = []) (hr : s.pub.removes = [])
    (hc : maxL s.pub.files ≤ s.store.cid) (hs : Stored s.pub) : InvCore s where
  toStored := hs
  store := ⟨[], Store.inv_booted hp []⟩
  remLt := by rw [hr]; intro R hR; cases hR
  wrCid := fun w hw => let ⟨f, hf, hle⟩ := hs.wrFile w hw; Nat.le_trans hle (Nat.le_trans (le_maxL hf) hc)
  infl := by rw [hin]; intro e he; cases he

theorem stored_start {p : Pub} (hw : p.written = p.files) (hi : p.initial = p.files) (hf : p.finished = []) :
    Stored p where
  fileWr := by rw [hw]; exact fun _ h => h
  newest := by rw [hw]; exact maxL_mem
  wrFin := by rw [hw, hi]; exact fun _ h => Or.inl h
  finGood := by rw [hf]; exact fun _ h => nomatch h

theorem core_init (files0 : List Nat) : InvCore (init files0) :=
  core_fresh rfl rfl rfl (Nat.le_of_eq (load_getD files0).symm) (stored_start rfl rfl rfl)

theorem core_initSavepoint (k : Nat) (files0 : List Nat) : InvCore (initSavepoint k files0) :=
  core_fresh rfl rfl rfl (Nat.le_trans (Nat.le_max_left _ _) (Nat.le_max_right k _)) (stored_start rfl rfl rfl)

theorem core_call {s : Sys} (hi : InvCore s) {c : Store.Call} {s' : Sys} {obs : List Obs}
    (h : step s (.call c) = some (s', obs)) : InvCore s' := by
  obtain ⟨hist, hs⟩ := hi.store
  obtain ⟨hs', hpub⟩ := Store.step_inv hs c
  have hle := Store.step_cid_le s.store c
  rw [step_call h]
  exact { hi with
    store := ⟨_, hs'⟩
    wrCid := fun w hw => Nat.le_trans (hi.wrCid w hw) hle
    infl := List.forall_mem_append.mpr ⟨fun e he =>
        let ⟨h1, ⟨sn, hs, heq⟩, h3⟩ := hi.infl e he
        ⟨Nat.le_trans h1 hle, ⟨sn, List.mem_append_left _ hs, heq⟩, h3⟩,
      fun e he => by
        obtain ⟨snap, hsn, rfl⟩ := List.mem_map.mp he
        exact ⟨Nat.le_trans (Nat.le_of_eq (hpub snap (Option.mem_toList.mp hsn)).2) hle,
          ⟨snap, List.mem_append_right _ hsn, rfl⟩, nofun⟩⟩
    wrFin := by
      intro n hn
      rcases hi.wrFin n hn with h | ⟨sn, hs, he⟩
      · exact Or.inl h
      · exact Or.inr ⟨sn, List.mem_append_left _ hs, he⟩
    finGood := by
      intro sn hs
      rcases List.mem_append.mp hs with hs | hs
      · exact hi.finGood sn hs
      · have hg := (hpub sn (Option.mem_toList.mp hs)).1
        exact ⟨hg.wf, hg.complete⟩ }

theorem mem_inflight_write {l : List (Nat × Bool)} {n : Nat} {e : Nat × Bool}
    (h : e ∈ l.map (fun e => if e = (n, false) then (n, true) else e)) :
    ∃ e0 ∈ l, e0.1 = e.1 ∧ (e.2 = true → e0.2 = true ∨ e.1 = n) := by
  obtain ⟨e0, he0, heq⟩ := List.mem_map.mp h
  refine ⟨e0, he0, ?_⟩
  split at heq
  · next hen => rw [← heq, hen]; exact ⟨rfl, fun _ => Or.inr rfl⟩
  · rw [heq]; exact ⟨rfl, Or.inl⟩

theorem core_write {s : Sys} (hi : InvCore s) {n : Nat} {s' : Sys} {obs : List Obs}
    (h : step s (.write n) = some (s', obs)) : InvCore s' := by
  obtain ⟨hin, rfl⟩ := step_write h
  exact { hi with
    fileWr := List.forall_mem_cons.mpr ⟨List.mem_cons_self, fun f hf =>
      List.mem_cons_of_mem _ (hi.fileWr f (List.mem_filter.mp hf).1)⟩
    newest := by
      intro _
      show max n (maxL s.pub.written) ∈ n :: s.pub.files.filter (· ≠ n)
      by_cases hle : maxL s.pub.written ≤ n
      · rw [Nat.max_eq_left hle]; exact List.mem_cons_self
      · -- the newest id so far stays the newest, and its file is not the one replaced
        have hw : s.pub.written ≠ [] := fun he => hle (by rw [he]; exact Nat.zero_le n)
        rw [Nat.max_eq_right (Nat.le_of_not_le hle)]
        exact List.mem_cons_of_mem _ (List.mem_filter.mpr ⟨hi.newest hw, by simpa using fun he => hle (Nat.le_of_eq he)⟩)
    remLt := fun R hR k hk => Nat.lt_of_lt_of_le (hi.remLt R hR k hk) (Nat.le_max_right _ _)
    wrCid := List.forall_mem_cons.mpr ⟨(hi.infl _ hin).1, hi.wrCid⟩
    wrFin := List.forall_mem_cons.mpr ⟨Or.inr (hi.infl _ hin).2.1, hi.wrFin⟩
    infl := by
      intro e he
      obtain ⟨e0, he0, heq, hfl⟩ := mem_inflight_write he
      obtain ⟨h1, h2, h3⟩ := hi.infl e0 he0
      rw [← heq] at hfl ⊢
      exact ⟨h1, h2, fun ht =>
        (hfl ht).elim (fun h0 => List.mem_cons_of_mem _ (h3 h0)) (fun hn => hn ▸ List.mem_cons_self)⟩ }

theorem core_lock {s : Sys} (hi : InvCore s) {n : Nat} {s' : Sys} {obs : List Obs}
    (h : step s (.lock n) = some (s', obs)) : InvCore s' := by
  obtain ⟨hin, rfl, _⟩ := step_lock h
  exact { hi with
    remLt := by
      intro R hR k hk
      rcases mem_lockUpdate_removes hR with hR | rfl
      · exact hi.remLt R hR k hk
      · have : k < n := by simpa using (List.mem_filter.mp hk).2
        exact Nat.lt_of_lt_of_le this (le_maxL (hi.inflWr hin))
    infl := fun e he => hi.infl e (List.mem_filter.mp he).1 }

theorem core_remove {s : Sys} (hi : InvCore s) {ids : List Nat} {s' : Sys} {obs : List Obs}
    (h : step s (.remove ids) = some (s', obs)) : InvCore s' := by
  obtain ⟨hin, rfl⟩ := step_remove h
  exact { hi with
    fileWr := fun f hf => hi.fileWr f (List.mem_filter.mp hf).1
    newest := fun hw => List.mem_filter.mpr
      ⟨hi.newest hw, by simpa using hi.not_removed ids hin⟩
    remLt := fun R hR => hi.remLt R (List.mem_of_mem_erase hR) }

theorem core_step {s s' : Sys} {a : Act} {obs : List Obs} (hi : InvCore s) (h : step s a = some (s', obs)) :
    InvCore s' := by
  cases a with
  | call c => exact core_call hi h
  | write n => exact core_write hi h
  | lock n => exact core_lock hi h
  | remove ids => exact core_remove hi h
  | deliver => obtain ⟨ids, rest, _, rfl⟩ := step_deliver h; exact { hi with }
  | crash =>
    rcases step_crash h with ⟨_, rfl⟩ | ⟨k, _, rfl⟩
    · exact core_fresh rfl rfl rfl (Nat.le_of_eq (load_getD _).symm) { hi with }
    · exact core_fresh rfl rfl rfl (Nat.le_trans (Nat.le_max_left _ _) (Nat.le_max_right k _)) { hi with }

structure InvCur (s : Sys) : Prop where
  curMax : ∀ cur, s.pub.completed.getLast? = some cur → ∀ c ∈ s.pub.completed, c ≤ cur
  compWr : ∀ c ∈ s.pub.completed, c ∈ s.pub.written
  notifSorted : (s.pub.delivered ++ s.pub.notifs.flatten).Pairwise (· < ·)
  notifLe : ∀ k ∈ s.pub.delivered ++ s.pub.notifs.flatten, ∃ c ∈ s.pub.completed, k ≤ c
  notifWr : ∀ k ∈ s.pub.delivered ++ s.pub.notifs.flatten, k ∈ s.pub.written
  fifoTrue : s.pub.fifo = true
  noSp : s.savepoint = none

theorem cur_fresh {s : Sys} (hc : s.pub.completed = (load s.pub.files).toList) (hn : s.pub.notifs = [])
    (hf : s.pub.fifo = true) (hsp : s.savepoint = none) (hs : Stored s.pub)
    (delSorted : s.pub.delivered.Pairwise (· < ·)) (delWr : ∀ k ∈ s.pub.delivered, k ∈ s.pub.written) : InvCur s := by
  have hq : s.pub.delivered ++ s.pub.notifs.flatten = s.pub.delivered := by rw [hn]; exact List.append_nil _
  -- the one completed checkpoint of a fresh store is the newest persisted id
  rw [hs.load_files] at hc
  exact {
    curMax := by
      rw [hc]; split
      · intro _ _ c hm; cases hm
      · intro cur hcur c hm
        rw [List.mem_singleton.mp hm]; exact Nat.le_of_eq (Option.some.inj hcur)
    compWr := by
      rw [hc]; split
      · intro c hm; cases hm
      · next hw => exact List.forall_mem_singleton.mpr (maxL_mem hw)
    notifSorted := by rw [hq]; exact delSorted
    notifLe := by
      rw [hq, hc]
      intro k hk
      rw [if_neg (List.ne_nil_of_mem (delWr k hk))]
      exact ⟨_, List.mem_singleton_self _, le_maxL (delWr k hk)⟩
    notifWr := by rw [hq]; exact delWr
    fifoTrue := hf
    noSp := hsp }

theorem cur_lock {s : Sys} (hc : InvCore s) (hi : InvCur s) {n : Nat} {s' : Sys} {obs : List Obs}
    (h : step s (.lock n) = some (s', obs)) : InvCur s' := by
  obtain ⟨hin, rfl, _⟩ := step_lock h
  have hnw : n ∈ s.pub.written := hc.inflWr hin
  have hlt : (lockUpdate s.pub n).2.2 = true → ∀ a ∈ s.pub.delivered ++ s.pub.notifs.flatten, a < n := by
    intro hd a ha
    obtain ⟨c, hcm, hle⟩ := hi.notifLe a ha
    exact Nat.lt_of_le_of_lt hle (lockUpdate_notify_lt hd c hcm)
  have hq : ∀ k ∈ s.pub.delivered ++ (lockUpdate s.pub n).1.notifs.flatten,
      k ∈ s.pub.delivered ++ s.pub.notifs.flatten ∨ k = n := by
    intro k hk
    rw [lockUpdate_queue, ← List.append_assoc] at hk
    rcases List.mem_append.mp hk with hk | hk
    · exact Or.inl hk
    · split at hk
      · exact Or.inr (List.mem_singleton.mp hk)
      · cases hk
  exact { hi with
    curMax := lockUpdate_curMax n hi.curMax
    compWr := by
      rw [lockUpdate_completed]
      exact List.forall_mem_cons.mpr ⟨hnw, fun c hcm => hi.compWr c (List.mem_filter.mp hcm).1⟩
    notifSorted := by
      rw [lockUpdate_queue, ← List.append_assoc]
      exact pairwise_append_notify hi.notifSorted hlt
    notifLe := by
      intro k hk
      rw [lockUpdate_completed]
      rcases hq k hk with hk | rfl
      · obtain ⟨c, hcm, hle⟩ := hi.notifLe k hk
        by_cases hcn : c < n
        · exact ⟨n, List.mem_cons_self, Nat.le_of_lt (Nat.lt_of_le_of_lt hle hcn)⟩
        · exact ⟨c, List.mem_cons_of_mem _ (List.mem_filter.mpr ⟨hcm, by simpa using hcn⟩), hle⟩
      · exact ⟨k, List.mem_cons_self, Nat.le_refl _⟩
    notifWr := by
      intro k hk
      rcases hq k hk with hk | rfl
      · exact hi.notifWr k hk
      · exact hnw }

theorem cur_step {s s' : Sys} {a : Act} {obs : List Obs} (hc : InvCore s) (hi : InvCur s)
    (h : step s a = some (s', obs)) : InvCur s' := by
  cases a with
  | call c => rw [step_call h]; exact { hi with }
  | write n =>
    rw [(step_write h).2]
    exact { hi with
      compWr := fun c hcm => List.mem_cons_of_mem _ (hi.compWr c hcm)
      notifWr := fun k hk => List.mem_cons_of_mem _ (hi.notifWr k hk) }
  | lock n => exact cur_lock hc hi h
  | remove ids => rw [(step_remove h).2]; exact { hi with }
  | deliver =>
    obtain ⟨ids, rest, hq, rfl⟩ := step_deliver h
    have hfl : s.pub.delivered ++ s.pub.notifs.flatten = (s.pub.delivered ++ ids) ++ rest.flatten := by
      rw [hq, List.flatten_cons, List.append_assoc]
    exact { hi with notifSorted := hfl ▸ hi.notifSorted, notifLe := hfl ▸ hi.notifLe, notifWr := hfl ▸ hi.notifWr }
  | crash =>
    rcases step_crash h with ⟨_, rfl⟩ | ⟨k, hk, _⟩
    · exact cur_fresh rfl rfl hi.fifoTrue rfl { hc with }
        (List.pairwise_append.mp hi.notifSorted).1 (fun k hk => hi.notifWr k (List.mem_append_left _ hk))
    · rw [hi.noSp] at hk; cases hk

/-- what `InvCore` and `InvCur` give together. `wrFile` and `remLt` speak of the files present; they follow from
`Stored.newest` (`Inv.of_parts`). `queueSorted` repeats the queue's part of `notifSorted`, whose guard holds by `fifoTrue` -/
structure Inv (s : Sys) : Prop where
  store : ∃ hist, Store.Inv hist s.store
  wrFile : ∀ w ∈ s.pub.written, ∃ f ∈ s.pub.files, w ≤ f
  fileWr : ∀ f ∈ s.pub.files, f ∈ s.pub.written
  remLt : ∀ R ∈ s.pub.removes, ∀ k ∈ R, k < maxL s.pub.files
  inflWr : ∀ n, (n, true) ∈ s.pub.inflight → n ∈ s.pub.written
  wrCid : ∀ w ∈ s.pub.written, w ≤ s.store.cid
  inflCid : ∀ e ∈ s.pub.inflight, e.1 ≤ s.store.cid
  curMax : ∀ cur, s.pub.completed.getLast? = some cur → ∀ c ∈ s.pub.completed, c ≤ cur
  compWr : ∀ c ∈ s.pub.completed, c ∈ s.pub.written
  queueSorted : s.pub.notifs.flatten.Pairwise (· < ·)
  notifSorted : s.pub.fifo = true → (s.pub.delivered ++ s.pub.notifs.flatten).Pairwise (· < ·)
  notifLe : ∀ k ∈ s.pub.delivered ++ s.pub.notifs.flatten, ∃ c ∈ s.pub.completed, k ≤ c
  notifWr : ∀ k ∈ s.pub.delivered ++ s.pub.notifs.flatten, k ∈ s.pub.written
  wrFin : ∀ n ∈ s.pub.written, n ∈ s.pub.initial ∨ ∃ snap ∈ s.pub.finished, snap.id = n
  inflFin : ∀ e ∈ s.pub.inflight, ∃ snap ∈ s.pub.finished, snap.id = e.1
  finGood : ∀ snap ∈ s.pub.finished, snap.WF ∧ snap.isComplete = true
  fifoTrue : s.pub.fifo = true
  noSp : s.savepoint = none

namespace Inv

theorem core {s : Sys} (hi : Inv s) : InvCore s :=
  have hle : maxL s.pub.files ≤ maxL s.pub.written := maxL_le_iff.mpr (fun f hf => le_maxL (hi.fileWr f hf))
  { hi with
    infl := fun e he => ⟨hi.inflCid e he, hi.inflFin e he, fun ht => hi.inflWr e.1 (by rw [← ht]; exact he)⟩
    newest := fun hw =>
      -- the file that bounds the newest persisted id is persisted itself, so it is that id
      let ⟨f, hf, hwf⟩ := hi.wrFile _ (maxL_mem hw)
      Nat.le_antisymm (le_maxL (hi.fileWr f hf)) hwf ▸ hf
    remLt := fun R hR k hk => Nat.lt_of_lt_of_le (hi.remLt R hR k hk) hle }

theorem cur {s : Sys} (hi : Inv s) : InvCur s := { hi with notifSorted := hi.notifSorted hi.fifoTrue }

theorem of_parts {s : Sys} (hc : InvCore s) (hn : InvCur s) : Inv s :=
  { hc, hn with
    inflWr := fun _ => hc.inflWr
    inflCid := fun e he => (hc.infl e he).1
    inflFin := fun e he => (hc.infl e he).2.1
    wrFile := hc.wrFile
    remLt := fun R hR k hk => by
      have hlt := hc.remLt R hR k hk
      rwa [hc.maxFiles_eq (fun he => by rw [he] at hlt; exact Nat.not_lt_zero _ hlt)]
    queueSorted := (List.pairwise_append.mp hn.notifSorted).2.1
    notifSorted := fun _ => hn.notifSorted }

theorem current_le {s s' : Sys} {a : Act} {obs : List Obs} (hi : Inv s) (hs : step s a = some (s', obs))
    {cur : Nat} (hc : s.pub.current = some cur) : ∃ cur', s'.pub.current = some cur' ∧ cur ≤ cur' := by
  unfold Pub.current at hc ⊢
  have same : s'.pub.completed = s.pub.completed → ∃ cur', s'.pub.completed.getLast? = some cur' ∧ cur ≤ cur' :=
    fun he => ⟨cur, he ▸ hc, Nat.le_refl _⟩
  cases a with
  | call c => exact same (by rw [step_call hs])
  | write n => exact same (by rw [(step_write hs).2])
  | remove ids => exact same (by rw [(step_remove hs).2])
  | deliver => obtain ⟨_, _, _, rfl⟩ := step_deliver hs; exact same rfl
  | lock n =>
    rw [(step_lock hs).2.1]
    exact ⟨max n cur, lockUpdate_current n hc (hi.curMax cur hc), Nat.le_max_right _ _⟩
  | crash =>
    rcases step_crash hs with ⟨_, rfl⟩ | ⟨k, hk, _⟩
    · -- the current checkpoint was persisted, so the newest persisted id, which is loaded, is at least as new
      have hw := hi.compWr cur (List.mem_of_getLast? hc)
      show ∃ cur', (load s.pub.files).toList.getLast? = some cur' ∧ cur ≤ cur'
      rw [hi.core.load_files, if_neg (List.ne_nil_of_mem hw)]
      exact ⟨_, rfl, le_maxL hw⟩
    · rw [hi.noSp] at hk; cases hk

end Inv

theorem inv_init (files0 : List Nat) : Inv (init files0) :=
  .of_parts (core_init files0)
    (cur_fresh rfl rfl rfl rfl (stored_start rfl rfl rfl) List.Pairwise.nil (fun _ h => nomatch h))

theorem step_inv {s s' : Sys} {a : Act} {obs : List Obs} (hi : Inv s) (h : step s a = some (s', obs)) : Inv s' :=
  .of_parts (core_step hi.core h) (cur_step hi.core hi.cur h)

theorem reachable_inv {files0 : List Nat} {as : List Act} {s : Sys} {obs : List Obs}
    (h : run (init files0) as = some (s, obs)) : Inv s :=
  run_preserves step_inv as (inv_init files0) h

theorem reachable_core {s0 : Sys} (h0 : (∃ files0, s0 = init files0) ∨ (∃ k files0, s0 = initSavepoint k files0))
    {as : List Act} {s : Sys} {obs : List Obs} (h : run s0 as = some (s, obs)) : InvCore s := by
  refine run_preserves core_step as ?_ h
  rcases h0 with ⟨f, rfl⟩ | ⟨k, f, rfl⟩
  · exact core_init f
  · exact core_initSavepoint k f

end Rxn.Publish
