import RxnModel.Model.Rescale
import RxnModel.Proofs.Lsm
import RxnModel.Proofs.Lists
/-! Sequence and table numbers after a multi-handle restore: `latestSeq` and `nextTableId` bound what was loaded, and the
replay loop of `DB.Start` numbers what it writes above that (`ReplayInv`). -/
namespace Rxn.Rescale
open Rxn Lsm

theorem seq_le_tblEndSeq (t : Tbl) (e : Entry) (he : e ∈ t.run) : e.seq ≤ tblEndSeq t :=
  foldl_max_ge (fun e : Entry => e.seq) t.run 0 e he

theorem tblEndSeq_le_latest (levels : List (List Tbl)) (t : Tbl) (ht : t ∈ levels.flatten) :
    tblEndSeq t ≤ latestSeq levels :=
  foldl_max_ge tblEndSeq levels.flatten 0 t ht

theorem seq_le_latest (levels : List (List Tbl)) (t : Tbl) (ht : t ∈ levels.flatten) (e : Entry) (he : e ∈ t.run) :
    e.seq ≤ latestSeq levels :=
  Nat.le_trans (seq_le_tblEndSeq t e he) (tblEndSeq_le_latest levels t ht)

theorem lt_nextTableId (levels : List (List Tbl)) (t : Tbl) (ht : t ∈ levels.flatten) : t.id < nextTableId levels :=
  Nat.lt_of_succ_le (foldl_max_ge (fun t : Tbl => t.id + 1) levels.flatten 0 t ht)

/-- the entry `DB.Put` / `DB.Delete` store: a delete stores no value -/
def wEntry (seq : Nat) (k : Bytes) (del : Bool) (v : Bytes) : Entry :=
  if del then ⟨k, seq, true, []⟩ else ⟨k, seq, false, v⟩

theorem wEntry_key (n : Nat) (k : Bytes) (d : Bool) (v : Bytes) : (wEntry n k d v).key = k := by
  cases d <;> rfl

theorem wEntry_seq (n : Nat) (k : Bytes) (d : Bool) (v : Bytes) : (wEntry n k d v).seq = n := by
  cases d <;> rfl

theorem answer_wEntry (n : Nat) (k : Bytes) (d : Bool) (v : Bytes) :
    answer (some (wEntry n k d v)) = if d then none else some v := by
  cases d <;> rfl

theorem lsmWrite_single (s : State) (m : Run) (hm : s.mems = [m]) (hr : s.reading = none) (e : Entry) :
    Lsm.write s e = some { s with seq := s.seq + 1, mems := [Run.insert m e] } := by
  unfold Lsm.write
  rw [hr, hm]
  rfl

theorem write_eq (s : State) (k : Bytes) (del : Bool) (v : Bytes) :
    write s k del v = (Lsm.write s (wEntry (s.seq + 1) k del v)).getD s := by
  cases del <;> rfl

theorem write_single (s : State) (m : Run) (hm : s.mems = [m]) (hr : s.reading = none) (k : Bytes) (del : Bool) (v : Bytes) :
    write s k del v = { s with seq := s.seq + 1, mems := [Run.insert m (wEntry (s.seq + 1) k del v)] } := by
  rw [write_eq, lsmWrite_single s m hm hr]
  rfl

theorem write_levels (s : State) (k : Bytes) (del : Bool) (v : Bytes) : (write s k del v).levels = s.levels := by
  rw [write_eq]
  cases h : Lsm.write s (wEntry (s.seq + 1) k del v) with
  | none => rfl
  | some s' =>
    obtain ⟨_, _, _, _, rfl⟩ := write_eq_some h
    rfl

theorem foldl_write_levels (ws : List (Bytes × Bool × Bytes)) (s : State) :
    (ws.foldl (fun s w => write s w.1 w.2.1 w.2.2) s).levels = s.levels :=
  List.foldlRecOn (motive := fun s' => s'.levels = s.levels) ws _ rfl fun s' h w _ => (write_levels s' w.1 w.2.1 w.2.2).trans h

theorem getR_write_single (s : State) (m : Run) (hm : s.mems = [m]) (hr : s.reading = none) (k : Bytes) (d : Bool) (v : Bytes) :
    getR (write s k d v) k = some (wEntry (s.seq + 1) k d v) := by
  rw [write_single s m hm hr]
  simp only [getR, memGet, List.reverse_cons, List.reverse_nil, List.nil_append, firstSome, Run.lookup_insert, wEntry_key,
    if_true]

/-- invariant of the replay loop: one memtable whose entries are owned and numbered above `b` -/
structure ReplayInv (own : Bytes → Bool) (L : List (List Tbl)) (b : Nat) (s : State) : Prop where
  mems : ∃ m, s.mems = [m] ∧ ∀ e ∈ m, b < e.seq ∧ e.seq ≤ s.seq ∧ own e.key = true
  levels : s.levels = L
  seq : b ≤ s.seq
  reading : s.reading = none

theorem applyWal_single (own : Bytes → Bool) (s : State) (m : Run) (hm : s.mems = [m]) (hr : s.reading = none)
    (w : WalEntry) : applyWal own s w =
      if own w.key then { s with seq := s.seq + 1, mems := [Run.insert m (wEntry (s.seq + 1) w.key w.del w.val)] } else s := by
  unfold applyWal
  rw [write_single s m hm hr]

/-- induction over the replay loop; the invariant `P done s` also sees the records consumed so far -/
theorem foldl_applyWal_inv (own : Bytes → Bool) (P : List WalEntry → State → Prop)
    (hskip : ∀ (done : List WalEntry) (s : State) (w : WalEntry), ¬ own w.key = true → P done s → P (done ++ [w]) s)
    (hstep : ∀ (done : List WalEntry) (s : State) (m : Run) (w : WalEntry), s.mems = [m] → own w.key = true → P done s →
      P (done ++ [w]) { s with seq := s.seq + 1, mems := [Run.insert m (wEntry (s.seq + 1) w.key w.del w.val)] }) :
    ∀ (wal done : List WalEntry) (s : State) (m : Run), s.mems = [m] → s.reading = none → P done s →
      P (done ++ wal) (wal.foldl (applyWal own) s) := by
  intro wal
  induction wal with
  | nil => intro done s m _ _ hp; rw [List.append_nil]; exact hp
  | cons w ws ih =>
    intro done s m hm hr hp
    rw [List.foldl_cons, applyWal_single own s m hm hr, List.append_cons]
    by_cases ho : own w.key = true
    · rw [if_pos ho]; exact ih _ _ _ rfl hr (hstep done s m w hm ho hp)
    · rw [if_neg ho]; exact ih _ s m hm hr (hskip done s w ho hp)

theorem openDB_of_ne_nil (own : Bytes → Bool) (cs : List Ckpt) (h : cs ≠ []) :
    openDB own cs = (cs.flatMap (·.wal)).foldl (applyWal own) (startState tblEndSeq (mergeLevels cs)) := by
  cases cs with
  | nil => exact absurd rfl h
  | cons c cs => rfl

theorem replayInv_start (own : Bytes → Bool) (L : List (List Tbl)) :
    ReplayInv own L (latestSeq L) (startState tblEndSeq L) where
  mems := ⟨[], rfl, fun _ h => nomatch h⟩
  levels := rfl
  seq := Nat.le_refl _
  reading := rfl

theorem replayInv_write {own : Bytes → Bool} {L : List (List Tbl)} {b : Nat} {s : State} {m : Run}
    (h : ReplayInv own L b s) (hm : s.mems = [m]) (w : WalEntry) (ho : own w.key = true) :
    ReplayInv own L b { s with seq := s.seq + 1, mems := [Run.insert m (wEntry (s.seq + 1) w.key w.del w.val)] } where
  mems := by
    refine ⟨_, rfl, fun e he => ?_⟩
    obtain ⟨m0, hm0, hall⟩ := h.mems
    cases hm0.symm.trans hm
    rcases Run.insert_mem he with rfl | he'
    · rw [wEntry_seq, wEntry_key]; exact ⟨Nat.lt_succ_of_le h.seq, Nat.le_refl _, ho⟩
    · exact ⟨(hall e he').1, Nat.le_succ_of_le (hall e he').2.1, (hall e he').2.2⟩
  levels := h.levels
  seq := Nat.le_succ_of_le h.seq
  reading := h.reading

theorem openDB_replay (own : Bytes → Bool) (cs : List Ckpt) (h : cs ≠ []) :
    (openDB own cs).nextId = nextTableId (mergeLevels cs) ∧
      ReplayInv own (mergeLevels cs) (latestSeq (mergeLevels cs)) (openDB own cs) := by
  rw [openDB_of_ne_nil own cs h]
  exact foldl_applyWal_inv own
    (fun _ s => s.nextId = nextTableId (mergeLevels cs) ∧ ReplayInv own (mergeLevels cs) (latestSeq (mergeLevels cs)) s)
    (fun _ _ _ _ h => h) (fun _ s m w hm ho ⟨hid, hinv⟩ => ⟨hid, replayInv_write hinv hm w ho⟩)
    (cs.flatMap (·.wal)) [] (startState tblEndSeq (mergeLevels cs)) [] rfl rfl ⟨rfl, replayInv_start own _⟩

theorem openDB_replayInv (own : Bytes → Bool) (cs : List Ckpt) (h : cs ≠ []) :
    ReplayInv own (mergeLevels cs) (latestSeq (mergeLevels cs)) (openDB own cs) :=
  (openDB_replay own cs h).2

theorem openDB_nextId (own : Bytes → Bool) (cs : List Ckpt) (hne : cs ≠ []) :
    (openDB own cs).nextId = nextTableId (mergeLevels cs) :=
  (openDB_replay own cs hne).1

end Rxn.Rescale
