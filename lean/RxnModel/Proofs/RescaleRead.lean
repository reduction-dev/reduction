import RxnModel.Model.Rescale
import RxnModel.Proofs.Lsm
import RxnModel.Proofs.Search
/-! The reads of `level_list.go` on a level list whose deeper levels are valid (`LevelValid`: ascending, pairwise disjoint key
ranges): the binary search of `tablesForKey` finds the table whose range contains the key, so `levelsGetR` is `Lsm.levelsGet`.
Nothing here knows of key groups or of merged checkpoints. A lookup of `k` is a function of `Lsm.view L k`, the tables whose
range contains `k` in the order they are visited: that is what lets C06 compare a composite level list with the level list of
`k`'s old owner. -/
namespace Rxn.Rescale
open Rxn Lsm Rxn.Search

def TblOk (t : Tbl) : Prop := Bytes.cmp t.startKey t.endKey ≠ .gt
def Before (t u : Tbl) : Prop := Bytes.cmp t.endKey u.startKey = .lt
/-- a deeper level the binary searches are correct on: ascending, pairwise disjoint key ranges -/
def LevelValid (l : List Tbl) : Prop := (∀ t ∈ l, TblOk t) ∧ l.Pairwise Before

theorem deeper_of_tail {L : List (List Tbl)} (h : ∀ l ∈ L.tail, LevelValid l) :
    ∀ i l, 1 ≤ i → L[i]? = some l → LevelValid l
  | i + 1, l, _, hl => h l (List.mem_of_getElem? (by rw [List.getElem?_tail]; exact hl))

theorem tail_of_deeper {L : List (List Tbl)} (h : ∀ i l, 1 ≤ i → L[i]? = some l → LevelValid l) :
    ∀ l ∈ L.tail, LevelValid l := by
  intro l hl
  obtain ⟨i, hi⟩ := List.getElem?_of_mem hl
  rw [List.getElem?_tail] at hi
  exact h (i + 1) l (Nat.le_add_left 1 i) hi

theorem LevelValid.rangeUnique {l : List Tbl} (h : LevelValid l) : RangeUnique l :=
  rangeUnique_of_ordered (List.Pairwise.imp Bytes.lt_iff_cmp.mpr h.2)

theorem levelOk_of_valid (l : List Tbl) (h : LevelValid l) :
    LevelOk (l.map fun t => (t.startKey, t.endKey)).toArray := by
  constructor
  · intro i hi
    simp only [List.size_toArray, List.length_map] at hi
    simp only [List.getElem_toArray, List.getElem_map]
    exact h.1 _ (List.getElem_mem hi)
  · intro i j hij hj
    simp only [List.size_toArray, List.length_map] at hj
    simp only [List.getElem_toArray, List.getElem_map]
    exact (List.pairwise_iff_getElem.mp h.2) i j (by omega) hj hij

/-- on a valid level `SearchUnique` over `RangeKeyCompare` returns the table whose range contains the key -/
theorem deepGetBS_eq (l : List Tbl) (k : Bytes) (h : LevelValid l) : deepGetBS l k = deepGet l k := by
  have hss := signSorted_level _ k (levelOk_of_valid l h)
  unfold deepGetBS deepGet searchTables
  rw [← List.head?_filter]
  cases hs : searchUnique (l.map fun t => (t.startKey, t.endKey)).toArray
      (fun t => Gen.tblRangeKeyCompare t.1 t.2 k) with
  | none =>
    have hnone := searchUnique_complete _ _ hss hs
    rw [List.filter_eq_nil_iff.mpr]
    · rfl
    · intro t ht hc
      obtain ⟨i, hi, rfl⟩ := List.getElem_of_mem ht
      have := hnone i (by simpa using hi)
      simp only [List.getElem_toArray, List.getElem_map] at this
      exact this (rangeKeyCompare_zero.mpr hc)
  | some i =>
    obtain ⟨hi, h0⟩ := searchUnique_sound _ _ hss i hs
    have hi' : i < l.length := by simpa using hi
    simp only [List.getElem_toArray, List.getElem_map] at h0
    -- the table found contains the key, and it is the only one that does
    have hmem : l[i] ∈ l.filter (fun t => t.rangeContainsKey k) :=
      List.mem_filter.mpr ⟨List.getElem_mem hi', rangeKeyCompare_zero.mp h0⟩
    have hlen := filter_contains_le_one h.rangeUnique k
    show ((l[i]?).bind fun t => t.run.lookup k) = _
    rw [List.getElem?_eq_getElem hi']
    generalize l.filter (fun t => t.rangeContainsKey k) = fl at hmem hlen
    match fl, hmem, hlen with
    | [], hmem, _ => nomatch hmem
    | [t], hmem, _ => cases List.mem_singleton.mp hmem; rfl
    | _ :: _ :: _, _, hlen => simp at hlen

theorem view_map_range (f g : Nat → List Tbl) (n : Nat) (k : Bytes)
    (h : ∀ i, (f i).filter (·.rangeContainsKey k) = (g i).filter (·.rangeContainsKey k)) :
    view ((List.range n).map f) k = view ((List.range n).map g) k := by
  cases n with
  | zero => rfl
  | succ m =>
    simp only [view, List.range_succ_eq_map, List.map_cons, List.map_map, readOrder, List.filter_append,
      List.filter_reverse, List.filter_flatten, h 0]
    exact congrArg _ (congrArg _ (List.map_congr_left fun i _ => h (i + 1)))

theorem l0Get_congr {a b : List Tbl} (k : Bytes)
    (h : a.filter (·.rangeContainsKey k) = b.filter (·.rangeContainsKey k)) : l0Get a k = l0Get b k := by
  unfold l0Get
  rw [← firstSome_filter _ _ (tblGet_none · k) a.reverse,
    ← firstSome_filter _ _ (tblGet_none · k) b.reverse, List.filter_reverse, List.filter_reverse, h]

theorem levelsGetR_eq_of_valid (L : List (List Tbl)) (hv : ∀ l ∈ L.tail, LevelValid l) (k : Bytes) :
    levelsGetR L k = levelsGet L k := by
  cases L with
  | nil => rfl
  | cons l0 D =>
    simp only [levelsGetR, levelsGet]
    rw [Lsm.firstSome_congr _ _ D (fun l hl => deepGetBS_eq l k (hv l hl))]
    rfl

end Rxn.Rescale
