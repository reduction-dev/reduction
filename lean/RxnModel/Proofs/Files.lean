import RxnModel.Model.Files
import RxnModel.Proofs.Lists
/-!
Lemmas for C09 (`Model/Files.lean`) shared by the four scopes. `step` is unfolded once, in the equations `step_*`, one
per action; `Frame` is all a step can do to the level list and checkpoint list of one instance; `step_removes` lists
the steps that remove a file. The four scopes are nested (`runN_of_init1`, `runC_of_init1`); `inScopeN` is inside
`inScopeC` except for collections on an instance that does not run (`inScopeC_of_inScopeN`).
-/
namespace Rxn.Files
open Rxn

theorem arrives_id (a : Ans) : arrives a = a := by
  cases a <;> rfl  -- by the facts `c09OwnsNoDeadline`, `c09OwnsErrPassed` as read from the source

theorem mem_effective {t : Tbl} {nbrs : List (KGRange × Ans)} {ra : KGRange × Ans} (h : ra ∈ nbrs)
    (ho : Gen.kgOverlaps ra.1 t.span = true) : ra.2 ∈ effective t nbrs := by
  unfold effective
  exact List.mem_map.mpr ⟨ra, h, by simp [ho, arrives_id]⟩

theorem decision_ne_delete (own : KGRange) (t : Tbl) (nbrs : List (KGRange × Ans))
    (hnc : Gen.kgContains own t.span = false)
    (h : ∃ ra ∈ nbrs, Gen.kgOverlaps ra.1 t.span = true ∧ (ra.2 = .err ∨ ra.2 = .hang ∨ ra.2 = .needs)) :
    decision own t nbrs ≠ .delete := by
  obtain ⟨ra, hra, ho, hans⟩ := h
  have hm := mem_effective hra ho
  unfold decision
  simp only [hnc, Bool.false_eq_true, if_false, List.contains_iff_mem]
  by_cases h1 : Ans.needs ∈ effective t nbrs
  · simp [h1]
  · by_cases h2 : Ans.hang ∈ effective t nbrs
    · simp [h1, h2]
    · have h3 : Ans.err ∈ effective t nbrs := by
        rcases hans with he | hh | hn
        · rw [he] at hm; exact hm
        · rw [hh] at hm; exact absurd hm h2
        · rw [hn] at hm; exact absurd hm h1
      simp [h1, h2, h3, Facts.c09OwnsErrKeeps]

theorem decision_delete_cases (own : KGRange) (t : Tbl) (nbrs : List (KGRange × Ans))
    (h : decision own t nbrs = .delete) :
    Gen.kgContains own t.span = true ∨ ∀ ra ∈ nbrs, Gen.kgOverlaps ra.1 t.span = true → ra.2 = .no := by
  by_cases hc : Gen.kgContains own t.span = true
  · exact Or.inl hc
  · right
    intro ra hra ho
    have hc' : Gen.kgContains own t.span = false := by simpa using hc
    cases hans : ra.2 with
    | no => rfl
    | needs => exact absurd h (decision_ne_delete own t nbrs hc' ⟨ra, hra, ho, Or.inr (Or.inr hans)⟩)
    | err => exact absurd h (decision_ne_delete own t nbrs hc' ⟨ra, hra, ho, Or.inl hans⟩)
    | hang => exact absurd h (decision_ne_delete own t nbrs hc' ⟨ra, hra, ho, Or.inr (Or.inl hans)⟩)

theorem needsTable_eq (x : Inst) (u : Path) : needsTable x u = (readCkpts x u || readLive x u) := rfl

theorem readLive_false {x : Inst} {u : Path} : readLive x u = false ↔ u ∉ uris x.current := by
  simp [readLive, Facts.c09NeedsChecksLive]

theorem readCkpts_false {x : Inst} {u : Path} : readCkpts x u = false ↔ ∀ c ∈ x.ckpts, u ∉ uris c.tables := by
  simp [readCkpts, ckptIncludes, Facts.c09CkptUsesLevels]

theorem needsTable_false {x : Inst} {u : Path} :
    needsTable x u = false ↔ u ∉ uris x.current ∧ ∀ c ∈ x.ckpts, u ∉ uris c.tables := by
  rw [needsTable_eq, Bool.or_eq_false_iff, readLive_false, readCkpts_false, and_comm]

theorem needsTable_of_notNeeded {x : Inst} {u : Path} (h1 : u ∉ uris x.current)
    (h2 : ∀ c ∈ x.ckpts, u ∉ uris c.tables) : needsTable x u = false :=
  needsTable_false.mpr ⟨h1, h2⟩

theorem needsFirst_eq (x : Inst) (u : Path) : needsFirst x u = readLive x u := by
  simp [needsFirst, Facts.c09NeedsLiveFirst]

theorem needsSecond_eq (x : Inst) (u : Path) : needsSecond x u = readCkpts x u := by
  simp [needsSecond, Facts.c09NeedsLiveFirst]

theorem nextWalId_gt (ws : List Wal) : ∀ w ∈ ws, w.num < nextWalId ws := by
  intro w hw
  simp only [nextWalId, Facts.c09NextWalIsMax, beq_self_eq_true, if_true]
  exact Nat.lt_succ_of_le (foldl_max_ge (·.num) ws 0 w hw)

theorem refs_iff {x : Inst} {u : Path} : x.refs u = true ↔
    u ∈ uris x.current ∨ (∃ c ∈ x.ckpts, u ∈ uris c.tables) ∨ ∃ sn ∈ x.snaps, u ∈ uris sn := by
  simp [Inst.refs, or_assoc]

theorem refs_of_current {x : Inst} {t : Tbl} (h : t ∈ x.current) : x.refs t.uri = true :=
  refs_iff.mpr (Or.inl (List.mem_map.mpr ⟨t, h, rfl⟩))

theorem refs_of_ckpt {x : Inst} {c : Ckpt} {t : Tbl} (hc : c ∈ x.ckpts) (ht : t ∈ c.tables) :
    x.refs t.uri = true :=
  refs_iff.mpr (Or.inr (Or.inl ⟨c, hc, List.mem_map.mpr ⟨t, ht, rfl⟩⟩))

theorem refs_of_unreachable {x : Inst} {u : Path} (hl : x.life ≠ .released) (h : x.unreachable u = true) :
    x.refs u = false := by
  unfold Inst.unreachable at h
  cases hx : x.life with
  | alive => simpa [hx] using h
  | crashed => simpa [hx] using h
  | released => exact absurd hx hl

theorem unreferenced_of_unreachable {x : Inst} {u : Path} (hl : x.life ≠ .released) (h : x.unreachable u = true) :
    u ∉ uris x.current ∧ (∀ c ∈ x.ckpts, u ∉ uris c.tables) ∧ ∀ sn ∈ x.snaps, u ∉ uris sn := by
  have hr : ¬ x.refs u = true := by simp [refs_of_unreachable hl h]
  exact ⟨fun hu => hr (refs_iff.mpr (Or.inl hu)), fun c hc hu => hr (refs_iff.mpr (Or.inr (Or.inl ⟨c, hc, hu⟩))),
    fun sn hsn hu => hr (refs_iff.mpr (Or.inr (Or.inr ⟨sn, hsn, hu⟩)))⟩

theorem dropOne_cons (t : Tbl) (ts : List Tbl) (u : Path) :
    dropOne (t :: ts) u = if t.uri == u then ts else t :: dropOne ts u := rfl

theorem dropOne_eq_eraseP (cur : List Tbl) (u : Path) : dropOne cur u = cur.eraseP (·.uri == u) := by
  induction cur with
  | nil => rfl
  | cons t ts ih => rw [dropOne_cons, List.eraseP_cons, ih, Bool.cond_eq_ite]

theorem mem_dropTables {t : Tbl} : ∀ {rm : List Path} {cur : List Tbl}, t ∈ dropTables cur rm → t ∈ cur := by
  intro rm
  induction rm with
  | nil => intro cur h; exact h
  | cons u us ih =>
    intro cur h
    have : t ∈ dropOne cur u := ih (by simpa [dropTables] using h)
    exact List.mem_of_mem_eraseP (dropOne_eq_eraseP cur u ▸ this)

theorem mem_rmFile {fs : List File} {f g : File} : g ∈ rmFile fs f ↔ g ∈ fs ∧ g ≠ f := by
  simp [rmFile]

theorem mem_ite_rmFile {del : Bool} {fs : List File} {f g : File} :
    f ∈ (if del then rmFile fs g else fs) ↔ f ∈ fs ∧ (del = true → f ≠ g) := by
  cases del <;> simp [mem_rmFile]

theorem mem_rmWals {fs : List File} {ws : List Wal} {g : File} :
    g ∈ rmWals fs ws ↔ g ∈ fs ∧ ¬ ∃ v, g = .wal v ∧ ∃ w ∈ ws, w.same v = true := by
  unfold rmWals
  cases g <;> simp

theorem clobber_eq (fs : List File) (w : Wal) : clobber fs w = rmWals fs [w] := by
  unfold clobber rmWals
  congr
  funext f
  cases f <;> simp

theorem mem_clobber {fs : List File} {w : Wal} {g : File} :
    g ∈ clobber fs w ↔ g ∈ fs ∧ ¬ ∃ v, g = .wal v ∧ w.same v = true := by
  rw [clobber_eq, mem_rmWals]
  simp

theorem same_comm (a b : Wal) : a.same b = b.same a := by
  simp only [Wal.same]
  rw [Bool.beq_comm (a := a.dir), Bool.beq_comm (a := a.num)]

theorem same_num {a b : Wal} (h : a.same b = true) : a.dir = b.dir ∧ a.num = b.num := by
  simpa [Wal.same] using h

theorem not_same_of_num {a b : Wal} (h : a.num ≠ b.num) : a.same b = false := by
  cases hs : a.same b with
  | false => rfl
  | true => exact absurd (same_num hs).2 h

theorem mem_walsOf {cs : List Ckpt} {w : Wal} : w ∈ walsOf cs ↔ ∃ c ∈ cs, w ∈ c.wals := by
  simp [walsOf, List.mem_flatMap]

theorem mem_droppedOf {cs : List Ckpt} {ids : List Nat} {c : Ckpt} :
    c ∈ droppedOf cs ids ↔ c ∈ cs ∧ keeps ids c = false := by
  simp [droppedOf]

theorem mem_keptOf {cs : List Ckpt} {ids : List Nat} {c : Ckpt} :
    c ∈ keptOf cs ids ↔ c ∈ cs ∧ keeps ids c = true := by
  simp [keptOf]

theorem mem_rmWals_dropped {fs : List File} {cs : List Ckpt} {ids : List Nat} {g : File} :
    g ∈ rmWals fs (walsOf (droppedOf cs ids)) ↔ g ∈ fs ∧
      ¬ ∃ c ∈ cs, keeps ids c = false ∧ ∃ w ∈ c.wals, ∃ v, g = .wal v ∧ w.same v = true := by
  rw [mem_rmWals]
  refine and_congr_right' (not_congr ⟨?_, ?_⟩)
  · rintro ⟨v, hg, w, hw, hsm⟩
    obtain ⟨c, hc, hwc⟩ := mem_walsOf.mp hw
    exact ⟨c, (mem_droppedOf.mp hc).1, (mem_droppedOf.mp hc).2, w, hwc, v, hg, hsm⟩
  · rintro ⟨c, hc, hk, w, hwc, v, hg, hsm⟩
    exact ⟨v, hg, w, mem_walsOf.mpr ⟨c, mem_droppedOf.mpr ⟨hc, hk⟩, hwc⟩, hsm⟩

theorem allFresh_cons (used : List Path) (p : Path) (ps : List Path) :
    allFresh used (p :: ps) = (!used.contains p && allFresh (p :: used) ps) := rfl

theorem allFresh_not_mem : ∀ {ps used : List Path}, allFresh used ps = true → ∀ p ∈ ps, p ∉ used := by
  intro ps
  induction ps with
  | nil => intro used _ p hp; cases hp
  | cons q qs ih =>
    intro used h p hp
    simp only [allFresh_cons, Bool.and_eq_true] at h
    rcases List.mem_cons.mp hp with rfl | hp
    · simpa using h.1
    · intro hu
      exact ih h.2 p hp (List.mem_cons_of_mem _ hu)

theorem set_single (x y : Inst) : [x].set 0 y = [y] := rfl

theorem get_set_self {l : List Inst} {i : Nat} {xi y : Inst} (hi : l[i]? = some xi) : (l.set i y)[i]? = some y := by
  simp [getElem?_lt_of_some hi]

theorem get_set_other {l : List Inst} {i j : Nat} {y : Inst} (hij : i ≠ j) : (l.set i y)[j]? = l[j]? := by
  simp [hij]

theorem get_set_inv {l : List Inst} {i j : Nat} {xi y x' : Inst} (hi : l[i]? = some xi)
    (h : (l.set i y)[j]? = some x') : (i = j ∧ x' = y) ∨ (i ≠ j ∧ l[j]? = some x') := by
  by_cases hij : i = j
  · subst hij
    rw [get_set_self hi] at h
    exact Or.inl ⟨rfl, (Option.some.inj h).symm⟩
  · exact Or.inr ⟨hij, get_set_other hij ▸ h⟩

theorem get_append_new {l : List Inst} {y : Inst} {j : Nat} {x : Inst} (h : (l ++ [y])[j]? = some x) :
    l[j]? = some x ∨ (j = l.length ∧ x = y) := by
  rcases Nat.lt_or_ge j l.length with hlt | hge
  · rw [List.getElem?_append_left hlt] at h; exact Or.inl h
  · rw [List.getElem?_append_right hge] at h
    have hj : j - l.length = 0 := by have := getElem?_lt_of_some h; simp at this; omega
    rw [hj] at h
    exact Or.inr ⟨by omega, (Option.some.inj h).symm⟩

theorem get_append_old {l : List Inst} {y : Inst} {j : Nat} {x : Inst} (h : l[j]? = some x) :
    (l ++ [y])[j]? = some x := by
  rw [List.getElem?_append_left (getElem?_lt_of_some h)]; exact h

theorem mem_needed {s : State} {f : File} :
    f ∈ needed s ↔ (∃ (j : Nat) (x : Inst), s.insts[j]? = some x ∧ x.life = .alive ∧ ∃ t ∈ x.current, f = .sst t.uri) ∨
      ∃ h ∈ s.retained, (∃ t ∈ h.tables, f = .sst t.uri) ∨ (∃ w ∈ h.wals, f = .wal w) := by
  have hlive : ∀ p, p ∈ liveTables s ↔ ∃ (j : Nat) (x : Inst), s.insts[j]? = some x ∧ x.life = .alive ∧ p ∈ uris x.current := by
    intro p
    unfold liveTables
    rw [List.mem_flatMap]
    constructor
    · rintro ⟨x, hx, hp⟩
      obtain ⟨j, hj⟩ := List.mem_iff_getElem?.mp hx
      by_cases hl : x.life = .alive
      · exact ⟨j, x, hj, hl, by simpa [hl] using hp⟩
      · simp [hl] at hp
    · rintro ⟨j, x, hj, hl, hp⟩
      exact ⟨x, List.mem_of_getElem? hj, by simp [hl, hp]⟩
  unfold needed handleFiles
  simp only [List.mem_append, List.mem_map, List.mem_flatMap]
  constructor
  · rintro (⟨p, hp, rfl⟩ | ⟨h, hh, (⟨p, hp, rfl⟩ | ⟨w, hw, rfl⟩)⟩)
    · obtain ⟨j, x, hj, hl, hp⟩ := (hlive p).mp hp
      obtain ⟨t, ht, rfl⟩ := List.mem_map.mp hp
      exact Or.inl ⟨j, x, hj, hl, t, ht, rfl⟩
    · obtain ⟨t, ht, rfl⟩ := List.mem_map.mp hp
      exact Or.inr ⟨h, hh, Or.inl ⟨t, ht, rfl⟩⟩
    · exact Or.inr ⟨h, hh, Or.inr ⟨w, hw, rfl⟩⟩
  · rintro (⟨j, x, hj, hl, t, ht, rfl⟩ | ⟨h, hh, (⟨t, ht, rfl⟩ | ⟨w, hw, rfl⟩)⟩)
    · exact Or.inl ⟨t.uri, (hlive _).mpr ⟨j, x, hj, hl, List.mem_map.mpr ⟨t, ht, rfl⟩⟩, rfl⟩
    · exact Or.inr ⟨h, hh, Or.inl ⟨t.uri, List.mem_map.mpr ⟨t, ht, rfl⟩, rfl⟩⟩
    · exact Or.inr ⟨h, hh, Or.inr ⟨w, hw, rfl⟩⟩

theorem needed_live {s : State} {j : Nat} {x : Inst} {t : Tbl} (hj : s.insts[j]? = some x) (hl : x.life = .alive)
    (ht : t ∈ x.current) : File.sst t.uri ∈ needed s :=
  mem_needed.mpr (Or.inl ⟨j, x, hj, hl, t, ht, rfl⟩)

theorem wal_needed {s : State} {v : Wal} (h : File.wal v ∈ needed s) : ∃ hd ∈ s.retained, v ∈ hd.wals := by
  rcases mem_needed.mp h with ⟨_, _, _, _, _, _, he⟩ | ⟨hd, hh, (⟨_, _, he⟩ | ⟨w, hw, he⟩)⟩
  · cases he
  · cases he
  · cases he; exact ⟨hd, hh, hw⟩

theorem sst_not_needed {s : State} {u : Path}
    (hlive : ∀ (j : Nat) (x : Inst), s.insts[j]? = some x → x.life = .alive → ∀ t ∈ x.current, t.uri ≠ u)
    (hret : ∀ h ∈ s.retained, ∀ t ∈ h.tables, t.uri ≠ u) : File.sst u ∉ needed s := by
  intro hn
  rcases mem_needed.mp hn with ⟨j, x, hj, hl, t, ht, he⟩ | ⟨h, hh, (⟨t, ht, he⟩ | ⟨w, _, he⟩)⟩
  · cases he; exact hlive j x hj hl t ht rfl
  · cases he; exact hret h hh t ht rfl
  · cases he

theorem needed_mono {s s' : State} {f : File} (hf : f ∈ needed s')
    (hlive : ∀ (j : Nat) (x : Inst), s'.insts[j]? = some x → x.life = .alive → ∀ t ∈ x.current, File.sst t.uri ∈ needed s)
    (hret : ∀ h ∈ s'.retained, h ∈ s.retained) : f ∈ needed s := by
  rcases mem_needed.mp hf with ⟨j, x, hj, hl, t, ht, rfl⟩ | ⟨h, hh, hr⟩
  · exact hlive j x hj hl t ht
  · exact mem_needed.mpr (Or.inr ⟨h, hret h hh, hr⟩)

theorem needed_of_set {s s' : State} {f : File} (hf : f ∈ needed s') {i : Nat} {xi y : Inst} (hi : s.insts[i]? = some xi)
    (hins : s'.insts = s.insts.set i y) (hlife : y.life = .alive → xi.life = .alive) (hcur : y.current = xi.current)
    (hret : ∀ h ∈ s'.retained, h ∈ s.retained) : f ∈ needed s := by
  refine needed_mono hf (fun j x hj hl t ht => ?_) hret
  rw [hins] at hj
  rcases get_set_inv hi hj with ⟨rfl, rfl⟩ | ⟨_, hj'⟩
  · exact needed_live hi (hlife hl) (hcur ▸ ht)
  · exact needed_live hj' hl ht

theorem safe_set_tables {s : State} {i : Nat} {xi y : Inst} {F : List File} {U : List Path} (hs : Safe s)
    (hi : s.insts[i]? = some xi) (hlife : y.life = .alive → xi.life = .alive) (hF : ∀ f ∈ s.files, f ∈ F)
    (hcur : ∀ t ∈ y.current, t ∈ xi.current ∨ File.sst t.uri ∈ F) :
    Safe { s with insts := s.insts.set i y, files := F, used := U } := by
  intro f hf
  rcases mem_needed.mp hf with ⟨j, x, hj, hl, t, ht, rfl⟩ | ⟨h, hh, hr⟩
  · rcases get_set_inv hi hj with ⟨rfl, rfl⟩ | ⟨_, hj'⟩
    · rcases hcur t ht with h1 | h1
      · exact hF _ (hs _ (needed_live hi (hlife hl) h1))
      · exact h1
    · exact hF _ (hs _ (needed_live hj' hl ht))
  · exact hF _ (hs _ (mem_needed.mpr (Or.inr ⟨h, hh, hr⟩)))

theorem needed_rmWals {s : State} (hs : Safe s) {ws : List Wal}
    (hw : ∀ h ∈ s.retained, ∀ w ∈ h.wals, ∀ w' ∈ ws, w'.same w = false) : ∀ f ∈ needed s, f ∈ rmWals s.files ws := by
  intro f hf
  refine mem_rmWals.mpr ⟨hs f hf, fun ⟨v, he, w', hw', hsm⟩ => ?_⟩
  subst he
  obtain ⟨h, hh, hv⟩ := wal_needed hf
  exact Bool.false_ne_true ((hw h hh v hv w' hw').symm.trans hsm)

theorem needed_clobber {s : State} (hs : Safe s) {wal : Wal}
    (hw : ∀ h ∈ s.retained, ∀ w ∈ h.wals, wal.same w = false) : ∀ f ∈ needed s, f ∈ clobber s.files wal := by
  rw [clobber_eq]
  exact needed_rmWals hs fun h hh w hw1 w' hw' => List.mem_singleton.mp hw' ▸ hw h hh w hw1

theorem docEntry_some {s : State} {w id : Nat} {c : Ckpt} (h : docEntry s w id = some c) :
    ∃ wi, s.insts[w]? = some wi ∧ c ∈ wi.ckpts ∧ c.id = id := by
  unfold docEntry at h
  split at h
  · cases h
  · rename_i wi hwi
    split at h
    · exact ⟨wi, hwi, List.mem_of_find?_eq_some h, by simpa using List.find?_some h⟩
    · cases h

theorem gather_nil (s : State) (id : Nat) : gather s [] id = some ([], []) := rfl

theorem gather_cons (s : State) (w : Nat) (ws : List Nat) (id : Nat) :
    gather s (w :: ws) id =
      match docEntry s w id, gather s ws id with
      | some c, some (ts, wl) => some (c.tables ++ ts, c.wals ++ wl)
      | _, _ => none := rfl

theorem gather_single {s : State} {w id : Nat} {ts : List Tbl} {wl : List Wal} (h : gather s [w] id = some (ts, wl)) :
    ∃ c, docEntry s w id = some c ∧ ts = c.tables ∧ wl = c.wals := by
  rw [gather_cons, gather_nil] at h
  cases hde : docEntry s w id with
  | none => simp [hde] at h
  | some c =>
    simp only [hde, List.append_nil, Option.some.injEq, Prod.mk.injEq] at h
    exact ⟨c, rfl, h.1.symm, h.2.symm⟩

/-- the instance after sealing WAL `wal` into checkpoint `id` -/
@[reducible] def ckptInst (x : Inst) (id : Nat) (wal : Wal) : Inst :=
  { x with ckpts := x.ckpts ++ [⟨id, x.current, [wal], false⟩], walNext := x.walNext + 1 }

theorem mem_ckptInst {x : Inst} {id : Nat} {wal : Wal} {c : Ckpt} (hc : c ∈ (ckptInst x id wal).ckpts) :
    c ∈ x.ckpts ∨ c = ⟨id, x.current, [wal], false⟩ :=
  (List.mem_append.mp hc).imp_right List.mem_singleton.mp

theorem wuniq_ckptInst {x : Inst} {id : Nat} {wal : Wal}
    (hu : ∀ c ∈ x.ckpts, ∀ c' ∈ x.ckpts, ∀ w ∈ c.wals, ∀ w' ∈ c'.wals, w.same w' = true → c.id = c'.id)
    (hnew : ∀ c ∈ x.ckpts, ∀ v ∈ c.wals, wal.same v = false) :
    ∀ c ∈ (ckptInst x id wal).ckpts, ∀ c' ∈ (ckptInst x id wal).ckpts, ∀ w ∈ c.wals, ∀ w' ∈ c'.wals,
      w.same w' = true → c.id = c'.id := by
  intro c hc c' hc' w hw w' hw' hsm
  rcases mem_ckptInst hc with h1 | rfl
  · rcases mem_ckptInst hc' with h2 | rfl
    · exact hu c h1 c' h2 w hw w' hw' hsm
    · cases List.mem_singleton.mp hw'
      rw [same_comm, hnew c h1 w hw] at hsm; cases hsm
  · rcases mem_ckptInst hc' with h2 | rfl
    · cases List.mem_singleton.mp hw
      rw [hnew c' h2 w' hw'] at hsm; cases hsm
    · rfl

/-- the shape every action of one instance has in `step`: look the instance up, test the guard -/
theorem inst_guard_opt {α : Type} {o : Option Inst} {p : Inst → Prop} [∀ x, Decidable (p x)] {g : Inst → Option α}
    {r : α}
    (h : (match o with
      | none => none
      | some x => if p x then g x else none) = some r) : ∃ x, o = some x ∧ p x ∧ g x = some r := by
  cases o with
  | none => cases h
  | some x =>
    by_cases hp : p x
    · exact ⟨x, rfl, hp, by simpa [hp] using h⟩
    · simp [hp] at h

theorem inst_guard {α : Type} {o : Option Inst} {p : Inst → Prop} [∀ x, Decidable (p x)] {f : Inst → α} {r : α}
    (h : (match o with
      | none => none
      | some x => if p x then some (f x) else none) = some r) : ∃ x, o = some x ∧ p x ∧ r = f x :=
  let ⟨x, hx, hp, hr⟩ := inst_guard_opt h
  ⟨x, hx, hp, (Option.some.inj hr).symm⟩

theorem step_openFresh {s s' : State} {r : KGRange} {g : Nat} {n : List KGRange} {d : Nat}
    (h : step s (.openFresh r g n d) = some s') :
    s' = { s with insts := s.insts ++ [freshInst r g n d s.insts.length] } :=
  (Option.some.inj h).symm

theorem step_openFrom_eq (s : State) (r : KGRange) (g : Nat) (n : List KGRange) (ws : List Nat) (id d : Nat) :
    step s (.openFrom r g n ws id d) =
      match ws, gather s ws id with
      | [], _ => none
      | _ :: _, none => none
      | _ :: _, some (ts, wl) => some { s with insts := s.insts ++ [restoredInst r g n ts wl id d (linOf s ws)] } :=
  rfl

theorem step_openFrom {s s' : State} {r : KGRange} {g : Nat} {n : List KGRange} {ws : List Nat} {id d : Nat}
    (h : step s (.openFrom r g n ws id d) = some s') :
    ∃ ts wl, ws ≠ [] ∧ gather s ws id = some (ts, wl) ∧
      s' = { s with insts := s.insts ++ [restoredInst r g n ts wl id d (linOf s ws)] } := by
  rw [step_openFrom_eq] at h
  split at h
  · cases h
  · cases h
  · rename_i ts wl hg
    exact ⟨ts, wl, List.cons_ne_nil _ _, hg, (Option.some.inj h).symm⟩

theorem step_flush {s s' : State} {i : Nat} {t : Tbl} (h : step s (.flush i t) = some s') :
    ∃ x, s.insts[i]? = some x ∧ x.life = .alive ∧ t.uri ∉ s.used ∧
      s' = { setInst s i { x with current := t :: x.current, created := t.uri :: x.created, made := t.uri :: x.made } with
             files := .sst t.uri :: s.files, used := t.uri :: s.used } := by
  obtain ⟨x, hx, ⟨hl, hu⟩, rfl⟩ := inst_guard h
  exact ⟨x, hx, hl, by simpa using hu, rfl⟩

theorem step_compact {s s' : State} {i : Nat} {rm : List Path} {add : List Tbl}
    (h : step s (.compact i rm add) = some s') :
    ∃ x, s.insts[i]? = some x ∧ x.life = .alive ∧ allFresh s.used (uris add) = true ∧
      s' = { setInst s i { x with current := dropTables x.current rm ++ add, created := uris add ++ x.created,
                                   made := uris add ++ x.made } with
             files := (uris add).map File.sst ++ s.files, used := uris add ++ s.used } := by
  obtain ⟨x, hx, ⟨hl, hu, _⟩, rfl⟩ := inst_guard h
  exact ⟨x, hx, hl, hu, rfl⟩

theorem step_ckpt {s s' : State} {i id : Nat} {wal : Wal} (h : step s (.ckpt i id wal) = some s') :
    ∃ x, s.insts[i]? = some x ∧ x.life = .alive ∧ s.floor < id ∧ (∀ c ∈ x.ckpts, c.id ≠ id) ∧
      wal.dir = x.dir ∧ wal.num = x.walNext ∧
      s' = { setInst s i (ckptInst x id wal) with
             files := .wal wal :: clobber s.files wal, usedW := wal :: s.usedW,
             retained := ⟨i, id, x.current, [wal]⟩ :: s.retained, nextId := max s.nextId (id + 1),
             docs := saveDoc s i x.dir } := by
  obtain ⟨x, hx, ⟨hl, hfl, hid, _, hd, hn⟩, rfl⟩ := inst_guard h
  exact ⟨x, hx, hl, hfl, fun c hc => by simpa using List.all_eq_true.mp hid c hc, hd, hn, rfl⟩

theorem step_jobDrop {s s' : State} {k : Nat} (h : step s (.jobDrop k) = some s') :
    s' = { s with retained := s.retained.filter (fun h => k < h.id), floor := max s.floor k } :=
  (Option.some.inj (Option.ite_none_right_eq_some.mp h).2).symm

theorem step_jobAbandon {s s' : State} {id : Nat} (h : step s (.jobAbandon id) = some s') :
    s' = { s with retained := s.retained.filter (fun h => h.id != id) } :=
  (Option.some.inj h).symm

theorem step_retain {s s' : State} {i : Nat} {ids : List Nat} (h : step s (.retain i ids) = some s') :
    ∃ x, s.insts[i]? = some x ∧ x.life = .alive ∧
      s' = { setInst s i { x with ckpts := keptOf x.ckpts ids } with
             files := rmWals s.files (walsOf (droppedOf x.ckpts ids)), docs := saveDoc s i x.dir } := by
  obtain ⟨x, hx, ⟨hl, _⟩, rfl⟩ := inst_guard h
  exact ⟨x, hx, hl, rfl⟩

theorem step_snap {s s' : State} {i : Nat} (h : step s (.snap i) = some s') :
    ∃ x, s.insts[i]? = some x ∧ x.life = .alive ∧ s' = setInst s i { x with snaps := x.current :: x.snaps } :=
  inst_guard h

theorem step_unsnap {s s' : State} {i k : Nat} (h : step s (.unsnap i k) = some s') :
    ∃ x, s.insts[i]? = some x ∧ x.life = .alive ∧ s' = setInst s i { x with snaps := x.snaps.eraseIdx k } :=
  inst_guard h

theorem step_crash {s s' : State} {i : Nat} (h : step s (.crash i) = some s') :
    ∃ x, s.insts[i]? = some x ∧ x.life = .alive ∧ s' = setInst s i { x with life := .crashed } :=
  inst_guard h

theorem step_release {s s' : State} {i : Nat} (h : step s (.release i) = some s') :
    ∃ x, s.insts[i]? = some x ∧ x.life = .alive ∧ s' = setInst s i { x with life := .released } :=
  inst_guard h

theorem step_redeployFailed {s s' : State} {i : Nat} (h : step s (.redeployFailed i) = some s') :
    ∃ x, s.insts[i]? = some x ∧ x.life = .alive ∧ s' = s :=
  inst_guard h

theorem step_lateWrite {s s' : State} {i : Nat} {t : Tbl} (h : step s (.lateWrite i t) = some s') :
    ∃ x, s.insts[i]? = some x ∧ x.life = .released ∧
      s' = { s with files := .sst (lateName t.uri) :: rmFile s.files (.sst t.uri), used := lateName t.uri :: s.used } :=
  inst_guard h

theorem step_collect {s s' : State} {i : Nat} {u : Path} {answers : List Ans}
    (h : step s (.collect i u answers) = some s') :
    ∃ x, s.insts[i]? = some x ∧ x.unreachable u = true ∧ ∃ (cr : List Path) (ld : List Tbl) (del : Bool),
      s' = { setInst s i { x with created := cr, loaded := ld } with
             files := if del then rmFile s.files (.sst u) else s.files } ∧
      ((u ∈ x.created ∧ cr = x.created.erase u ∧ ld = x.loaded ∧ del = (Facts.c09CreatedDeletes == 1)) ∨
       (∃ t ∈ x.loaded, t.uri = u ∧ cr = x.created ∧ ld = x.loaded.erase t ∧
          del = decide (decision x.range t (x.nbrs.zip answers) = .delete ∨ Facts.c09LoadedGuarded ≠ 1))) := by
  obtain ⟨x, hx, hun, h⟩ := inst_guard_opt h
  refine ⟨x, hx, hun, ?_⟩
  split at h
  · rename_i hcr
    exact ⟨_, _, _, (Option.some.inj h).symm, Or.inl ⟨by simpa using hcr, rfl, rfl, rfl⟩⟩
  · split at h
    · cases h
    · rename_i t hfind
      refine ⟨_, _, _, ?_, Or.inr ⟨t, List.mem_of_find?_eq_some hfind, by simpa using List.find?_some hfind, rfl, rfl, rfl⟩⟩
      rw [← Option.some.inj h]
      simp only [decide_eq_true_eq]

theorem retain_effect {s s' : State} {i : Nat} {ids : List Nat} {x : Inst} (hx : s.insts[i]? = some x)
    (h : step s (.retain i ids) = some s') :
    s'.files = rmWals s.files (walsOf (droppedOf x.ckpts ids)) ∧
    s'.insts[i]? = some { x with ckpts := keptOf x.ckpts ids } ∧ s'.retained = s.retained := by
  obtain ⟨x', hx', _, rfl⟩ := step_retain h
  cases hx.symm.trans hx'
  exact ⟨rfl, get_set_self hx, rfl⟩

theorem collect_effect {s s' : State} {i : Nat} {u : Path} {answers : List Ans} {x : Inst}
    (hx : s.insts[i]? = some x) (h : step s (.collect i u answers) = some s') :
    x.unreachable u = true ∧ (∀ f ∈ s.files, f ≠ .sst u → f ∈ s'.files) ∧ (∀ f ∈ s'.files, f ∈ s.files) ∧
    (.sst u ∈ s.files → .sst u ∉ s'.files → u ∈ x.created ∨
      ∃ t ∈ x.loaded, t.uri = u ∧ decision x.range t (x.nbrs.zip answers) = .delete) := by
  obtain ⟨x', hx', hun, cr, ld, del, rfl, hcase⟩ := step_collect h
  cases hx.symm.trans hx'
  refine ⟨hun, fun f hf hne => mem_ite_rmFile.mpr ⟨hf, fun _ => hne⟩, fun f hf => (mem_ite_rmFile.mp hf).1, ?_⟩
  intro hin hout
  rcases hcase with ⟨hc, _⟩ | ⟨t, ht, htu, _, _, hdel⟩
  · exact Or.inl hc
  · refine Or.inr ⟨t, ht, htu, ?_⟩
    -- the file went, so the rule said delete; the guard on loaded objects is in force (`c09LoadedGuarded`)
    have hd : del = true := by
      cases del with
      | true => rfl
      | false => exact absurd hin hout
    simpa [hdel, Facts.c09LoadedGuarded] using hd

/-- the `match` by which `run` and the four scoped runs go on after a step -/
theorem match_eq_some {o : Option State} {k : State → Option State} {r : State} :
    (match o with
      | some s1 => k s1
      | none => none) = some r ↔ ∃ s1, o = some s1 ∧ k s1 = some r := by
  cases o <;> simp

theorem run_cons {s s' : State} {a : Act} {as : List Act} :
    run s (a :: as) = some s' ↔ ∃ s1, step s a = some s1 ∧ run s1 as = some s' :=
  match_eq_some

theorem run_preserves {P : State → Prop} (hP : ∀ {s s' : State} {a : Act}, step s a = some s' → P s → P s')
    {as : List Act} : ∀ {s s' : State}, run s as = some s' → P s → P s' := by
  induction as with
  | nil => intro s s' h p; exact Option.some.inj h ▸ p
  | cons a as ih =>
    intro s s' h p
    obtain ⟨s1, hs, h⟩ := run_cons.mp h
    exact ih h (hP hs p)

theorem run_first_loss {P : State → Prop} {as : List Act} : ∀ {s s' : State}, run s as = some s' → P s → ¬ P s' →
    ∃ pre a post sm sm', as = pre ++ a :: post ∧ run s pre = some sm ∧ step sm a = some sm' ∧ P sm ∧ ¬ P sm' := by
  induction as with
  | nil => intro s s' h p np; exact absurd (Option.some.inj h ▸ p) np
  | cons a as ih =>
    intro s s' h p np
    obtain ⟨s1, hs, h⟩ := run_cons.mp h
    by_cases p1 : P s1
    · obtain ⟨pre, b, post, sm, sm', has, hpre, hw⟩ := ih h p1 np
      exact ⟨a :: pre, b, post, sm, sm', by rw [has]; rfl, run_cons.mpr ⟨s1, hs, hpre⟩, hw⟩
    · exact ⟨[], a, as, s, s1, rfl, rfl, hs, p, p1⟩

theorem step_length {s s' : State} {a : Act} (h : step s a = some s') :
    s'.insts.length = s.insts.length ∨ (∃ r g n d, a = .openFresh r g n d) ∨ ∃ r g n ws id d, a = .openFrom r g n ws id d := by
  cases a with
  | openFresh r g n d => exact Or.inr (Or.inl ⟨r, g, n, d, rfl⟩)
  | openFrom r g n ws id d => exact Or.inr (Or.inr ⟨r, g, n, ws, id, d, rfl⟩)
  | flush i t => obtain ⟨_, _, _, _, rfl⟩ := step_flush h; exact Or.inl (List.length_set ..)
  | compact i rm add => obtain ⟨_, _, _, _, rfl⟩ := step_compact h; exact Or.inl (List.length_set ..)
  | ckpt i id wal => obtain ⟨_, _, _, _, _, _, _, rfl⟩ := step_ckpt h; exact Or.inl (List.length_set ..)
  | jobDrop k => rw [step_jobDrop h]; exact Or.inl rfl
  | jobAbandon id => rw [step_jobAbandon h]; exact Or.inl rfl
  | retain i ids => obtain ⟨_, _, _, rfl⟩ := step_retain h; exact Or.inl (List.length_set ..)
  | snap i => obtain ⟨_, _, _, rfl⟩ := step_snap h; exact Or.inl (List.length_set ..)
  | unsnap i k => obtain ⟨_, _, _, rfl⟩ := step_unsnap h; exact Or.inl (List.length_set ..)
  | crash i => obtain ⟨_, _, _, rfl⟩ := step_crash h; exact Or.inl (List.length_set ..)
  | release i => obtain ⟨_, _, _, rfl⟩ := step_release h; exact Or.inl (List.length_set ..)
  | collect i u answers => obtain ⟨_, _, _, _, _, _, rfl, _⟩ := step_collect h; exact Or.inl (List.length_set ..)
  | redeployFailed i => obtain ⟨_, _, _, rfl⟩ := step_redeployFailed h; exact Or.inl rfl
  | lateWrite i t => obtain ⟨_, _, _, rfl⟩ := step_lateWrite h; exact Or.inl rfl

theorem retainOk_iff {s : State} {i : Nat} {ids : List Nat} {x : Inst} (hi : s.insts[i]? = some x) :
    retainOk s i ids = true ↔ ∀ c ∈ droppedOf x.ckpts ids, c.id ≤ s.floor := by
  simp [retainOk, hi]

theorem kept_of_above {s : State} {ids : List Nat} {x : Inst} (hok : ∀ c ∈ droppedOf x.ckpts ids, c.id ≤ s.floor)
    {c : Ckpt} (hc : c ∈ x.ckpts) (hlt : s.floor < c.id) : c ∈ keptOf x.ckpts ids := by
  by_cases hin : keeps ids c = true
  · exact mem_keptOf.mpr ⟨hc, hin⟩
  · exact absurd hlt (Nat.not_lt.mpr (hok c (mem_droppedOf.mpr ⟨hc, by simpa using hin⟩)))

theorem inScopeN_openFresh (s : State) (r : KGRange) (g : Nat) (n : List KGRange) (d : Nat) :
    inScopeN s (.openFresh r g n d) = (d == s.insts.length) := rfl

theorem inScopeL_openFresh (s : State) (r : KGRange) (g : Nat) (n : List KGRange) (d : Nat) :
    inScopeL s (.openFresh r g n d) = (noneAlive s && s.retained.isEmpty && d == s.insts.length) := rfl

theorem inScopeL_openFrom_single {s : State} {r : KGRange} {g : Nat} {n : List KGRange} {ws : List Nat} {id d : Nat}
    (h : inScopeL s (.openFrom r g n ws id d) = true) : ∃ w, ws = [w] :=
  match ws, h with
  | [w], _ => ⟨w, rfl⟩
  | [], h => nomatch (Bool.and_false _).symm.trans h  -- for any other `ws` the condition is `… && false`
  | _ :: _ :: _, h => nomatch (Bool.and_false _).symm.trans h

theorem inScopeL_openFrom_one (s : State) (r : KGRange) (g : Nat) (n : List KGRange) (w id d : Nat) :
    inScopeL s (.openFrom r g n [w] id d) = (noneAlive s && d == s.insts.length &&
      ((s.retained.any fun h => h.writer == w && h.id == id) && s.retained.all fun h => decide (h.id ≤ id))) := rfl

theorem inScopeC_openFresh (s : State) (r : KGRange) (g : Nat) (n : List KGRange) (d : Nat) :
    inScopeC s (.openFresh r g n d) = (d == s.insts.length) := rfl

theorem inScopeC_openFrom_single {s : State} {r : KGRange} {g : Nat} {n : List KGRange} {ws : List Nat} {id d : Nat}
    (h : inScopeC s (.openFrom r g n ws id d) = true) : ∃ w, ws = [w] :=
  match ws, h with
  | [w], _ => ⟨w, rfl⟩
  | [], h => nomatch (Bool.and_false _).symm.trans h
  | _ :: _ :: _, h => nomatch (Bool.and_false _).symm.trans h

theorem inScopeC_openFrom_one (s : State) (r : KGRange) (g : Nat) (n : List KGRange) (w id d : Nat) :
    inScopeC s (.openFrom r g n [w] id d) = (d == s.insts.length &&
      ((s.retained.any fun h => h.writer == w && h.id == id) && newestOf s w id &&
        s.insts.all (fun y => !(decide (y.life = .alive) && y.lin == linOf s [w])))) := rfl

theorem inScopeN_of_inScope {s : State} {a : Act} (h : inScope s a = true) : inScopeN s a = true := by
  cases a with
  | openFresh r g n d => cases h  -- the one action `inScopeN` admits under a condition; `inScope` forbids it
  | _ => exact h

theorem inScopeC_of_inScopeL {s : State} {a : Act} (h : inScopeL s a = true) : inScopeC s a = true := by
  cases a with
  | openFresh r g n d =>
    rw [inScopeL_openFresh, Bool.and_eq_true] at h
    exact h.2
  | openFrom r g n ws id d =>
    obtain ⟨w, rfl⟩ := inScopeL_openFrom_single h
    simp only [inScopeL_openFrom_one, noneAlive, Bool.and_eq_true, List.all_eq_true, decide_eq_true_eq] at h
    obtain ⟨⟨hna, hd⟩, hany, hnew⟩ := h
    simp only [inScopeC_openFrom_one, newestOf, Bool.and_eq_true, List.all_eq_true, Bool.or_eq_true, decide_eq_true_eq]
    exact ⟨hd, ⟨hany, fun h hh => Or.inl (hnew h hh)⟩, fun y hy => by simp [hna y hy]⟩
  | _ => exact h

/-- `inScopeN` lets any instance's garbage be collected, `inScopeC` a running one's -/
theorem inScopeC_of_inScopeN {s : State} {a : Act} (h : inScopeN s a = true) :
    inScopeC s a = true ∨ ∃ i u answers, a = .collect i u answers := by
  cases a with
  | collect i u answers => exact Or.inr ⟨i, u, answers, rfl⟩
  | openFrom r g n ws id d => cases h
  | _ => exact Or.inl h

theorem runIn_cons {s s' : State} {a : Act} {as : List Act} :
    runIn s (a :: as) = some s' ↔ inScope s a = true ∧ ∃ s1, step s a = some s1 ∧ runIn s1 as = some s' :=
  Option.ite_none_right_eq_some.trans (and_congr_right' match_eq_some)

theorem runN_cons {s s' : State} {a : Act} {as : List Act} :
    runN s (a :: as) = some s' ↔ inScopeN s a = true ∧ ∃ s1, step s a = some s1 ∧ runN s1 as = some s' :=
  Option.ite_none_right_eq_some.trans (and_congr_right' match_eq_some)

theorem runL_cons {s s' : State} {a : Act} {as : List Act} :
    runL s (a :: as) = some s' ↔ inScopeL s a = true ∧ ∃ s1, step s a = some s1 ∧ runL s1 as = some s' :=
  Option.ite_none_right_eq_some.trans (and_congr_right' match_eq_some)

theorem runC_cons {s s' : State} {a : Act} {as : List Act} :
    runC s (a :: as) = some s' ↔ inScopeC s a = true ∧ ∃ s1, step s a = some s1 ∧ runC s1 as = some s' :=
  Option.ite_none_right_eq_some.trans (and_congr_right' match_eq_some)

theorem runN_of_runIn {as : List Act} : ∀ {s s' : State}, runIn s as = some s' → runN s as = some s' := by
  induction as with
  | nil => exact id
  | cons a as ih =>
    intro s s' h
    obtain ⟨hsc, s1, hs, h⟩ := runIn_cons.mp h
    exact runN_cons.mpr ⟨inScopeN_of_inScope hsc, s1, hs, ih h⟩

theorem runC_of_runL {as : List Act} : ∀ {s s' : State}, runL s as = some s' → runC s as = some s' := by
  induction as with
  | nil => exact id
  | cons a as ih =>
    intro s s' h
    obtain ⟨hsc, s1, hs, h⟩ := runL_cons.mp h
    exact runC_cons.mpr ⟨inScopeC_of_inScopeL hsc, s1, hs, ih h⟩

/-- by computation, `init1 range nbrs` is the state after `openFresh range 0 nbrs 0` from `{}` -/
theorem runN_of_init1 {range : KGRange} {nbrs : List KGRange} {as : List Act} {s : State}
    (h : runIn (init1 range nbrs) as = some s) : runN {} (.openFresh range 0 nbrs 0 :: as) = some s :=
  show runN (init1 range nbrs) as = some s from runN_of_runIn h

theorem runC_of_init1 {range : KGRange} {nbrs : List KGRange} {as : List Act} {s : State}
    (h : runL (init1 range nbrs) as = some s) : runC {} (.openFresh range 0 nbrs 0 :: as) = some s :=
  show runC (init1 range nbrs) as = some s from runC_of_runL h

theorem runIn_length {as : List Act} : ∀ {s s' : State}, runIn s as = some s' → s'.insts.length = s.insts.length := by
  induction as with
  | nil => intro s s' h; rw [← Option.some.inj h]
  | cons a as ih =>
    intro s s' h
    obtain ⟨hsc, s1, hs, h⟩ := runIn_cons.mp h
    rcases step_length hs with h1 | ⟨_, _, _, _, rfl⟩ | ⟨_, _, _, _, _, _, rfl⟩
    · rw [ih h, h1]
    · cases hsc
    · cases hsc

/-- what a step can do to instance `j`: it keeps its lineage label, new tables of its level list have unused names,
new checkpoints capture the level list it had, names stay used -/
structure Frame (s s' : State) (j : Nat) (x : Inst) : Prop where
  used : ∀ u ∈ s.used, u ∈ s'.used
  inst : ∃ x', s'.insts[j]? = some x' ∧ x'.lin = x.lin ∧ (∀ t ∈ x'.current, t ∈ x.current ∨ t.uri ∉ s.used) ∧
    (∀ c ∈ x'.ckpts, c ∈ x.ckpts ∨ c.tables = x.current)

theorem frame_same {s s' : State} {j : Nat} {x : Inst} (hu : ∀ u ∈ s.used, u ∈ s'.used)
    (hj : s'.insts[j]? = some x) : Frame s s' j x :=
  ⟨hu, x, hj, rfl, fun _ ht => Or.inl ht, fun _ hc => Or.inl hc⟩

theorem frame_set {s s' : State} {i j : Nat} {xi y x : Inst} (hi : s.insts[i]? = some xi)
    (hj : s.insts[j]? = some x) (hins : s'.insts = s.insts.set i y) (hlin : y.lin = xi.lin)
    (hu : ∀ u ∈ s.used, u ∈ s'.used) (hcur : ∀ t ∈ y.current, t ∈ xi.current ∨ t.uri ∉ s.used)
    (hck : ∀ c ∈ y.ckpts, c ∈ xi.ckpts ∨ c.tables = xi.current) : Frame s s' j x := by
  by_cases h : i = j
  · subst h
    cases hi.symm.trans hj
    exact ⟨hu, y, by rw [hins]; exact get_set_self hi, hlin, hcur, hck⟩
  · exact frame_same hu (by rw [hins, get_set_other h]; exact hj)

theorem frame_quiet {s : State} {i j : Nat} {xi x : Inst} {sn : List (List Tbl)} {l : Life}
    (hi : s.insts[i]? = some xi) (hj : s.insts[j]? = some x) :
    Frame s (setInst s i { xi with snaps := sn, life := l }) j x :=
  frame_set hi hj rfl rfl (fun _ hu => hu) (fun _ ht => Or.inl ht) (fun _ hc => Or.inl hc)

theorem step_frame {s s' : State} {a : Act} {j : Nat} {x : Inst} (h : step s a = some s')
    (hj : s.insts[j]? = some x) : Frame s s' j x := by
  cases a with
  | openFresh r g n d =>
    rw [step_openFresh h]
    exact frame_same (fun _ hu => hu) (get_append_old hj)
  | openFrom r g n ws id d =>
    obtain ⟨_, _, _, _, rfl⟩ := step_openFrom h
    exact frame_same (fun _ hu => hu) (get_append_old hj)
  | jobAbandon id => rw [step_jobAbandon h]; exact frame_same (fun _ hu => hu) hj
  | jobDrop k => rw [step_jobDrop h]; exact frame_same (fun _ hu => hu) hj
  | redeployFailed i =>
    obtain ⟨_, _, _, rfl⟩ := step_redeployFailed h
    exact frame_same (fun _ hu => hu) hj
  | lateWrite i t =>
    obtain ⟨_, _, _, rfl⟩ := step_lateWrite h
    exact frame_same (fun _ hu => List.mem_cons_of_mem _ hu) hj
  | flush i t =>
    obtain ⟨xi, hi, _, hfresh, rfl⟩ := step_flush h
    refine frame_set hi hj rfl rfl (fun _ hu => List.mem_cons_of_mem _ hu) ?_ (fun _ hc => Or.inl hc)
    intro t' ht'
    rcases List.mem_cons.mp ht' with rfl | ht'
    · exact Or.inr hfresh
    · exact Or.inl ht'
  | compact i rm add =>
    obtain ⟨xi, hi, _, hfresh, rfl⟩ := step_compact h
    refine frame_set hi hj rfl rfl (fun _ hu => List.mem_append_right _ hu) ?_ (fun _ hc => Or.inl hc)
    intro t' ht'
    rcases List.mem_append.mp ht' with ht' | ht'
    · exact Or.inl (mem_dropTables ht')
    · exact Or.inr (allFresh_not_mem hfresh _ (List.mem_map.mpr ⟨t', ht', rfl⟩))
  | ckpt i id wal =>
    obtain ⟨xi, hi, _, _, _, _, _, rfl⟩ := step_ckpt h
    refine frame_set hi hj rfl rfl (fun _ hu => hu) (fun _ ht => Or.inl ht) ?_
    intro c hc
    rcases List.mem_append.mp hc with hc | hc
    · exact Or.inl hc
    · exact Or.inr (by rw [List.mem_singleton.mp hc])
  | retain i ids =>
    obtain ⟨xi, hi, _, rfl⟩ := step_retain h
    exact frame_set hi hj rfl rfl (fun _ hu => hu) (fun _ ht => Or.inl ht) (fun c hc => Or.inl (mem_keptOf.mp hc).1)
  | snap i => obtain ⟨xi, hi, _, rfl⟩ := step_snap h; exact frame_quiet hi hj
  | unsnap i k => obtain ⟨xi, hi, _, rfl⟩ := step_unsnap h; exact frame_quiet hi hj
  | crash i => obtain ⟨xi, hi, _, rfl⟩ := step_crash h; exact frame_quiet hi hj
  | release i => obtain ⟨xi, hi, _, rfl⟩ := step_release h; exact frame_quiet hi hj
  | collect i u answers =>
    obtain ⟨xi, hi, _, cr, ld, del, rfl, _⟩ := step_collect h
    exact frame_set hi hj rfl rfl (fun _ hu => hu) (fun _ ht => Or.inl ht) (fun _ hc => Or.inl hc)

/-- the table is not in the instance's live level list (and its name is taken, so it can never come back) -/
def NotLive (s : State) (j : Nat) (u : Path) : Prop :=
  ∃ x, s.insts[j]? = some x ∧ u ∈ s.used ∧ u ∉ uris x.current

def NotNeeded (s : State) (j : Nat) (u : Path) : Prop :=
  ∃ x, s.insts[j]? = some x ∧ u ∈ s.used ∧ u ∉ uris x.current ∧ ∀ c ∈ x.ckpts, u ∉ uris c.tables

theorem step_notLive {s s' : State} {a : Act} {j : Nat} {u : Path} (h : step s a = some s')
    (p : NotLive s j u) : NotLive s' j u := by
  obtain ⟨x, hx, hu, hn⟩ := p
  obtain ⟨hused, x', hx', _, hcur, _⟩ := step_frame h hx
  refine ⟨x', hx', hused u hu, ?_⟩
  intro hm
  obtain ⟨t, ht, rfl⟩ := List.mem_map.mp hm
  rcases hcur t ht with h1 | h1
  · exact hn (List.mem_map.mpr ⟨t, h1, rfl⟩)
  · exact h1 hu

theorem step_notNeeded {s s' : State} {a : Act} {j : Nat} {u : Path} (h : step s a = some s')
    (p : NotNeeded s j u) : NotNeeded s' j u := by
  obtain ⟨x, hx, hu, hn, hc⟩ := p
  obtain ⟨x', hx', hu', hn'⟩ := step_notLive h ⟨x, hx, hu, hn⟩
  obtain ⟨_, x'', hx'', _, _, hck⟩ := step_frame h hx
  rw [hx'] at hx''; injection hx'' with hx''; subst hx''
  refine ⟨x', hx', hu', hn', ?_⟩
  intro c hcm
  rcases hck c hcm with h1 | h1
  · exact hc c h1
  · rw [h1]; exact hn

theorem run_notLive {as : List Act} {s s' : State} {j : Nat} {u : Path} (h : run s as = some s')
    (p : NotLive s j u) : NotLive s' j u :=
  run_preserves (P := fun s => NotLive s j u) step_notLive h p

theorem run_notNeeded {as : List Act} {s s' : State} {j : Nat} {u : Path} (h : run s as = some s')
    (p : NotNeeded s j u) : NotNeeded s' j u :=
  run_preserves (P := fun s => NotNeeded s j u) step_notNeeded h p

/-- why a collection may delete the file of table `u` -/
def CollectJustified (x : Inst) (u : Path) (answers : List Ans) : Prop :=
  x.unreachable u = true ∧
    (u ∈ x.created ∨ ∃ t ∈ x.loaded, t.uri = u ∧
      (Gen.kgContains x.range t.span = true ∨
        ∀ ra ∈ x.nbrs.zip answers, Gen.kgOverlaps ra.1 t.span = true → ra.2 = .no))

/-- why a step may remove WAL file `v` -/
def WalRemoval (s : State) (a : Act) (v : Wal) : Prop :=
  (∃ i id wal, a = .ckpt i id wal ∧ wal.same v = true) ∨
  (∃ i ids x, a = .retain i ids ∧ s.insts[i]? = some x ∧
    ∃ c ∈ x.ckpts, keeps ids c = false ∧ ∃ w ∈ c.wals, w.same v = true)

theorem step_removes {s s' : State} {a : Act} {f : File} (h : step s a = some s')
    (hin : f ∈ s.files) (hout : f ∉ s'.files) :
    (∃ u, f = .sst u ∧
      ((∃ i answers x, a = .collect i u answers ∧ s.insts[i]? = some x ∧ CollectJustified x u answers) ∨
       (∃ i t, a = .lateWrite i t ∧ t.uri = u))) ∨
    (∃ v, f = .wal v ∧ WalRemoval s a v) := by
  cases a with
  | openFresh r g n d => rw [step_openFresh h] at hout; exact absurd hin hout
  | openFrom r g n ws id d => obtain ⟨_, _, _, _, rfl⟩ := step_openFrom h; exact absurd hin hout
  | jobAbandon id => rw [step_jobAbandon h] at hout; exact absurd hin hout
  | jobDrop k => rw [step_jobDrop h] at hout; exact absurd hin hout
  | flush i t => obtain ⟨_, _, _, _, rfl⟩ := step_flush h; exact absurd (List.mem_cons_of_mem _ hin) hout
  | compact i rm add =>
    obtain ⟨_, _, _, _, rfl⟩ := step_compact h; exact absurd (List.mem_append_right _ hin) hout
  | snap i => obtain ⟨_, _, _, rfl⟩ := step_snap h; exact absurd hin hout
  | unsnap i k => obtain ⟨_, _, _, rfl⟩ := step_unsnap h; exact absurd hin hout
  | crash i => obtain ⟨_, _, _, rfl⟩ := step_crash h; exact absurd hin hout
  | release i => obtain ⟨_, _, _, rfl⟩ := step_release h; exact absurd hin hout
  | redeployFailed i => obtain ⟨_, _, _, rfl⟩ := step_redeployFailed h; exact absurd hin hout
  | lateWrite i t =>
    obtain ⟨_, _, _, rfl⟩ := step_lateWrite h
    by_cases hf : f = .sst t.uri
    · exact Or.inl ⟨t.uri, hf, Or.inr ⟨i, t, rfl, rfl⟩⟩
    · exact absurd (List.mem_cons_of_mem _ (mem_rmFile.mpr ⟨hin, hf⟩)) hout
  | ckpt i id wal =>
    obtain ⟨_, _, _, _, _, _, _, rfl⟩ := step_ckpt h
    obtain ⟨v, hf, hsm⟩ := Classical.not_not.mp fun hn => hout (List.mem_cons_of_mem _ (mem_clobber.mpr ⟨hin, hn⟩))
    exact Or.inr ⟨v, hf, Or.inl ⟨i, id, wal, rfl, hsm⟩⟩
  | retain i ids =>
    obtain ⟨x, hx, _, rfl⟩ := step_retain h
    obtain ⟨c, hc, hk, w, hwc, v, hf, hsm⟩ := Classical.not_not.mp fun hn => hout (mem_rmWals_dropped.mpr ⟨hin, hn⟩)
    exact Or.inr ⟨v, hf, Or.inr ⟨i, ids, x, rfl, hx, c, hc, hk, w, hwc, hsm⟩⟩
  | collect i u answers =>
    obtain ⟨x, hx, _⟩ := step_collect h
    obtain ⟨hun, hkeep, _, hwhy⟩ := collect_effect hx h
    by_cases hf : f = .sst u
    · subst hf
      refine Or.inl ⟨u, rfl, Or.inl ⟨i, answers, x, rfl, hx, hun, ?_⟩⟩
      rcases hwhy hin hout with hc | ⟨t, ht, htu, hd⟩
      · exact Or.inl hc
      · exact Or.inr ⟨t, ht, htu, decision_delete_cases _ _ _ hd⟩
    · exact absurd (hkeep _ hin hf) hout

theorem run_removes_sst {as : List Act} {s s' : State} {u : Path} (h : run s as = some s')
    (hin : File.sst u ∈ s.files) (hout : File.sst u ∉ s'.files) :
    (∃ pre i answers post sm x, as = pre ++ Act.collect i u answers :: post ∧ run s pre = some sm ∧
      sm.insts[i]? = some x ∧ CollectJustified x u answers) ∨
    (∃ pre i t post, as = pre ++ Act.lateWrite i t :: post ∧ t.uri = u) := by
  obtain ⟨pre, a, post, sm, sm', has, hpre, hs, h1, h2⟩ := run_first_loss (P := fun s => File.sst u ∈ s.files) h hin hout
  rcases step_removes hs h1 h2 with ⟨u', he, hwhy⟩ | ⟨v, he, _⟩
  · cases he
    rcases hwhy with ⟨i, answers, x, rfl, hx, hj⟩ | ⟨i, t, rfl, htu⟩
    · exact Or.inl ⟨pre, i, answers, post, sm, x, has, hpre, hx, hj⟩
    · exact Or.inr ⟨pre, i, t, post, has, htu⟩
  · cases he

theorem run_removes_wal {as : List Act} {s s' : State} {v : Wal} (h : run s as = some s')
    (hin : File.wal v ∈ s.files) (hout : File.wal v ∉ s'.files) :
    ∃ pre a post sm, as = pre ++ a :: post ∧ run s pre = some sm ∧ WalRemoval sm a v := by
  obtain ⟨pre, a, post, sm, sm', has, hpre, hs, h1, h2⟩ := run_first_loss (P := fun s => File.wal v ∈ s.files) h hin hout
  rcases step_removes hs h1 h2 with ⟨_, he, _⟩ | ⟨v', he, hw⟩
  · cases he
  · cases he
    exact ⟨pre, a, post, sm, has, hpre, hw⟩

end Rxn.Files
