import RxnModel.Proofs.TimersFire
/-! The timer registry (any cache size, any reload pattern) refines the set-based specification `Spec`. -/
namespace Rxn.Timers
open Rxn Rxn.Bytes

theorem put_spec (s : Store) (hs : SInv s) (subj : Bytes) (t : Int) (ho : s.owns subj = true) :
    StoreStep s (s.put subj t) (sinsert (Keys.timerKey s.kgc subj (encTs t)) s.db) ∧
    s.ownsKey (Keys.timerKey s.kgc subj (encTs t)) := by
  rw [owns_iff] at ho
  have hjl : KeySpace.keyGroup s.kgc subj - s.start < s.parts.length := by omega
  have hown : s.ownsKey (Keys.timerKey s.kgc subj (encTs t)) := by
    refine (ownsKey_iff_idx hs _).mpr ⟨KeySpace.keyGroup s.kgc subj - s.start, hjl, ?_⟩
    rw [show s.start + (KeySpace.keyGroup s.kgc subj - s.start) = KeySpace.keyGroup s.kgc subj by omega]
    exact timerKey_prefix s.kgc subj (encTs t)
  obtain ⟨hin, hp⟩ := partIdx_of_owns s hs _ hown
  exact ⟨pushKey_spec s hs _ hin hp, hown⟩

/-- simulation relation between the implementation model and the specification -/
structure Rel (r : Registry) (sp : Spec) : Prop where
  inv : SInv r.store
  ups : r.ups = sp.ups
  wm : r.wm = sp.wm
  wf : ∀ k ∈ r.store.timerKeys, WF r.store.kgc k
  pend : ∀ p, p ∈ sp.pending ↔ ∃ k ∈ r.store.timerKeys, timerOf k = p
  nodup : sp.pending.Nodup

theorem Rel.filter {r : Registry} {sp : Spec} (h : Rel r sp) {store' : Store} (hinv : SInv store')
    (hkgc : store'.kgc = r.store.kgc) (p : Bytes × Int → Bool)
    (hkeys : ∀ x, x ∈ store'.timerKeys ↔ (x ∈ r.store.timerKeys ∧ p (timerOf x) = true))
    {ups ups' : Wm.Ups} {wm wm' : Int} (hu : ups = ups') (hw : wm = wm') :
    Rel ⟨store', ups, wm⟩ ⟨sp.pending.filter p, ups', wm'⟩ := by
  refine ⟨hinv, hu, hw, ?_, ?_, List.Pairwise.filter _ h.nodup⟩
  · intro k hk
    show WF store'.kgc k
    rw [hkgc]; exact h.wf k ((hkeys k).mp hk).1
  · intro q
    show q ∈ sp.pending.filter p ↔ ∃ k ∈ store'.timerKeys, timerOf k = q
    rw [List.mem_filter, h.pend q]
    constructor
    · rintro ⟨⟨k, hk, rfl⟩, hp⟩; exact ⟨k, (hkeys k).mpr ⟨hk, hp⟩, rfl⟩
    · rintro ⟨k, hk, rfl⟩; exact ⟨⟨k, ((hkeys k).mp hk).1, rfl⟩, ((hkeys k).mp hk).2⟩

theorem Rel.of_keys {r : Registry} {sp : Spec} (h : Rel r sp) {store' : Store} (hinv : SInv store')
    (hkgc : store'.kgc = r.store.kgc) (hkeys : ∀ x, x ∈ store'.timerKeys ↔ x ∈ r.store.timerKeys)
    {ups ups' : Wm.Ups} {wm wm' : Int} (hu : ups = ups') (hw : wm = wm') :
    Rel ⟨store', ups, wm⟩ ⟨sp.pending, ups', wm'⟩ := by
  have := h.filter hinv hkgc (fun _ => true) (fun x => by rw [hkeys x]; simp) hu hw
  rwa [List.filter_eq_self.mpr fun _ _ => rfl] at this

theorem Rel.earliest_le {r : Registry} {sp : Spec} (h : Rel r sp) {k : Bytes} (he : r.store.earliest = some k) :
    k ∈ r.store.timerKeys ∧ ∀ p ∈ sp.pending, (timerOf k).2 ≤ p.2 := by
  obtain ⟨hk, hmin⟩ := (earliest_spec r.store h.inv).2 k he
  refine ⟨hk, fun p hp => ?_⟩
  obtain ⟨x, hx, rfl⟩ := (h.pend p).mp hp
  exact (leTs_iff (h.wf k hk) (h.wf x hx)).mp (hmin x hx)

theorem Rel.pending_nil {r : Registry} {sp : Spec} (h : Rel r sp) (he : r.store.earliest = none) : sp.pending = [] := by
  apply List.eq_nil_iff_forall_not_mem.mpr
  intro p hp
  obtain ⟨x, hx, _⟩ := (h.pend p).mp hp
  rw [(earliest_spec r.store h.inv).1 he] at hx
  cases hx

theorem Rel.pending_length_le {r : Registry} {sp : Spec} (h : Rel r sp) : sp.pending.length ≤ r.store.db.length := by
  rw [← List.length_map (f := timerOf)]
  apply List.Nodup.length_le_of_subset h.nodup
  intro p hp
  obtain ⟨x, hx, hxp⟩ := (h.pend p).mp hp
  exact List.mem_map.mpr ⟨x, ((mem_timerKeys _ x).mp hx).1, hxp⟩

theorem Rel.of_sinv {s : Store} (hs : SInv s) (hwf : ∀ k ∈ s.timerKeys, WF s.kgc k) (ups : Wm.Ups) (wm : Int) :
    Rel ⟨s, ups, wm⟩ ⟨s.timerKeys.map timerOf, ups, wm⟩ :=
  ⟨hs, rfl, rfl, hwf, fun _ => List.mem_map,
    nodup_map_of_inj_on _ _ (timerKeys_nodup hs) fun a ha b hb hab => wf_inj (hwf a ha) (hwf b hb) hab⟩

theorem Spec.setTimer_idem (sp : Spec) (k : Bytes) (t : Int) : (sp.setTimer k t).setTimer k t = sp.setTimer k t := by
  unfold Spec.setTimer
  by_cases h : t > sp.wm ∧ (k, t) ∉ sp.pending
  · rw [if_pos h, if_neg fun h' => h'.2 List.mem_cons_self]
  · rw [if_neg h, if_neg h]

theorem setTimer_ignored {r : Registry} {sp : Spec} (h : Rel r sp) (subj : Bytes) {t : Int} (ht : t ≤ r.wm) :
    r.setTimer subj t = r ∧ sp.setTimer subj t = sp := by
  unfold Registry.setTimer Spec.setTimer
  rw [if_pos ((Wm.timerGuard_iff _ _).mpr ht), if_neg fun hh => Int.not_lt.mpr (h.wm ▸ ht) hh.1]
  exact ⟨rfl, rfl⟩

/-- `SetTimer`, for timestamps in `[0, 2^63)`, where the key codec is faithful -/
theorem setTimer_refines (r : Registry) (sp : Spec) (kgc start stop : Nat) (h : Rel r sp)
    (hsh : Shape r.store kgc start stop) (subj : Bytes) (t : Int) (hv : (ROp.set subj t).valid kgc start stop) :
    Rel (r.setTimer subj t) (sp.setTimer subj t) ∧ Shape (r.setTimer subj t).store kgc start stop := by
  obtain ⟨v1, v2, h0, h1⟩ := hv
  by_cases hgt : t > sp.wm
  case neg =>
    obtain ⟨er, es⟩ := setTimer_ignored h subj (h.wm ▸ Int.not_lt.mp hgt)
    rw [er, es]
    exact ⟨h, hsh⟩
  unfold Registry.setTimer Spec.setTimer
  rw [if_neg fun hg => Int.not_le.mpr hgt (h.wm ▸ (Wm.timerGuard_iff r.wm t).mp hg)]
  obtain ⟨hstep, hown⟩ := put_spec r.store h.inv subj t (owns_of_valid hsh subj v1 v2)
  refine ⟨?_, hsh.of_step hstep⟩
  have hkeys : ∀ x, x ∈ (r.store.put subj t).timerKeys ↔
      (x = Keys.timerKey r.store.kgc subj (encTs t) ∨ x ∈ r.store.timerKeys) := by
    intro x
    rw [mem_timerKeys_step h.inv hstep, mem_timerKeys, mem_sinsert]
    constructor
    · rintro ⟨a | a, b⟩
      · exact Or.inl a
      · exact Or.inr ⟨a, b⟩
    · rintro (a | ⟨a, b⟩)
      · exact ⟨Or.inl a, a ▸ hown⟩
      · exact ⟨Or.inr a, b⟩
  have hdec := timerOf_timerKey r.store.kgc subj t h0 h1
  -- whichever branch the specification takes, its pending set is the old one with `(subj, t)`, without duplicates
  suffices hsp : ∀ pending', (∀ p, p ∈ pending' ↔ p = (subj, t) ∨ p ∈ sp.pending) → pending'.Nodup →
      Rel { r with store := r.store.put subj t } { sp with pending := pending' } by
    by_cases hin : (subj, t) ∈ sp.pending
    · rw [if_neg (fun hh => hh.2 hin)]
      exact hsp sp.pending (fun p => ⟨Or.inr, fun e => e.elim (fun e => e ▸ hin) id⟩) h.nodup
    · rw [if_pos ⟨hgt, hin⟩]
      exact hsp _ (fun p => List.mem_cons) (List.nodup_cons.mpr ⟨hin, h.nodup⟩)
  intro pending' hp hnd
  refine ⟨hstep.inv, h.ups, h.wm, fun k hk => ?_, fun p => ?_, hnd⟩
  · show WF (r.store.put subj t).kgc k
    rw [hstep.kgc]
    rcases (hkeys k).mp hk with e | e
    · rw [e]; exact wf_timerKey _ _ _ h0 h1
    · exact h.wf k e
  · show p ∈ pending' ↔ ∃ k ∈ (r.store.put subj t).timerKeys, timerOf k = p
    rw [hp p, h.pend p]
    constructor
    · rintro (e | ⟨k, hk, e⟩)
      · exact ⟨_, (hkeys _).mpr (Or.inl rfl), hdec.trans e.symm⟩
      · exact ⟨k, (hkeys k).mpr (Or.inr hk), e⟩
    · rintro ⟨k, hk, e⟩
      rcases (hkeys k).mp hk with e' | e'
      · left; rw [e', hdec] at e; exact e.symm
      · right; exact ⟨k, e', e⟩

theorem advance_refines (r : Registry) (sp : Spec) (kgc start stop : Nat) (h : Rel r sp)
    (hsh : Shape r.store kgc start stop) (sender : String) (wm : Int) :
    Rel (r.advance sender wm).1 (sp.advance sender wm).1 ∧ Shape (r.advance sender wm).1.store kgc start stop ∧
    (r.advance sender wm).2.Perm (sp.advance sender wm).2 ∧
    (r.advance sender wm).2.Pairwise (fun a b => a.2 ≤ b.2) ∧
    (r.advance sender wm).2.Nodup := by
  unfold Registry.advance Spec.advance
  rw [← h.ups]
  dsimp only
  generalize hcomp : (r.ups.report sender wm).2 = comp
  generalize hups : (r.ups.report sender wm).1 = ups'
  obtain ⟨keys, f⟩ := fireLoop_spec comp (r.store.db.length + 1) r.store h.inv (Nat.lt_succ_self _)
  -- a due key left over would contradict the loop's stop condition
  have hkeys : ∀ k, k ∈ keys ↔ k ∈ r.store.timerKeys ∧ (timerOf k).2 ≤ comp := by
    intro k
    haveI := lawfulBEq_bytes
    refine ⟨f.due k, fun ⟨hk, hdue⟩ => Decidable.byContradiction fun hin => ?_⟩
    have hrem := (f.remaining k).mpr ⟨hk, hin⟩
    rcases f.stopped with e | ⟨k1, e, hgt⟩
    · rw [(earliest_spec _ f.inv).1 e] at hrem; cases hrem
    · obtain ⟨hk1, hmin⟩ := (earliest_spec _ f.inv).2 k1 e
      have := (leTs_iff (h.wf k1 ((f.remaining k1).mp hk1).1) (h.wf k hk)).mp (hmin k hrem)
      omega
  have hwfk : ∀ k ∈ keys, WF r.store.kgc k := fun k hk => h.wf k ((hkeys k).mp hk).1
  have hfired_nodup : (keys.map timerOf).Nodup :=
    nodup_map_of_inj_on _ _ f.nodup fun a ha b hb hab => wf_inj (hwfk a ha) (hwfk b hb) hab
  refine ⟨?_, f.shape hsh, ?_, ?_, by rw [f.fired]; exact hfired_nodup⟩
  · refine h.filter f.inv f.kgc (fun p => decide (p.2 > comp)) (fun k => ?_) rfl rfl
    rw [f.remaining k, hkeys k, decide_eq_true_eq]
    constructor
    · rintro ⟨hk, hn⟩; exact ⟨hk, Int.lt_of_not_ge fun hle => hn ⟨hk, hle⟩⟩
    · rintro ⟨hk, hgt⟩; exact ⟨hk, fun hh => absurd hh.2 (Int.not_le.mpr hgt)⟩
  · rw [f.fired]
    apply (List.perm_ext_iff_of_nodup hfired_nodup (List.Pairwise.filter _ h.nodup)).mpr
    intro p
    simp only [List.mem_map, List.mem_filter, decide_eq_true_eq, hkeys, h.pend p]
    constructor
    · rintro ⟨k, ⟨hk, hd⟩, rfl⟩; exact ⟨⟨k, hk, rfl⟩, hd⟩
    · rintro ⟨⟨k, hk, rfl⟩, hd⟩; exact ⟨k, ⟨hk, hd⟩, rfl⟩
  · rw [f.fired]
    rw [List.pairwise_map]
    refine List.Pairwise.imp_of_mem ?_ f.ordered
    intro a b ha hb hab
    exact (leTs_iff (hwfk a ha) (hwfk b hb)).mp hab

/-- a registry freshly built over any DB content (construction; restore from a checkpoint) stands for exactly the timers
whose keys are in the DB, for every cache size -/
theorem rel_new (db : DB) (hdb : Sorted db) (kgc start stop maxCache : Nat) (ids : List String)
    (hss : start ≤ stop) (hstop : stop ≤ 65536)
    (hwf : ∀ k ∈ (Store.new db kgc start stop maxCache).timerKeys, WF kgc k) :
    Rel (Registry.new (Store.new db kgc start stop maxCache) ids)
      ⟨((Store.new db kgc start stop maxCache).timerKeys.map timerOf), Wm.Ups.init ids, Wm.regInit⟩ :=
  Rel.of_sinv (sinv_new db hdb kgc start stop maxCache hss hstop) hwf _ _

theorem rel_init (kgc start stop maxCache : Nat) (ids : List String) (hss : start ≤ stop) (hstop : stop ≤ 65536) :
    Rel (Registry.new (Store.new [] kgc start stop maxCache) ids) (Spec.new ids) := by
  have hempty : (Store.new [] kgc start stop maxCache).timerKeys = [] := List.flatMap_eq_nil_iff.mpr fun _ _ => rfl
  have := rel_new [] Sorted.nil kgc start stop maxCache ids hss hstop (by rw [hempty]; nofun)
  rwa [hempty] at this

end Rxn.Timers
