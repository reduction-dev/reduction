import RxnModel.Proofs.RescaleInv
import RxnModel.Proofs.CkptInv
/-!
Bridge between C08 and C06: the document a restoring instance reads from a checkpoint captured by `DB.Checkpoint`
(`Ckpt.capture`, C08) is a `Rescale.Ckpt` (`ofCapture`); its last WAL record for a key is the one C08's fold `lastW` finds,
from which `C06.ckptAnswer_is_state_at_checkpoint` reads off that `ckptAnswer` is the instance's answer at the call.
-/
namespace Rxn.Rescale
open Rxn Lsm

/-- a logged record of C08 as the restoring instance's WAL reader yields it -/
def recWal (r : Wal.Rec) : WalEntry := ⟨r.key, r.del, r.val⟩

/-- what `LoadCheckpointList` / the WAL reader obtain from a checkpoint record of C08: its level list and the logged
records after `Handle.After` (`C08.walRead_spec`) -/
def ofCapture (c : Ckpt.Ckpt) : Ckpt :=
  ⟨c.levels, (c.recs.filter (fun r => decide (c.after < r.seq))).map recWal⟩

theorem walLast_lastW (ws : List Wal.Rec) (k : Bytes) :
    (walLast (ws.map recWal) k).map (fun w => (w.del, w.val)) =
      (Ckpt.lastW none ws k).map (fun e => (e.del, e.val)) := by
  -- both sides are the last record for `k`, projected before or after the fold
  rw [walLast_eq_lastBy, Ckpt.lastW_eq, lastBy_map, lastBy_comp (Option.map _),
    lastBy_comp (Option.map _)]
  rfl

end Rxn.Rescale
