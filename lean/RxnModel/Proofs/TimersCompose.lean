import RxnModel.Props.C07
import RxnModel.Proofs.SortedBytes
/-!
Composition of C10's timer model with C07's DKV theorems: the sorted duplicate-free key list with prefix scan that
`Model/Timers.lean` uses for the DKV (`Timers.DB`) is the image under `dbOf` (the keys the code's `ScanPrefix("")` returns)
of every LSM state with C07's invariants: every reachable state, and every restored instance. Rests on `Lsm.scanR_spec`
(what `C07.scan_code_returns_live_keys` is at a reachable state), `Lsm.step_inv_ordered` and `C07.spec_last_write_wins`.
-/
namespace Rxn.Timers
open Rxn Rxn.Lsm

/-- the key set of an LSM state as the timer store sees it -/
def dbOf (s : Lsm.State) : DB := (Rescale.scanR s []).map (·.key)

/-- memtable rotation, flush begin/commit/abort, compaction commit and the read phases leave the specification map as it is -/
theorem specStep_of_not_write (m : Lsm.Spec) (seq : Nat) (a : Act) (hp : ∀ k v, a ≠ .put k v) (hd : ∀ k, a ≠ .del k) :
    specStep m seq a = m := by
  cases a with
  | put k v => exact absurd rfl (hp k v)
  | del k => exact absurd rfl (hd k)
  | _ => rfl

section invariants
variable {s : Lsm.State} {m : Lsm.Spec} (hi : Inv s m) (hr : ReadInv s m) (ho : DeepOrdered s)
include hi hr ho

omit hr in
theorem mem_dbOf (x : Bytes) :
    x ∈ dbOf s ↔ ∃ e, Lsm.Spec.get m x = some e ∧ e.del = false ∧ e.key = x := by
  obtain ⟨_, hmem⟩ := scanR_spec hi ho []
  unfold dbOf
  rw [List.mem_map]
  constructor
  · rintro ⟨e, he, hk⟩
    obtain ⟨h1, h2, _⟩ := (hmem e).mp he
    exact ⟨e, by rw [← hk]; exact h1, h2, hk⟩
  · rintro ⟨e, h1, h2, hk⟩
    exact ⟨e, (hmem e).mpr ⟨by rw [hk]; exact h1, h2, by simp⟩, hk⟩

omit hr in
theorem dbOf_sorted : Sorted (dbOf s) :=
  List.pairwise_map.mpr (scanR_spec hi ho []).1

omit hr in
/-- the code's `ScanPrefix(p)` returns exactly `DB.scan` of the key set -/
theorem scan_bridge (p : Bytes) :
    (Rescale.scanR s p).map (·.key) = DB.scan (dbOf s) p := by
  obtain ⟨hs, hmem⟩ := scanR_spec hi ho p
  apply sorted_ext
  · exact List.pairwise_map.mpr hs
  · exact (dbOf_sorted hi ho).filter _
  · intro x
    simp only [DB.scan, List.mem_filter, List.mem_map]
    rw [mem_dbOf hi ho x]
    constructor
    · rintro ⟨e, he, hk⟩
      obtain ⟨h1, h2, h3⟩ := (hmem e).mp he
      exact ⟨⟨e, by rw [← hk]; exact h1, h2, hk⟩, by rw [← hk]; exact h3⟩
    · rintro ⟨⟨e, h1, h2, hk⟩, hp⟩
      exact ⟨e, (hmem e).mpr ⟨by rw [hk]; exact h1, h2, by rw [hk]; exact hp⟩, hk⟩

/-- `DB.Put(k, v)` is `DB.put k` on the key set (the successor has the invariants again, so `mem_dbOf` applies to it) -/
theorem put_bridge (k v : Bytes) (s' : Lsm.State) (hs : step s (.put k v) = some s') : dbOf s' = DB.put (dbOf s) k := by
  obtain ⟨hi', hr', ho'⟩ := step_inv_ordered _ hi hr ho hs
  apply sorted_ext (dbOf_sorted hi' ho') (sinsert_sorted k _ (dbOf_sorted hi ho))
  intro x
  show _ ↔ x ∈ sinsert k (dbOf s)
  rw [mem_dbOf hi' ho' x, mem_sinsert, mem_dbOf hi ho x, (C07.spec_last_write_wins m s.seq k v x).1]
  by_cases hk : k = x
  · subst hk
    simp
  · have hk' : ¬ x = k := fun e => hk e.symm
    simp [hk, hk']

theorem delete_bridge (k : Bytes) (s' : Lsm.State) (hs : step s (.del k) = some s') : dbOf s' = DB.delete (dbOf s) k := by
  obtain ⟨hi', hr', ho'⟩ := step_inv_ordered _ hi hr ho hs
  apply sorted_ext (dbOf_sorted hi' ho') ((dbOf_sorted hi ho).erase k)
  intro x
  show _ ↔ x ∈ (dbOf s).erase k
  rw [mem_dbOf hi' ho' x, mem_erase_sorted (dbOf_sorted hi ho), mem_dbOf hi ho x,
    (C07.spec_last_write_wins m s.seq k [] x).2]
  by_cases hk : k = x
  · subst hk
    simp
  · have hk' : ¬ x = k := fun e => hk e.symm
    simp [hk, hk']

/-- the background actions and the reads (`specStep_of_not_write`) leave the key set unchanged -/
theorem background_bridge (a : Act) (hw : specStep m s.seq a = m) (s' : Lsm.State) (hs : step s a = some s') : dbOf s' = dbOf s := by
  obtain ⟨hi', hr', ho'⟩ := hw ▸ step_inv_ordered _ hi hr ho hs
  apply sorted_ext (dbOf_sorted hi' ho') (dbOf_sorted hi ho)
  intro x
  rw [mem_dbOf hi' ho' x, mem_dbOf hi ho x]

end invariants

end Rxn.Timers
