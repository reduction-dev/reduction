import RxnModel.Proofs.Heap
/-! The index assigner: the `…I` heap functions act on the array exactly like the plain ones, and the stored
indices always equal the positions (and `-1` for a popped element). -/
namespace Rxn.HeapI
variable {α κ : Type} [DecidableEq κ]

theorem upI_fst (key : α → κ) (lt : α → α → Bool) (a : Array α) (s : κ → Int) (i : Nat) :
    (upI key lt a s i).1 = Heap.up lt a i := by
  fun_induction upI key lt a s i with
  | case1 => rw [Heap.up, dif_pos rfl]
  | case2 a s i h0 hi hlt ih => rw [Heap.up, dif_neg h0, dif_pos hi, if_pos hlt]; exact ih
  | case3 a s i h0 hi hlt => rw [Heap.up, dif_neg h0, dif_pos hi, if_neg hlt]
  | case4 a s i h0 hi => rw [Heap.up, dif_neg h0, dif_neg hi]

theorem downI_fst (key : α → κ) (lt : α → α → Bool) (a : Array α) (s : κ → Int) (i : Nat) :
    (downI key lt a s i).1.1 = (Heap.down lt a i).1 ∧ (downI key lt a s i).2 = (Heap.down lt a i).2 := by
  fun_induction downI key lt a s i with
  | case1 a s i hl hb hlt ih => rw [Heap.down, dif_pos hl, if_pos hlt]; exact ih
  | case2 a s i hl hb hlt => rw [Heap.down, dif_pos hl, if_neg hlt]; exact ⟨rfl, rfl⟩
  | case3 a s i hl => rw [Heap.down, dif_neg hl]; exact ⟨rfl, rfl⟩

theorem pushI_fst (key : α → κ) (lt : α → α → Bool) (a : Array α) (s : κ → Int) (x : α) :
    (pushI key lt a s x).1 = Heap.push lt a x := upI_fst key lt _ _ _

theorem popI_fst (key : α → κ) (lt : α → α → Bool) (a : Array α) (s : κ → Int) :
    (popI key lt a s).map (fun p => (p.1, p.2.1)) = Heap.pop lt a := by
  unfold popI Heap.pop
  by_cases h : 0 < a.size
  · rw [dif_pos h, dif_pos h]
    simp only [Option.map_some]
    by_cases hn : 0 < a.size - 1
    · simp only [hn, if_true]; rw [(downI_fst key lt _ _ 0).1]
    · simp only [hn, if_false]
  · rw [dif_neg h, dif_neg h]; rfl

theorem fixI_fst (key : α → κ) (lt : α → α → Bool) (a : Array α) (s : κ → Int) (i : Int) (hi : 0 ≤ i) :
    (fixI key lt a s i).1 = Heap.fix lt a i.toNat := by
  unfold fixI Heap.fix
  rw [if_neg (Int.not_lt.mpr hi)]
  dsimp only
  obtain ⟨h1, h2⟩ := downI_fst key lt a s i.toNat
  rw [h2]
  by_cases hm : (Heap.down lt a i.toNat).2 > i.toNat
  · rw [if_pos hm, if_pos hm]; exact h1
  · rw [if_neg hm, if_neg hm, upI_fst, h1]

/-- distinct identities, and every element's stored index is its position -/
structure Ok (key : α → κ) (a : Array α) (s : κ → Int) : Prop where
  inj : ∀ i j (hi : i < a.size) (hj : j < a.size), key a[i] = key a[j] → i = j
  pos : ∀ i (hi : i < a.size), s (key a[i]) = (i : Int)

omit [DecidableEq κ] in
theorem Ok.of_pos {key : α → κ} {a : Array α} {s : κ → Int} (h : ∀ i (hi : i < a.size), s (key a[i]) = (i : Int)) :
    Ok key a s := by
  refine ⟨fun i j hi hj e => ?_, h⟩
  have := h i hi
  rw [e, h j hj] at this
  exact (Int.ofNat.inj this).symm

omit [DecidableEq κ] in
theorem ok_empty (key : α → κ) (s : κ → Int) : Ok key #[] s := .of_pos fun _ hi => absurd hi (Nat.not_lt_zero _)

def Out (key : α → κ) (a : Array α) (k : κ) : Prop := ∀ i (h : i < a.size), key a[i] ≠ k

omit [DecidableEq κ] in
theorem out_iff {key : α → κ} {a : Array α} {k : κ} : Out key a k ↔ ∀ x ∈ a.toList, key x ≠ k := by
  constructor
  · intro h x hx
    obtain ⟨i, hi, e⟩ := Array.getElem_of_mem (Array.mem_toList_iff.mp hx)
    rw [← e]; exact h i hi
  · exact fun h i hi => h _ (Array.getElem_mem_toList hi)

omit [DecidableEq κ] in
theorem Out.of_perm {key : α → κ} {a a' : Array α} {k : κ} (h : Out key a k) (hp : a.toList.Perm a'.toList) :
    Out key a' k :=
  out_iff.mpr fun x hx => out_iff.mp h x (hp.symm.subset hx)

/-- Identities that are not in the heap have the index `b` gives them. No operation but `Pop` changes `b`
(`popI_ok`: `-1` at the popped identity), so "`-1` outside" (`b = fun _ => -1`) is an invariant of one state. -/
def Based (key : α → κ) (a : Array α) (s b : κ → Int) : Prop := ∀ k, Out key a k → s k = b k

theorem assign_self (key : α → κ) (s : κ → Int) (x : α) (n : Int) : assign key s x n (key x) = n := if_pos rfl

theorem assign_ne (key : α → κ) (s : κ → Int) (x : α) (n : Int) {k : κ} (h : k ≠ key x) : assign key s x n k = s k :=
  if_neg h

theorem swapI_ok (key : α → κ) (a : Array α) (s : κ → Int) (i j : Nat) (hi : i < a.size) (hj : j < a.size)
    (h : Ok key a s) {b : κ → Int} (hb : Based key a s b) :
    Ok key (swapI key a s i j hi hj).1 (swapI key a s i j hi hj).2 ∧
    Based key (swapI key a s i j hi hj).1 (swapI key a s i j hi hj).2 b := by
  have hbi : (a.swap i j hi hj)[i]'(by rw [Array.size_swap]; exact hi) = a[j] := Array.getElem_swap_left
  have hbj : (a.swap i j hi hj)[j]'(by rw [Array.size_swap]; exact hj) = a[i] := Array.getElem_swap_right
  constructor
  · apply Ok.of_pos
    intro k hk
    replace hk : k < (a.swap i j hi hj).size := hk
    have hk' : k < a.size := by rw [Array.size_swap] at hk; exact hk
    show assign key (assign key s _ _) _ _ (key ((a.swap i j hi hj)[k]'hk)) = _
    rw [hbi, hbj]
    by_cases hkj : k = j
    · subst hkj; rw [hbj, assign_self]
    · by_cases hki : k = i
      · subst hki
        rw [hbi, assign_ne _ _ _ _ (fun e => hkj (h.inj _ _ _ _ e).symm), assign_self]
      · rw [Array.getElem_swap_of_ne hki hkj, assign_ne _ _ _ _ (fun e => hki (h.inj _ _ _ _ e)),
          assign_ne _ _ _ _ (fun e => hkj (h.inj _ _ _ _ e))]
        exact h.pos k hk'
  · intro k hk
    have hk0 : Out key a k := hk.of_perm (Array.swap_perm hi hj).toList
    show assign key (assign key s _ _) _ _ k = _
    rw [hbi, hbj, assign_ne _ _ _ _ (fun e => hk0 i hi e.symm), assign_ne _ _ _ _ (fun e => hk0 j hj e.symm)]
    exact hb k hk0

theorem upI_ok (key : α → κ) (lt : α → α → Bool) (a : Array α) (s : κ → Int) (i : Nat) (h : Ok key a s)
    {b : κ → Int} (hb : Based key a s b) :
    Ok key (upI key lt a s i).1 (upI key lt a s i).2 ∧ Based key (upI key lt a s i).1 (upI key lt a s i).2 b := by
  fun_induction upI key lt a s i with
  | case2 a s i h0 hi hlt ih =>
    obtain ⟨o1, b1⟩ := swapI_ok key a s i _ hi _ h hb
    exact ih o1 b1
  | _ => exact ⟨h, hb⟩

theorem downI_ok (key : α → κ) (lt : α → α → Bool) (a : Array α) (s : κ → Int) (i : Nat) (h : Ok key a s)
    {b : κ → Int} (hb : Based key a s b) :
    Ok key (downI key lt a s i).1.1 (downI key lt a s i).1.2 ∧
    Based key (downI key lt a s i).1.1 (downI key lt a s i).1.2 b := by
  fun_induction downI key lt a s i with
  | case1 a s i hl hb' hlt ih =>
    obtain ⟨o1, b1⟩ := swapI_ok key a s i _ _ hb'.1 h hb
    exact ih o1 b1
  | _ => exact ⟨h, hb⟩

theorem fixI_ok (key : α → κ) (lt : α → α → Bool) (a : Array α) (s : κ → Int) (i : Int) (h : Ok key a s)
    {b : κ → Int} (hb : Based key a s b) :
    Ok key (fixI key lt a s i).1 (fixI key lt a s i).2 ∧ Based key (fixI key lt a s i).1 (fixI key lt a s i).2 b := by
  unfold fixI
  by_cases hi : i < 0
  · rw [if_pos hi]; exact ⟨h, hb⟩
  · rw [if_neg hi]
    dsimp only
    obtain ⟨o1, b1⟩ := downI_ok key lt a s i.toNat h hb
    split
    · exact ⟨o1, b1⟩
    · exact upI_ok key lt _ _ i.toNat o1 b1

theorem pushI_ok (key : α → κ) (lt : α → α → Bool) (a : Array α) (s : κ → Int) (x : α) (h : Ok key a s)
    {b : κ → Int} (hb : Based key a s b) (hfresh : Out key a (key x)) :
    Ok key (pushI key lt a s x).1 (pushI key lt a s x).2 ∧
    Based key (pushI key lt a s x).1 (pushI key lt a s x).2 b := by
  refine upI_ok key lt _ _ a.size (.of_pos fun i hi => ?_) fun k hk => ?_
  · rw [Array.getElem_push]
    split
    next h1 => rw [assign_ne _ _ _ _ (hfresh i h1)]; exact h.pos i h1
    next h1 =>
      rw [assign_self]
      rw [Array.size_push] at hi
      exact congrArg Int.ofNat (Nat.le_antisymm (Nat.le_of_not_lt h1) (Nat.le_of_lt_succ hi))
  · have hk' := out_iff.mp hk
    rw [Array.toList_push] at hk'
    rw [assign_ne _ _ _ _ (fun e => hk' x (List.mem_append_right _ (List.mem_singleton_self x)) e.symm)]
    exact hb k (out_iff.mpr fun y hy => hk' y (List.mem_append_left _ hy))

theorem popI_ok (key : α → κ) (lt : α → α → Bool) (a : Array α) (s : κ → Int) (h : Ok key a s)
    {b : κ → Int} (hb : Based key a s b) (x : α) (r : Array α × (κ → Int)) (hp : popI key lt a s = some (x, r)) :
    Ok key r.1 r.2 ∧ Based key r.1 r.2 (assign key b x (-1)) := by
  unfold popI at hp
  by_cases h0 : 0 < a.size
  · rw [dif_pos h0] at hp
    simp only [Option.some.injEq, Prod.mk.injEq] at hp
    obtain ⟨hx, hr⟩ := hp
    subst hx
    have hlast : a.size - 1 < a.size := Nat.sub_lt h0 Nat.one_pos
    -- what is outside the truncated array is the popped element or was outside before
    have hb1 : ∀ s', (∀ k, k ≠ key a[0] → Out key a k → s' k = s k) → s' (key a[0]) = -1 →
        Based key ((a.set 0 (a[a.size - 1]'hlast)).pop) s' (assign key b a[0] (-1)) := by
      intro s' hs' hs0 k hk
      by_cases hk0 : k = key a[0]
      · rw [hk0, assign_self, hs0]
      · have hka : Out key a k := by
          refine out_iff.mpr fun y hy => ?_
          rcases List.mem_cons.mp ((Heap.pop_perm a h0).subset hy) with e | e
          · exact fun e' => hk0 (e'.symm.trans (congrArg key e))
          · exact out_iff.mp hk y e
        rw [assign_ne _ _ _ _ hk0, hs' k hk0 hka, hb k hka]
    by_cases hn : 0 < a.size - 1
    · rw [if_pos hn, if_pos hn] at hr
      have hne : ∀ i j (hi : i < a.size) (hj : j < a.size), i ≠ j → key a[i] ≠ key a[j] :=
        fun i j hi hj hij e => hij (h.inj i j hi hj e)
      -- before `down(0)`: the last element at the root with index 0, the popped one with -1
      rw [← hr]
      refine downI_ok key lt _ _ 0 (.of_pos fun i hi => ?_) (hb1 _ (fun k hk0 hka => ?_) ?_)
      · have hi' : i < a.size - 1 := by rw [Array.size_pop, Array.size_set] at hi; exact hi
        rw [Array.getElem_pop, Array.getElem_set]
        split
        next hi0 => rw [assign_self, ← hi0]; rfl
        next hi0 =>
          rw [assign_ne _ _ _ _ (hne i _ _ hlast (Nat.ne_of_lt hi')), assign_ne _ _ _ _ (hne i 0 _ h0 (Ne.symm hi0))]
          exact h.pos i _
      · rw [assign_ne _ _ _ _ (fun e => hka _ hlast e.symm), assign_ne _ _ _ _ hk0]
      · rw [assign_ne _ _ _ _ (hne 0 _ h0 hlast (Nat.ne_of_lt hn)), assign_self]
    · rw [if_neg hn, if_neg hn] at hr
      rw [← hr]
      refine ⟨.of_pos fun i hi => ?_, hb1 _ (fun k hk0 _ => assign_ne _ _ _ _ hk0) (assign_self _ _ _ _)⟩
      rw [Array.size_pop, Array.size_set] at hi
      exact absurd (Nat.zero_lt_of_lt hi) hn
  · rw [dif_neg h0] at hp; cases hp

theorem ok_index (key : α → κ) (a : Array α) (s : κ → Int) (h : Ok key a s) (i : Nat) (hi : i < a.size) :
    0 ≤ s (key a[i]) ∧ (s (key a[i])).toNat = i := by
  rw [h.pos i hi]
  exact ⟨Int.natCast_nonneg i, Int.toNat_natCast i⟩

end Rxn.HeapI
