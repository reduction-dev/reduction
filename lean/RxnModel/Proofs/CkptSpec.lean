import RxnModel.Proofs.CkptStep
import RxnModel.Proofs.LsmScan
import RxnModel.Proofs.CompactionSound
/-!
Composition with C07's refinement invariant `Lsm.Inv`. `Holds db pend m`: `db` satisfies it for some map, and with the
records `pend` still to be replayed on top it answers as the expected map `m` (`readOver`) — through `answer`, since a
restored instance renumbers replayed writes. A restore re-establishes it from what is known about the record (`CkptOk`:
captured in a state that satisfied `Inv` and held the map recorded for its id). `SInv` carries this, `Inv` and `FInv`
along `runSpec`.
-/
namespace Rxn.Ckpt
open Rxn Rxn.Lsm

/-- a foreground write of the checkpointing system is a `put`/`del` (+ `rotate`) of the LSM state machine -/
theorem writeStep_lsm {s s' : State} {del : Bool} {k v : Bytes} {rot : Bool}
    (h : writeStep s del k v rot = some s') (hi : ∃ m, Lsm.Inv s.db m ∧ ReadInv s.db m) :
    ∃ m, Lsm.Inv s'.db m ∧ ReadInv s'.db m := by
  obtain ⟨m, hi, hr⟩ := hi
  obtain ⟨db1, hdb, _, rfl⟩ := writeStep_some h
  have h1 := Compaction.lsm_step _ hi hr hdb
  cases rot
  · exact ⟨_, h1⟩
  · exact ⟨_, Compaction.lsm_step .rotate h1.1 h1.2 rfl⟩

/-- The C07 invariant is only a witness: it makes the background steps keep every read and gives the scans; what the
database answers is said through `readOver`, so its map need not be followed through a replay. -/
def Holds (db : Lsm.State) (pend : List Wal.Rec) (m : Spec) : Prop :=
  (∃ mL, Lsm.Inv db mL ∧ ReadInv db mL) ∧ ∀ k, readOver db pend k = answer (Spec.get m k)

theorem holds_get {db : Lsm.State} {m : Spec} (h : Holds db [] m) (k : Bytes) :
    answer (Lsm.get db k) = answer (Spec.get m k) :=
  h.2 k

/-- C07 `Lsm.scan_spec` read through `answer` -/
theorem holds_scan {db : Lsm.State} {m : Spec} (h : Holds db [] m) (p : Bytes) :
    ((Lsm.scan db p).map (fun e => (e.key, e.val))).Pairwise (fun a b => Bytes.lt a.1 b.1 = true) ∧
    ∀ k v, (k, v) ∈ (Lsm.scan db p).map (fun e => (e.key, e.val)) ↔
      (answer (Spec.get m k) = some v ∧ Bytes.hasPrefix k p = true) := by
  obtain ⟨⟨mL, hL, _⟩, hget⟩ := h
  obtain ⟨hsorted, hmem⟩ := Lsm.scan_spec hL p
  exact ⟨List.pairwise_map.mpr hsorted, fun k v => by rw [scan_kv hmem, ← hget k, ← get_spec hL k]; rfl⟩

/-- `ha`: flush begin, flush commit and compaction leave the map of the LSM machine as it is, hence every read -/
theorem holds_background {db db' : Lsm.State} {pend : List Wal.Rec} {m : Spec} {a : Lsm.Act} (h : Holds db pend m)
    (hst : Lsm.step db a = some db') (ha : ∀ mL, specStep mL db.seq a = mL) : Holds db' pend m := by
  obtain ⟨⟨mL, hL, hR⟩, hA⟩ := h
  have h1 := Compaction.lsm_step a hL hR hst
  rw [ha] at h1
  refine ⟨⟨mL, h1⟩, fun k => ?_⟩
  rw [← hA k, readOver, readOver, get_spec h1.1, get_spec hL]

/-- database and expected map receive the same entry: `write_reads` on one side, the head of the map on the other -/
theorem holds_write {s s' : State} {del : Bool} {k v : Bytes} {rot : Bool} {m : Spec} (h : Holds s.db [] m)
    (hw : writeStep s del k v rot = some s') :
    Holds s'.db [] (specStep m s.db.seq (if del then .del k else .put k v)) := by
  refine ⟨writeStep_lsm hw h.1, fun k' => ?_⟩
  show answer (Lsm.get s'.db k') = _
  rw [write_reads hw k', show answer (Lsm.get s.db k') = _ from h.2 k']
  cases del
  all_goals
    show _ = answer (Run.lookup (_ :: m) k')
    rw [Run.lookup_cons]
    by_cases hk : k = k'
    · rw [if_pos hk, if_pos hk]; rfl
    · rw [if_neg hk, if_neg hk]; rfl

theorem holds_replayOne {s s1 : State} {r : Wal.Rec} {rs : List Wal.Rec} {rot : Bool} {m : Spec}
    (h : Holds s.db (r :: rs) m) (hw : writeStep s r.del r.key r.val rot = some s1) : Holds s1.db rs m :=
  ⟨writeStep_lsm hw h.1, fun k => (readOver_write hw rs k).trans (h.2 k)⟩

theorem holds_replay (rots : List Nat) {m : Spec} (recs : List Wal.Rec) (s s' : State)
    (h : Holds s.db recs m) (hr : replay s recs rots = some s') : Holds s'.db [] m :=
  replay_induct (P := fun s recs => Holds s.db recs m) (fun _ _ _ _ _ hw h => holds_replayOne h hw) recs rots s s' hr h

theorem specAt_cons_ne (saved : List (Nat × Spec)) (id i : Nat) (m : Spec) (h : i ≠ id) :
    specAt ((id, m) :: saved) i = specAt saved i := by
  have : (id == i) = false := by simpa using Ne.symm h
  simp [specAt, List.find?, this]

theorem specAt_cons_eq (saved : List (Nat × Spec)) (id : Nat) (m : Spec) : specAt ((id, m) :: saved) id = m := by
  simp [specAt, List.find?]

theorem saved_keep (id : Nat) : ∀ (as : List Act) (s s' : State) (sp sp' : SpecSt),
    (∀ a ∈ as, a = Act.checkpoint id → False) → runSpec s sp as = some (s', sp') →
    specAt sp'.saved id = specAt sp.saved id := by
  intro as
  induction as with
  | nil => intro s s' sp sp' _ hr; cases Option.some.inj hr; rfl
  | cons a as ih =>
    intro s s' sp sp' hno hr
    obtain ⟨_, s1, _, hr'⟩ := runSpec_cons.mp hr
    rw [ih s1 s' _ sp' (fun x hx => hno x (List.mem_cons_of_mem _ hx)) hr']
    cases a with
    | checkpoint id' =>
      have hne : id ≠ id' := fun e => hno (.checkpoint id') List.mem_cons_self (by rw [e])
      exact specAt_cons_ne _ _ _ _ hne
    | _ => rfl

def CkptOk (saved : List (Nat × Spec)) (c : Ckpt) : Prop :=
  ∃ sc : State, Inv sc ∧ c = capture sc c.id ∧ Holds sc.db [] (specAt saved c.id)

theorem ckptOk_capture {s : State} {m : Spec} (hi : Inv s) (h : Holds s.db [] m) (id : Nat)
    (saved : List (Nat × Spec)) : CkptOk ((id, m) :: saved) (capture s id) :=
  ⟨s, hi, rfl, by rw [show (capture s id).id = id from rfl, specAt_cons_eq]; exact h⟩

theorem ckptOk_cons_ne {saved : List (Nat × Spec)} {c : Ckpt} (h : CkptOk saved c) {id : Nat} (hne : c.id ≠ id)
    (m : Spec) : CkptOk ((id, m) :: saved) c := by
  obtain ⟨sc, h1, h2, h3⟩ := h
  exact ⟨sc, h1, h2, by rw [specAt_cons_ne _ _ _ _ hne]; exact h3⟩

theorem holds_restoreBase {saved : List (Nat × Spec)} {c : Ckpt} (hc : CkptOk saved c) (files : Files)
    {recs : List Wal.Rec} (hrecs : walRead c.recs c.after = some recs) :
    Holds (restoreBase files c).db recs (specAt saved c.id) := by
  obtain ⟨sc, hisc, hcap, ⟨mc, hlsm, _⟩, hans⟩ := hc
  rw [hcap] at hrecs ⊢
  obtain ⟨recs', hrecs', hreads⟩ := capture_reads hisc files c.id
  cases hrecs'.symm.trans hrecs
  -- the C07 invariant of the fresh instance: one empty memtable over the captured (valid) level list
  have hbase := Compaction.inv_fresh (s := (restoreBase files (capture sc c.id)).db) (mm := []) rfl hlsm.levels_ne
    (Compaction.weakValid_of_inv (s := sc.db) hlsm) Run.sorted_nil (le_levelsMaxSeq sc.db.levels) (Nat.le_refl _) nofun
  exact ⟨⟨_, hbase, readInv_of_none rfl⟩, fun k => (hreads k).trans (hans k)⟩

theorem holds_restore {saved : List (Nat × Spec)} {c : Ckpt} (hc : CkptOk saved c) {files : Files}
    {rots : List Nat} {r : State} (hr : restore files c rots = some r) : Holds r.db [] (specAt saved c.id) := by
  obtain ⟨recs, hrecs, hrep⟩ := restore_some.mp hr
  exact holds_replay rots recs _ r (holds_restoreBase hc files hrecs) hrep

theorem restore_ckpts_replaying {files : Files} {c : Ckpt} {rots : List Nat} {r : State}
    (h : restore files c rots = some r) : r.ckpts = [c] ∧ r.replaying = [] := by
  obtain ⟨recs, _, hrep⟩ := restore_some.mp h
  exact ⟨(replay_frame _ _ _ _ hrep).ckpts,
    replay_induct (P := fun s _ => s.replaying = []) (fun _ _ _ _ _ hw e => (writeStep_replaying hw).trans e)
      _ _ _ _ hrep rfl⟩

structure SInv (s : State) (sp : SpecSt) : Prop where
  inv : Inv s
  finv : FInv s
  holds : Holds s.db s.replaying sp.m
  ckptsOk : ∀ c ∈ s.ckpts, CkptOk sp.saved c

theorem sinv_init : SInv ({} : State) ({} : SpecSt) :=
  ⟨init_inv, finv_init, ⟨⟨[], Lsm.inv_init, readInv_init⟩, fun _ => rfl⟩, by intro c hc; cases hc⟩

theorem sinv_step (s s' : State) (sp : SpecSt) (a : Act) (h : SInv s sp)
    (hg : guardOk s a = true)
    (hs : step s a = some s') : SInv s' (stepSpec s sp a) := by
  have hinv' := inv_step s s' a h.inv hs
  have hf' := finv_step s s' a h.finv hs
  have hholds := h.holds
  cases a with
  | write del k v rot =>
    obtain ⟨_, hre, hw⟩ := step_write.mp hs
    rw [hre] at hholds
    refine ⟨hinv', hf', ?_, ?_⟩
    · rw [writeStep_replaying hw, hre]; exact holds_write hholds hw
    · rw [(writeStep_frame hw).ckpts]; exact h.ckptsOk
  | flushBegin n =>
    obtain ⟨db', hst, rfl⟩ := step_flushBegin hs
    exact ⟨hinv', hf', holds_background hholds hst (fun _ => rfl), h.ckptsOk⟩
  | flushCommit =>
    obtain ⟨snap, db', _, hst, rfl⟩ := step_flushCommit hs
    exact ⟨hinv', hf', holds_background hholds hst (fun _ => rfl), h.ckptsOk⟩
  | compact rm lvl add =>
    obtain ⟨db', hst, rfl⟩ := step_compact hs
    exact ⟨hinv', hf', holds_background hholds hst (fun _ => rfl), h.ckptsOk⟩
  | checkpoint id =>
    obtain ⟨hre, hid, rfl⟩ := step_checkpoint hs
    refine ⟨hinv', hf', hholds, forall_mem_snoc.mpr ⟨fun c hc => ?_, ?_⟩⟩
    · exact ckptOk_cons_ne (h.ckptsOk c hc) (id := id) (fun e => hid (e ▸ h.finv.cused c hc)) sp.m
    · rw [hre] at hholds
      exact ckptOk_capture h.inv hholds id sp.saved
  | saveWal id =>
    obtain ⟨_, _, _, rfl⟩ := step_saveWal hs
    exact ⟨hinv', hf', hholds, h.ckptsOk⟩
  | saveDoc id =>
    obtain ⟨_, _, _, _, rfl⟩ := step_saveDoc hs
    exact ⟨hinv', hf', hholds, h.ckptsOk⟩
  | retain ids =>
    rw [step_retain hs] at hinv' hf' ⊢
    exact ⟨hinv', hf', hholds, fun c hc => h.ckptsOk c (List.mem_filter.mp hc).1⟩
  | saveList =>
    rw [step_saveList hs] at hinv' hf' ⊢
    exact ⟨hinv', hf', hholds, h.ckptsOk⟩
  | destroy =>
    obtain ⟨_, _, _, rfl⟩ := step_destroy hs
    exact ⟨hinv', hf', hholds, h.ckptsOk⟩
  | orphan id run =>
    rw [(step_orphan hs).2] at hinv' hf' ⊢
    exact ⟨hinv', hf', hholds, h.ckptsOk⟩
  | crash =>
    rw [step_crash hs] at hinv' hf' ⊢
    exact ⟨hinv', hf', hholds, h.ckptsOk⟩
  | openBegin id =>
    obtain ⟨c, recs, hload, hrecs, rfl⟩ := step_openBegin hs
    obtain ⟨hc, rfl⟩ := loaded_listed h.finv hg hload
    exact ⟨hinv', hf', holds_restoreBase (h.ckptsOk c hc) s.files hrecs,
      fun c' hc' => List.mem_singleton.mp hc' ▸ h.ckptsOk c hc⟩
  | replayOne rot =>
    obtain ⟨_, r, rs, s1, hrep, h1, rfl⟩ := step_replayOne.mp hs
    rw [hrep] at hholds
    refine ⟨hinv', hf', (holds_replayOne hholds h1 : Holds s1.db rs sp.m), ?_⟩
    show ∀ c ∈ s1.ckpts, _
    rw [(writeStep_frame h1).ckpts]; exact h.ckptsOk
  | «open» id rots =>
    obtain ⟨c, hload, hr⟩ := step_open.mp hs
    obtain ⟨hc, rfl⟩ := loaded_listed h.finv hg hload
    obtain ⟨hck, hrep⟩ := restore_ckpts_replaying hr
    refine ⟨hinv', hf', ?_, fun c' hc' => ?_⟩
    · rw [hrep]; exact holds_restore (h.ckptsOk c hc) hr
    · rw [hck] at hc'
      exact List.mem_singleton.mp hc' ▸ h.ckptsOk c hc

theorem sinv_run (as : List Act) (s : State) (sp : SpecSt) (hr : runSpec {} {} as = some (s, sp)) : SInv s sp :=
  runSpec_induct sinv_step as {} s {} sp sinv_init hr

theorem holds_run {as : List Act} {s : State} {sp : SpecSt} (hr : runSpec {} {} as = some (s, sp))
    (hrep : s.replaying = []) : Holds s.db [] sp.m :=
  hrep ▸ (sinv_run as s sp hr).holds

end Rxn.Ckpt
