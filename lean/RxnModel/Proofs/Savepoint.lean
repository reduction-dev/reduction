import RxnModel.Model.Savepoint
import Std.Data.String.ToNat
/-!
Lemmas about `Model/Savepoint.lean` for C14. Creation and restore are the same copy loop run in opposite directions, so
the facts about `copyAll` / `copyOps` are proved once for any `src`, `dst`. `OpArtifactOK` is what a savepoint directory
must hold for the restore to give back the original images; a non-atomic creation establishes it either by simulating
the atomic one (`Sim`: the environment keeps off the files read) or by an invariant (`Disc`: the job's discipline).
Core only, and `Nat.toNat?_repr` of Std.
-/
namespace Rxn.Savepoint

theorem read_nil (p : Path) : read [] p = none := rfl
theorem read_cons (q : Path) (c : Content) (r : FS) (p : Path) :
    read ((q, c) :: r) p = if q = p then some c else read r p := rfl

theorem read_write_eq (p : Path) (c : Content) (fs : FS) : read (write p c fs) p = some c := by
  rw [write, read_cons, if_pos rfl]

theorem read_write_ne {q p : Path} (c : Content) (fs : FS) (h : q ≠ p) : read (write q c fs) p = read fs p := by
  rw [write, read_cons, if_neg h]

theorem read_wipe (p : Path) (fs : FS) : read (wipe fs) p = if p.isWork then none else read fs p := by
  induction fs with
  | nil => simp [wipe, read_nil]
  | cons e r ih =>
    obtain ⟨q, c⟩ := e
    simp only [wipe, List.filter_cons] at ih ⊢
    by_cases hq : q = p
    · subst hq; cases hw : q.isWork <;> simp [read_cons, hw, ih]
    · cases hw : q.isWork <;> simp [read_cons, hq, ih]

theorem read_wipe_work (fs : FS) (u : URI) : read (wipe fs) (.work u) = none := by
  rw [read_wipe]; rfl

theorem read_wipe_sp (fs : FS) (p : Path) (h : p.isWork = false) : read (wipe fs) p = read fs p := by
  rw [read_wipe, h]; rfl

theorem remove_nil (p : Path) : remove p [] = [] := rfl
theorem remove_cons (p q : Path) (c : Content) (r : FS) :
    remove p ((q, c) :: r) = if q = p then remove p r else (q, c) :: remove p r := rfl

theorem read_remove (q p : Path) (fs : FS) : read (remove q fs) p = if q = p then none else read fs p := by
  induction fs with
  | nil => simp [remove_nil, read_nil]
  | cons e r ih =>
    obtain ⟨k, c⟩ := e
    simp only [remove_cons, read_cons]
    by_cases hk : k = q
    · rw [if_pos hk, ih, hk]
      by_cases hp : q = p <;> simp [hp]
    · rw [if_neg hk, read_cons, ih]
      by_cases hp : q = p
      · rw [if_pos hp, if_pos hp, if_neg (hp ▸ hk)]
      · rw [if_neg hp, if_neg hp]

theorem read_remove_ne {q p : Path} (fs : FS) (h : q ≠ p) : read (remove q fs) p = read fs p := by
  rw [read_remove, if_neg h]

theorem copyAll_induct (src dst : URI → Path) (P : FS → Prop)
    (hstep : ∀ fs u c, P fs → read fs (src u) = some c → P (write (dst u) c fs)) :
    ∀ (us : List URI) (fs : FS), P fs → P (copyAll src dst fs us).1 := by
  intro us
  induction us with
  | nil => intro fs h; exact h
  | cons u r ih =>
    intro fs h
    simp only [copyAll]
    cases hu : read fs (src u) with
    | none => exact h
    | some c => exact ih _ (hstep fs u c h hu)

theorem copyAll_frame (src dst : URI → Path) (p : Path) (hp : ∀ u, dst u ≠ p) (us : List URI) (fs : FS) :
    read (copyAll src dst fs us).1 p = read fs p :=
  copyAll_induct src dst (fun fs' => read fs' p = read fs p)
    (fun _ u c h _ => by rw [read_write_ne c _ (hp u)]; exact h) us fs rfl

theorem copyAll_singleton {src dst : URI → Path} {fs : FS} {u : URI} {c : Content} (h : read fs (src u) = some c) :
    copyAll src dst fs [u] = (write (dst u) c fs, true) := by
  simp only [copyAll, h]

theorem copyAll_append (src dst : URI → Path) (us vs : List URI) (fs : FS) :
    copyAll src dst fs (us ++ vs) =
      if (copyAll src dst fs us).2 then copyAll src dst (copyAll src dst fs us).1 vs else copyAll src dst fs us := by
  induction us generalizing fs with
  | nil => rfl
  | cons u r ih =>
    cases hr : read fs (src u) with
    | none => simp only [List.cons_append, copyAll, hr]; rfl
    | some c => simp only [List.cons_append, copyAll, hr]; exact ih _

def Sync (src dst : URI → Path) (fs : FS) (u : URI) : Prop :=
  ∃ c, read fs (src u) = some c ∧ read fs (dst u) = some c

theorem Sync.copy_self {src dst : URI → Path} (hsd : ∀ u v, dst u ≠ src v) {fs : FS} {u : URI} {c : Content} (hu : read fs (src u) = some c) :
    Sync src dst (write (dst u) c fs) u :=
  ⟨c, by rw [read_write_ne c _ (hsd u u)]; exact hu, read_write_eq _ _ _⟩

theorem Sync.copy {src dst : URI → Path} (hsd : ∀ u v, dst u ≠ src v) (hinj : ∀ u v, dst u = dst v → u = v) {fs : FS} {x u : URI} {c : Content}
    (h : Sync src dst fs x) (hu : read fs (src u) = some c) : Sync src dst (write (dst u) c fs) x := by
  by_cases hux : u = x
  · exact hux ▸ Sync.copy_self hsd hu
  · obtain ⟨c0, h1, h2⟩ := h
    exact ⟨c0, by rw [read_write_ne c _ (hsd u x)]; exact h1,
      by rw [read_write_ne c _ (fun hh => hux (hinj _ _ hh))]; exact h2⟩

theorem copyAll_sync {src dst : URI → Path} (hsd : ∀ u v, dst u ≠ src v) (hinj : ∀ u v, dst u = dst v → u = v) :
    ∀ (us : List URI) (fs fs' : FS), copyAll src dst fs us = (fs', true) → ∀ x ∈ us, Sync src dst fs' x := by
  intro us
  induction us with
  | nil => intro _ _ _ x hx; cases hx
  | cons u r ih =>
    intro fs fs' h x hx
    simp only [copyAll] at h
    cases hu : read fs (src u) with
    | none => rw [hu] at h; cases h
    | some c =>
      rw [hu] at h; dsimp only at h
      rcases List.mem_cons.mp hx with rfl | hx
      · have := copyAll_induct src dst (Sync src dst · x) (fun _ _ _ hs hv => hs.copy hsd hinj hv) r _
          (Sync.copy_self hsd hu)
        rwa [h] at this
      · exact ih _ fs' h x hx

theorem copyAll_succeeds (src dst : URI → Path) : ∀ (us : List URI) (fs : FS),
    (∀ u ∈ us, (read fs (src u)).isSome) → (copyAll src dst fs us).2 = true := by
  intro us
  induction us with
  | nil => intro _ _; rfl
  | cons u r ih =>
    intro fs h
    simp only [copyAll]
    cases hr : read fs (src u) with
    | none => have := h u (List.mem_cons_self ..); rw [hr] at this; cases this
    | some c =>
      apply ih
      intro v hv
      -- a write removes nothing, wherever it goes
      rw [write, read_cons]
      split
      · rfl
      · exact h v (List.mem_cons_of_mem _ hv)

theorem opFiles_congr (L : Lister) (fs1 fs2 : FS) (p1 p2 : Path) (o : OpCkpt) (h : read fs1 p1 = read fs2 p2) :
    opFiles L fs1 p1 o = opFiles L fs2 p2 o := by
  simp only [opFiles, h]

theorem opFiles_some {L : Lister} {fs : FS} {p : Path} {o : OpCkpt} {fl : List URI} (h : opFiles L fs p o = some fl) :
    ∃ cks files, read fs p = some (.doc cks) ∧ listFiles L cks o.ckptId = some files ∧ fl = files ++ [o.uri] := by
  unfold opFiles at h
  split at h
  · rename_i cks hr
    obtain ⟨files, hl, hfl⟩ := Option.map_eq_some_iff.mp h
    exact ⟨cks, files, hr, hl, hfl.symm⟩
  · cases h

theorem opFiles_of_doc {L : Lister} {fs : FS} {p : Path} {o : OpCkpt} {cks : List CkDoc}
    (hr : read fs p = some (.doc cks)) : opFiles L fs p o = (listFiles L cks o.ckptId).map (· ++ [o.uri]) := by
  rw [opFiles, hr]

theorem listFiles_byId_some {cks : List CkDoc} {id : Nat} {files : List URI}
    (h : listFiles .byId cks id = some files) : ∃ ck, findCk cks id = some ck ∧ files = ck.files := by
  obtain ⟨ck, hf, hfl⟩ := Option.map_eq_some_iff.mp h
  exact ⟨ck, hf, hfl.symm⟩

theorem opFiles_byId_some {fs : FS} {p : Path} {o : OpCkpt} {files : List URI}
    (h : opFiles .byId fs p o = some files) :
    ∃ cks ck, read fs p = some (.doc cks) ∧ findCk cks o.ckptId = some ck ∧ files = ck.files ++ [o.uri] := by
  obtain ⟨cks, fl, hr, hl, rfl⟩ := opFiles_some h
  obtain ⟨ck, hf, rfl⟩ := listFiles_byId_some hl
  exact ⟨cks, ck, hr, hf, rfl⟩

theorem opFiles_byId_of_entry {fs : FS} {p : Path} {o : OpCkpt} {cks : List CkDoc} {ck : CkDoc}
    (hr : read fs p = some (.doc cks)) (hck : findCk cks o.ckptId = some ck) :
    opFiles .byId fs p o = some (ck.files ++ [o.uri]) := by
  rw [opFiles_of_doc hr, listFiles, hck]; rfl

theorem opFiles_mem_uri {L : Lister} {fs : FS} {p : Path} {o : OpCkpt} {files : List URI}
    (h : opFiles L fs p o = some files) : o.uri ∈ files := by
  obtain ⟨_, fl, _, _, rfl⟩ := opFiles_some h
  exact List.mem_append_right _ (List.mem_singleton_self _)

theorem copyOps_induct (L : Lister) (src dst : URI → Path) (P : FS → Prop)
    (hstep : ∀ fs u c, P fs → read fs (src u) = some c → P (write (dst u) c fs)) :
    ∀ (ops : List OpCkpt) (fs : FS), P fs → P (copyOps L src dst fs ops).1 := by
  intro ops
  induction ops with
  | nil => intro fs h; exact h
  | cons o r ih =>
    intro fs h
    simp only [copyOps]
    cases opFiles L fs (src o.uri) o with
    | none => exact h
    | some files =>
      dsimp only
      have h1 := copyAll_induct src dst P hstep files fs h
      cases hc : copyAll src dst fs files with
      | mk fs' ok =>
        rw [hc] at h1
        cases ok with
        | false => exact h1
        | true => exact ih fs' h1

theorem copyOps_frame (L : Lister) (src dst : URI → Path) (p : Path) (hp : ∀ u, dst u ≠ p) (ops : List OpCkpt) (fs : FS) :
    read (copyOps L src dst fs ops).1 p = read fs p :=
  copyOps_induct L src dst (fun fs' => read fs' p = read fs p)
    (fun _ u c h _ => by rw [read_write_ne c _ (hp u)]; exact h) ops fs rfl

theorem copyOps_sync (L : Lister) {src dst : URI → Path} (hsd : ∀ u v, dst u ≠ src v)
    (hinj : ∀ u v, dst u = dst v → u = v) :
    ∀ (ops : List OpCkpt) (fs fs' : FS), copyOps L src dst fs ops = (fs', true) →
      ∀ o ∈ ops, ∃ files, opFiles L fs (src o.uri) o = some files ∧ ∀ u ∈ files, Sync src dst fs' u := by
  intro ops
  induction ops with
  | nil => intro _ _ _ o ho; cases ho
  | cons a r ih =>
    intro fs fs' h o ho
    simp only [copyOps] at h
    cases hf : opFiles L fs (src a.uri) a with
    | none => rw [hf] at h; cases h
    | some files =>
      rw [hf] at h; dsimp only at h
      cases hc : copyAll src dst fs files with
      | mk fs1 ok =>
        rw [hc] at h
        cases ok with
        | false => cases h
        | true =>
          dsimp only at h
          rcases List.mem_cons.mp ho with rfl | ho
          · refine ⟨files, hf, fun u hu => ?_⟩
            have := copyOps_induct L src dst (Sync src dst · u) (fun _ _ _ hs hv => hs.copy hsd hinj hv) r fs1
              (copyAll_sync hsd hinj files fs fs1 hc u hu)
            rwa [h] at this
          · obtain ⟨fl, h1, h2⟩ := ih fs1 fs' h o ho
            refine ⟨fl, ?_, h2⟩
            -- the document of `o` was not touched by the copies for `a`
            have := copyAll_frame src dst (src o.uri) (fun u => hsd u o.uri) files fs
            rw [hc] at this
            rw [← h1]; exact opFiles_congr _ _ _ _ _ _ this.symm

/-- `copyOps_sync` with the sources as the run found them: no copy writes to a source -/
theorem copyOps_complete (L : Lister) {src dst : URI → Path} (hsd : ∀ u v, dst u ≠ src v)
    (hinj : ∀ u v, dst u = dst v → u = v) (ops : List OpCkpt) (fs fs' : FS)
    (h : copyOps L src dst fs ops = (fs', true)) :
    ∀ o ∈ ops, ∃ files, opFiles L fs (src o.uri) o = some files ∧
      ∀ u ∈ files, ∃ c, read fs (src u) = some c ∧ read fs' (dst u) = some c := by
  intro o ho
  obtain ⟨files, hf, hs⟩ := copyOps_sync L hsd hinj ops fs fs' h o ho
  refine ⟨files, hf, fun u hu => ?_⟩
  obtain ⟨c, h1, h2⟩ := hs u hu
  have hfr := copyOps_frame L src dst (src u) (fun v => hsd v u) ops fs
  rw [h] at hfr
  exact ⟨c, hfr ▸ h1, h2⟩

theorem copyOps_succeeds (L : Lister) {src dst : URI → Path} (hsd : ∀ u v, dst u ≠ src v) :
    ∀ (ops : List OpCkpt) (fs : FS),
    (∀ o ∈ ops, ∃ files, opFiles L fs (src o.uri) o = some files ∧ ∀ u ∈ files, (read fs (src u)).isSome) →
    (copyOps L src dst fs ops).2 = true := by
  intro ops
  induction ops with
  | nil => intro _ _; rfl
  | cons a r ih =>
    intro fs h
    simp only [copyOps]
    obtain ⟨files, hf, hall⟩ := h a (List.mem_cons_self ..)
    rw [hf]; dsimp only
    have hs := copyAll_succeeds src dst files fs hall
    have hfr : ∀ v, read (copyAll src dst fs files).1 (src v) = read fs (src v) :=
      fun v => copyAll_frame src dst (src v) (fun u => hsd u v) files fs
    cases hc : copyAll src dst fs files with
    | mk fs1 ok =>
      rw [hc] at hs hfr; dsimp only at hs hfr; subst hs
      apply ih
      intro o ho
      obtain ⟨fl, h1, h2⟩ := h o (List.mem_cons_of_mem _ ho)
      refine ⟨fl, ?_, fun u hu => ?_⟩
      · rw [← h1]; exact opFiles_congr _ _ _ _ _ _ (hfr _)
      · rw [hfr]; exact h2 u hu

theorem sp_ne_work (sid : Nat) (u v : URI) : artPath sid u ≠ Path.work v := by intro h; cases h
theorem work_ne_sp (sid : Nat) (u v : URI) : Path.work u ≠ artPath sid v := (sp_ne_work sid v u).symm
theorem spFile_inj (sid : Nat) (u v : URI) (h : artPath sid u = artPath sid v) : u = v := by
  cases u; cases v
  simp only [artPath, Path.sp.injEq] at h
  simp [h.2.1, h.2.2]
theorem work_inj (u v : URI) (h : Path.work u = Path.work v) : u = v := Path.work.inj h

theorem Path.not_isWork_of_inSp {p : Path} {id : Nat} (h : p.inSp id = true) : p.isWork = false := by
  cases p with
  | work u => cases h
  | sp i d b => rfl
  | spJob i => rfl

theorem Path.inSp_unique {p : Path} {id id' : Nat} (h : p.inSp id = true) (h' : p.inSp id' = true) : id = id' := by
  cases p with
  | work u => cases h
  | sp i d b => exact (beq_iff_eq.mp h).symm.trans (beq_iff_eq.mp h')
  | spJob i => exact (beq_iff_eq.mp h).symm.trans (beq_iff_eq.mp h')

theorem artPath_inSp (sid : Nat) (u : URI) : (artPath sid u).inSp sid = true := beq_self_eq_true sid
theorem spJob_inSp (sid : Nat) : (Path.spJob sid).inSp sid = true := beq_self_eq_true sid

theorem createOps_frame (L : Lister) (sid : Nat) (p : Path) (hp : p.inSp sid = false) (ops : List OpCkpt) (fs : FS) :
    read (createOps L sid fs ops).1 p = read fs p := by
  apply copyOps_frame
  intro u hh; rw [← hh, artPath_inSp] at hp; cases hp

theorem restoreOps_frame (L : Lister) (sid : Nat) (p : Path) (hp : p.isWork = false) (ops : List OpCkpt) (fs : FS) :
    read (restoreOps L sid fs ops).1 p = read fs p := by
  apply copyOps_frame
  intro u hh; subst hh; cases hp

theorem load_frame (L : Lister) (p : Path) (hp : p.isWork = false) (fs : FS) (sid : Nat) :
    read (loadFromSavepoint L fs sid).1 p = read fs p := by
  unfold loadFromSavepoint
  split
  · rename_i s _
    have := restoreOps_frame L sid p hp s.ops fs
    cases hr : restoreOps L sid fs s.ops with
    | mk fs' ok => rw [hr] at this; cases ok <;> exact this
  · rfl

theorem createArtifact_ok {L : Lister} {fs fs' : FS} {jobURI : URI} {snap : JobSnap}
    (h : createArtifact L fs jobURI snap = (fs', true)) :
    ∃ fsA c, createOps L snap.id fs snap.ops = (fsA, true) ∧ read fsA (.work jobURI) = some c ∧
      fs' = write (.spJob snap.id) c fsA := by
  unfold createArtifact at h
  cases hc : createOps L snap.id fs snap.ops with
  | mk fsA ok =>
    rw [hc] at h
    cases ok with
    | false => cases h
    | true =>
      dsimp only at h
      cases hr : read fsA (.work jobURI) with
      | none => rw [hr] at h; cases h
      | some c =>
        rw [hr] at h
        exact ⟨fsA, c, rfl, hr, (congrArg Prod.fst h).symm⟩

theorem createArtifact_complete {L : Lister} {fs fs' : FS} {jobURI : URI} {snap : JobSnap}
    (h : createArtifact L fs jobURI snap = (fs', true)) :
    (∀ o ∈ snap.ops, ∃ files, opFiles L fs (.work o.uri) o = some files ∧
        ∀ u ∈ files, ∃ c, read fs (.work u) = some c ∧ read fs' (artPath snap.id u) = some c) ∧
    (∃ c, read fs (.work jobURI) = some c ∧ read fs' (.spJob snap.id) = some c) := by
  obtain ⟨fsA, c, hc, hr, rfl⟩ := createArtifact_ok h
  have hjob := createOps_frame L snap.id (.work jobURI) rfl snap.ops fs
  rw [hc] at hjob
  refine ⟨fun o ho => ?_, c, hjob ▸ hr, read_write_eq _ _ _⟩
  obtain ⟨files, hf, hs⟩ := copyOps_complete L (sp_ne_work snap.id) (spFile_inj snap.id) snap.ops fs fsA hc o ho
  refine ⟨files, hf, fun u hu => ?_⟩
  obtain ⟨cu, h1, h2⟩ := hs u hu
  exact ⟨cu, h1, by rw [read_write_ne _ _ (by intro hh; cases hh)]; exact h2⟩

theorem cleanup_cons (fs : FS) (id : Nat) (r : List Nat) :
    cleanup fs (id :: r) = cleanup (remove (.work (jobURI id)) fs) r := rfl

theorem cleanup_frame (p : Path) (hp : p.isWork = false) : ∀ (ids : List Nat) (fs : FS),
    read (cleanup fs ids) p = read fs p := by
  intro ids
  induction ids with
  | nil => intro fs; rfl
  | cons id r ih =>
    intro fs
    rw [cleanup_cons, ih, read_remove_ne]
    intro hh; subst hh; cases hp

theorem read_applyWork (e : List WorkOp) (a : FS) (p : Path) :
    read (applyWork a e) p = read a p ∨
    (∃ u, .del u ∈ e ∧ p = .work u ∧ read (applyWork a e) p = none) ∨
    ∃ u c, .put u c ∈ e ∧ p = .work u ∧ read (applyWork a e) p = some c := by
  induction e generalizing a with
  | nil => exact .inl rfl
  | cons w r ih =>
    have hw : applyWork a (w :: r) = applyWork (applyWork a [w]) r := by cases w <;> rfl
    rw [hw]
    rcases ih (applyWork a [w]) with h | ⟨v, hv, h⟩ | ⟨v, x, hv, h⟩
    · rw [h]
      cases w with
      | put u c =>
        by_cases hup : Path.work u = p
        · exact .inr (.inr ⟨u, c, List.mem_cons_self .., hup.symm, hup ▸ read_write_eq _ _ _⟩)
        · exact .inl (read_write_ne _ _ hup)
      | del u =>
        by_cases hup : Path.work u = p
        · exact .inr (.inl ⟨u, List.mem_cons_self .., hup.symm, by rw [applyWork, applyWork, read_remove, if_pos hup]⟩)
        · exact .inl (read_remove_ne _ hup)
    · exact .inr (.inl ⟨v, List.mem_cons_of_mem _ hv, h⟩)
    · exact .inr (.inr ⟨v, x, List.mem_cons_of_mem _ hv, h⟩)

theorem applyWork_untouched {e : List WorkOp} {p : Path} (he : ∀ w ∈ e, Path.work w.uri ≠ p) (a : FS) :
    read (applyWork a e) p = read a p := by
  rcases read_applyWork e a p with h | ⟨u, hu, hp, _⟩ | ⟨u, c, hu, hp, _⟩
  · exact h
  · exact absurd hp.symm (he _ hu)
  · exact absurd hp.symm (he _ hu)

theorem applyWork_frame (p : Path) (hp : p.isWork = false) (ops : List WorkOp) (fs : FS) :
    read (applyWork fs ops) p = read fs p :=
  applyWork_untouched (fun _ _ hh => by subst hh; cases hp) fs

theorem readAll_cons (fs : FS) (u : URI) (r : List URI) :
    readAll fs (u :: r) =
      match read fs (.work u), readAll fs r with
      | some c, some cs => some (c :: cs)
      | _, _ => none := rfl

theorem readLevels_cons (fs : FS) (l : List URI) (r : List (List URI)) :
    readLevels fs (l :: r) =
      match readAll fs l, readLevels fs r with
      | some c, some cs => some (c :: cs)
      | _, _ => none := rfl

theorem readAll_congr (fs1 fs2 : FS) : ∀ (us : List URI), (∀ u ∈ us, read fs1 (.work u) = read fs2 (.work u)) →
    readAll fs1 us = readAll fs2 us := by
  intro us
  induction us with
  | nil => intro _; rfl
  | cons u r ih =>
    intro h
    rw [readAll_cons, readAll_cons, h u (List.mem_cons_self ..), ih (fun v hv => h v (List.mem_cons_of_mem _ hv))]

theorem readLevels_congr (fs1 fs2 : FS) : ∀ (ls : List (List URI)),
    (∀ l ∈ ls, ∀ u ∈ l, read fs1 (.work u) = read fs2 (.work u)) → readLevels fs1 ls = readLevels fs2 ls := by
  intro ls
  induction ls with
  | nil => intro _; rfl
  | cons l r ih =>
    intro h
    rw [readLevels_cons, readLevels_cons, readAll_congr fs1 fs2 l (h l (List.mem_cons_self ..)),
      ih (fun l' hl' => h l' (List.mem_cons_of_mem _ hl'))]

theorem readAll_isSome (fs : FS) : ∀ (us : List URI), (∀ u ∈ us, (read fs (.work u)).isSome) →
    (readAll fs us).isSome := by
  intro us
  induction us with
  | nil => intro _; rfl
  | cons u r ih =>
    intro h
    obtain ⟨c, hc⟩ := Option.isSome_iff_exists.mp (h u (List.mem_cons_self ..))
    obtain ⟨cs, hcs⟩ := Option.isSome_iff_exists.mp (ih (fun v hv => h v (List.mem_cons_of_mem _ hv)))
    rw [readAll_cons, hc, hcs]; rfl

theorem readLevels_isSome (fs : FS) : ∀ (ls : List (List URI)),
    (∀ l ∈ ls, ∀ u ∈ l, (read fs (.work u)).isSome) → (readLevels fs ls).isSome := by
  intro ls
  induction ls with
  | nil => intro _; rfl
  | cons l r ih =>
    intro h
    obtain ⟨c, hc⟩ := Option.isSome_iff_exists.mp (readAll_isSome fs l (h l (List.mem_cons_self ..)))
    obtain ⟨cs, hcs⟩ := Option.isSome_iff_exists.mp (ih (fun l' hl' => h l' (List.mem_cons_of_mem _ hl')))
    rw [readLevels_cons, hc, hcs]; rfl

theorem mem_files_of_wal {ck : CkDoc} {u : URI} (h : u ∈ ck.wals) : u ∈ ck.files :=
  List.mem_append_left _ h

theorem mem_files_of_level {ck : CkDoc} {l : List URI} {u : URI} (hl : l ∈ ck.levels) (h : u ∈ l) : u ∈ ck.files :=
  List.mem_append_right _ (List.mem_flatten.mpr ⟨l, hl, h⟩)

theorem openDB_of_entry (fs1 fs2 : FS) (o : OpCkpt) (cks1 cks2 : List CkDoc) (ck : CkDoc)
    (h1 : read fs1 (.work o.uri) = some (.doc cks1)) (hc1 : findCk cks1 o.ckptId = some ck)
    (h2 : read fs2 (.work o.uri) = some (.doc cks2)) (hc2 : findCk cks2 o.ckptId = some ck)
    (h : ∀ u ∈ ck.files, read fs1 (.work u) = read fs2 (.work u)) : openDB fs1 o = openDB fs2 o := by
  simp only [openDB, h1, hc1, h2, hc2]
  rw [readAll_congr fs1 fs2 ck.wals (fun u hu => h u (mem_files_of_wal hu)),
    readLevels_congr fs1 fs2 ck.levels (fun l hl u hu => h u (mem_files_of_level hl hu))]

theorem openDB_isSome (fs : FS) (o : OpCkpt) (cks : List CkDoc) (ck : CkDoc)
    (hd : read fs (.work o.uri) = some (.doc cks)) (hck : findCk cks o.ckptId = some ck)
    (h : ∀ u ∈ ck.files, (read fs (.work u)).isSome) : (openDB fs o).isSome := by
  obtain ⟨ws, hws⟩ := Option.isSome_iff_exists.mp
    (readAll_isSome fs ck.wals (fun u hu => h u (mem_files_of_wal hu)))
  obtain ⟨ls, hls⟩ := Option.isSome_iff_exists.mp
    (readLevels_isSome fs ck.levels (fun l hl u hu => h u (mem_files_of_level hl hu)))
  simp only [openDB, hd, hck, hws, hls]; rfl

/-- the artifact in `w` holds, for operator checkpoint `o`, a document with the ORIGINAL entry for the checkpoint id
(the document may otherwise differ: later entries added, other entries dropped) and every file of that entry with its
original content -/
def OpArtifactOK (fs w : FS) (sid : Nat) (o : OpCkpt) : Prop :=
  ∃ cks0 cksA ck,
    read fs (.work o.uri) = some (.doc cks0) ∧ findCk cks0 o.ckptId = some ck ∧
    read w (artPath sid o.uri) = some (.doc cksA) ∧ findCk cksA o.ckptId = some ck ∧
    ∀ u ∈ ck.files, ∃ c, read fs (.work u) = some c ∧ read w (artPath sid u) = some c

theorem OpArtifactOK.of_agree {fs w w' : FS} {sid : Nat} {o : OpCkpt} (h : OpArtifactOK fs w sid o)
    (hw : ∀ p, p.inSp sid = true → read w' p = read w p) : OpArtifactOK fs w' sid o := by
  obtain ⟨cks0, cksA, ck, h1, h2, h3, h4, h5⟩ := h
  refine ⟨cks0, cksA, ck, h1, h2, by rw [hw _ (artPath_inSp sid _)]; exact h3, h4, fun u hu => ?_⟩
  obtain ⟨c, hc1, hc2⟩ := h5 u hu
  exact ⟨c, hc1, by rw [hw _ (artPath_inSp sid _)]; exact hc2⟩

/-- the documents of a complete artifact ARE the original ones -/
theorem OpArtifactOK.of_complete {fs w : FS} {sid : Nat} {o : OpCkpt} {files : List URI}
    (hf : opFiles .byId fs (.work o.uri) o = some files)
    (hall : ∀ u ∈ files, ∃ c, read fs (.work u) = some c ∧ read w (artPath sid u) = some c) :
    OpArtifactOK fs w sid o := by
  obtain ⟨cks, ck, hd, hck, rfl⟩ := opFiles_byId_some hf
  refine ⟨cks, cks, ck, hd, hck, ?_, hck, fun u hu => hall u (List.mem_append_left _ hu)⟩
  obtain ⟨c, h1, h2⟩ := hall o.uri (opFiles_mem_uri hf)
  rw [h2, ← h1, hd]

theorem createArtifact_opArtifactOK {fs fs1 : FS} {jobURI : URI} {snap : JobSnap}
    (hc : createArtifact .byId fs jobURI snap = (fs1, true)) :
    read fs1 (.spJob snap.id) = read fs (.work jobURI) ∧ ∀ o ∈ snap.ops, OpArtifactOK fs fs1 snap.id o := by
  obtain ⟨hops, c, hc1, hc2⟩ := createArtifact_complete hc
  refine ⟨hc2.trans hc1.symm, fun o ho => ?_⟩
  obtain ⟨files, hf, hall⟩ := hops o ho
  exact .of_complete hf hall

theorem restoreOps_succeeds_of_ok {fs w : FS} {sid : Nat} {ops : List OpCkpt}
    (hops : ∀ o ∈ ops, OpArtifactOK fs w sid o) : (restoreOps .byId sid w ops).2 = true := by
  apply copyOps_succeeds .byId (work_ne_sp sid)
  intro o ho
  obtain ⟨_, cksA, ck, _, _, h3, h4, h5⟩ := hops o ho
  refine ⟨_, opFiles_byId_of_entry h3 h4, fun u hu => ?_⟩
  rcases List.mem_append.mp hu with hu | hu
  · obtain ⟨c, _, hc⟩ := h5 u hu; rw [hc]; rfl
  · rw [List.mem_singleton.mp hu, h3]; rfl

theorem OpArtifactOK.openDB_restored {fs w w' : FS} {sid : Nat} {ops : List OpCkpt} {o : OpCkpt}
    (h : OpArtifactOK fs w sid o) (ho : o ∈ ops) (hr : restoreOps .byId sid w ops = (w', true)) :
    openDB w' o = openDB fs o ∧ (openDB fs o).isSome := by
  obtain ⟨cks0, cksA, ck, h1, h2, h3, h4, h5⟩ := h
  obtain ⟨files', h1', hcopied⟩ := copyOps_complete .byId (work_ne_sp sid) work_inj ops w w' hr o ho
  rw [opFiles_byId_of_entry h3 h4] at h1'; injection h1' with h1'; subst h1'
  have hback : ∀ u ∈ ck.files ++ [o.uri], read w' (.work u) = read w (artPath sid u) := by
    intro u hu
    obtain ⟨c, hs1, hs2⟩ := hcopied u hu
    rw [hs1, hs2]
  have hdoc : read w' (.work o.uri) = some (.doc cksA) := by rw [hback o.uri (by simp)]; exact h3
  refine ⟨openDB_of_entry w' fs o cksA cks0 ck hdoc h4 h1 h2 ?_, openDB_isSome fs o cks0 ck h1 h2 ?_⟩
  · intro u hu
    obtain ⟨c, hf, hwc⟩ := h5 u hu
    rw [hback u (List.mem_append_left _ hu), hwc, hf]
  · intro u hu
    obtain ⟨c, hf, _⟩ := h5 u hu
    rw [hf]; rfl

def Avoids (H : URI → Prop) (sch : Sched) : Prop := ∀ e ∈ sch, ∀ w ∈ e, ¬ H w.uri

def Agree (H : URI → Prop) (a b : FS) : Prop :=
  (∀ p, p.isWork = false → read a p = read b p) ∧ (∀ u, H u → read a (.work u) = read b (.work u))

theorem Agree.trans {H : URI → Prop} {a b c : FS} (h1 : Agree H a b) (h2 : Agree H b c) : Agree H a c :=
  ⟨fun p hp => (h1.1 p hp).trans (h2.1 p hp), fun u hu => (h1.2 u hu).trans (h2.2 u hu)⟩

theorem applyWork_agree (H : URI → Prop) (e : List WorkOp) (a : FS) (he : ∀ w ∈ e, ¬ H w.uri) :
    Agree H (applyWork a e) a :=
  ⟨fun p hp => applyWork_frame p hp e a,
   fun _ hu => applyWork_untouched (fun w hw hh => he w hw (work_inj _ _ hh ▸ hu)) a⟩

theorem Sched.step_agree (H : URI → Prop) (sch : Sched) (h : Avoids H sch) {a b : FS} (hab : Agree H a b) :
    Agree H (Sched.step a sch).1 b ∧ Avoids H (Sched.step a sch).2 := by
  cases sch with
  | nil => exact ⟨hab, h⟩
  | cons e r =>
    exact ⟨(applyWork_agree H e a (h e (List.mem_cons_self ..))).trans hab,
      fun e' he' => h e' (List.mem_cons_of_mem _ he')⟩

theorem Agree.write {H : URI → Prop} {a b : FS} (h : Agree H a b) (p : Path) (c : Content) :
    Agree H (write p c a) (write p c b) := by
  constructor
  · intro q hq
    by_cases hpq : p = q
    · subst hpq; rw [read_write_eq, read_write_eq]
    · rw [read_write_ne _ _ hpq, read_write_ne _ _ hpq]; exact h.1 q hq
  · intro u hu
    by_cases hpq : p = .work u
    · subst hpq; rw [read_write_eq, read_write_eq]
    · rw [read_write_ne _ _ hpq, read_write_ne _ _ hpq]; exact h.2 u hu

def Sim (H : URI → Prop) (x : FS × Bool × Sched) (y : FS × Bool) : Prop :=
  x.2.1 = y.2 ∧ Agree H x.1 y.1 ∧ Avoids H x.2.2

theorem copyAllS_sim (H : URI → Prop) (dst : URI → Path) : ∀ (us : List URI) (a b : FS) (sch : Sched),
    Avoids H sch → (∀ u ∈ us, H u) → Agree H a b →
    Sim H (copyAllS .work dst a sch us) (copyAll .work dst b us) := by
  intro us
  induction us with
  | nil => intro a b sch hs _ hab; exact ⟨rfl, hab, hs⟩
  | cons u r ih =>
    intro a b sch hs hus hab
    obtain ⟨hab', hs'⟩ := Sched.step_agree H sch hs hab
    simp only [copyAllS, copyAll]
    rw [hab'.2 u (hus u (List.mem_cons_self ..))]
    cases hb : read b (.work u) with
    | none => exact ⟨rfl, hab', hs'⟩
    | some c => exact ih _ _ _ hs' (fun v hv => hus v (List.mem_cons_of_mem _ hv)) (hab'.write _ c)

theorem copyAllS_singleton {src dst : URI → Path} {fs : FS} {sch : Sched} {u : URI} {c : Content}
    (h : read (Sched.step fs sch).1 (src u) = some c) :
    copyAllS src dst fs sch [u] = (write (dst u) c (Sched.step fs sch).1, true, (Sched.step fs sch).2) := by
  simp only [copyAllS, h]

theorem copyAllS_append (src dst : URI → Path) (us vs : List URI) (fs : FS) (sch : Sched) :
    copyAllS src dst fs sch (us ++ vs) =
      if (copyAllS src dst fs sch us).2.1 then
        copyAllS src dst (copyAllS src dst fs sch us).1 (copyAllS src dst fs sch us).2.2 vs
      else copyAllS src dst fs sch us := by
  induction us generalizing fs sch with
  | nil => rfl
  | cons u r ih =>
    cases hr : read (Sched.step fs sch).1 (src u) with
    | none => simp only [List.cons_append, copyAllS, hr]; rfl
    | some c => simp only [List.cons_append, copyAllS, hr]; exact ih _ _

theorem createOpsS_cons_none {L : Lister} {m : DocMode} {sid : Nat} {fs : FS} {sch : Sched} {o : OpCkpt} {r : List OpCkpt}
    (h : opFiles L (Sched.step fs sch).1 (.work o.uri) o = none) :
    createOpsS L m sid fs sch (o :: r) = ((Sched.step fs sch).1, false, (Sched.step fs sch).2) := by
  rw [createOpsS]
  unfold opFiles at h
  split at h
  · rename_i cks hr
    rw [Option.map_eq_none_iff.mp h]
  · rfl

theorem createOpsS_cons_doc {L : Lister} {m : DocMode} {sid : Nat} {fs : FS} {sch : Sched} {o : OpCkpt} {r : List OpCkpt}
    {cks : List CkDoc} {files : List URI}
    (hr : read (Sched.step fs sch).1 (.work o.uri) = some (.doc cks)) (hl : listFiles L cks o.ckptId = some files) :
    createOpsS L m sid fs sch (o :: r) =
      match m with
      | .copyFile =>
        match copyAllS .work (artPath sid) (Sched.step fs sch).1 (Sched.step fs sch).2 (files ++ [o.uri]) with
        | (fs', false, sch') => (fs', false, sch')
        | (fs', true, sch') => createOpsS L m sid fs' sch' r
      | .writeRead =>
        match copyAllS .work (artPath sid) (Sched.step fs sch).1 (Sched.step fs sch).2 files with
        | (fs', false, sch') => (fs', false, sch')
        | (fs', true, sch') =>
          createOpsS L m sid (write (artPath sid o.uri) (.doc cks) (Sched.step fs' sch').1) (Sched.step fs' sch').2 r := by
  rw [createOpsS, hr]
  dsimp only
  rw [hl]
  rfl

theorem createOpsS_writeRead_ok {L : Lister} {sid : Nat} {a : FS} {sch : Sched} {o : OpCkpt} {r : List OpCkpt}
    (hok : (createOpsS L .writeRead sid a sch (o :: r)).2.1 = true) :
    ∃ cks files a2 sch2, read (Sched.step a sch).1 (.work o.uri) = some (.doc cks) ∧
      listFiles L cks o.ckptId = some files ∧
      copyAllS .work (artPath sid) (Sched.step a sch).1 (Sched.step a sch).2 files = (a2, true, sch2) ∧
      createOpsS L .writeRead sid a sch (o :: r) =
        createOpsS L .writeRead sid (write (artPath sid o.uri) (.doc cks) (Sched.step a2 sch2).1) (Sched.step a2 sch2).2 r := by
  cases hof : opFiles L (Sched.step a sch).1 (.work o.uri) o with
  | none => rw [createOpsS_cons_none hof] at hok; cases hok
  | some fl =>
    obtain ⟨cks, files, hr, hl, _⟩ := opFiles_some hof
    rw [createOpsS_cons_doc hr hl] at hok ⊢
    dsimp only at hok ⊢
    cases hcs : copyAllS .work (artPath sid) (Sched.step a sch).1 (Sched.step a sch).2 files with
    | mk a2 rest =>
      obtain ⟨ok2, sch2⟩ := rest
      rw [hcs] at hok
      cases ok2 with
      | false => cases hok
      | true => exact ⟨cks, files, a2, sch2, hr, hl, hcs, rfl⟩

/-- When the environment avoids `H` the two document modes do the same: the document copied last still holds what was
read at the start. -/
theorem createOpsS_sim (L : Lister) (m : DocMode) (H : URI → Prop) (sid : Nat) :
    ∀ (ops : List OpCkpt) (a b : FS) (sch : Sched), Avoids H sch → (∀ o ∈ ops, H o.uri) →
    (∀ o ∈ ops, ∀ files, opFiles L b (.work o.uri) o = some files → ∀ u ∈ files, H u) → Agree H a b →
    Sim H (createOpsS L m sid a sch ops) (createOps L sid b ops) := by
  intro ops
  induction ops with
  | nil => intro a b sch hs _ _ hab; exact ⟨rfl, hab, hs⟩
  | cons o r ih =>
    intro a b sch hs hdoc hfiles hab
    have hHo := hdoc o (List.mem_cons_self ..)
    obtain ⟨hab', hs'⟩ := Sched.step_agree H sch hs hab
    have hof : opFiles L (Sched.step a sch).1 (.work o.uri) o = opFiles L b (.work o.uri) o :=
      opFiles_congr _ _ _ _ _ _ (hab'.2 _ hHo)
    rw [createOps, copyOps]
    cases hb : opFiles L b (.work o.uri) o with
    | none => rw [createOpsS_cons_none (hof.trans hb)]; exact ⟨rfl, hab', hs'⟩
    | some fl =>
      obtain ⟨cks, files, hrb, hl, rfl⟩ := opFiles_some hb
      rw [createOpsS_cons_doc ((hab'.2 _ hHo).trans hrb) hl]
      dsimp only
      -- the entry's files first, then the document
      rw [copyAll_append]
      have hsim := copyAllS_sim H (artPath sid) files _ b _ hs' (fun u hu => hfiles o (List.mem_cons_self ..) _ hb u (List.mem_append_left _ hu)) hab'
      have hfr : ∀ v, read (copyAll .work (artPath sid) b files).1 (.work v) = read b (.work v) :=
        fun v => copyAll_frame .work (artPath sid) (.work v) (fun x => sp_ne_work sid x v) files b
      cases hc : copyAll .work (artPath sid) b files with
      | mk b1 ok =>
        cases hcs : copyAllS .work (artPath sid) (Sched.step a sch).1 (Sched.step a sch).2 files with
        | mk a1 rest =>
          obtain ⟨ok', sch1⟩ := rest
          rw [hc, hcs] at hsim
          rw [hc] at hfr
          obtain ⟨h1, h2, h3⟩ := hsim
          dsimp only at h1 h2 h3 hfr
          subst h1
          cases ok' with
          | false =>
            cases m with
            | copyFile =>
              rw [copyAllS_append, hcs]
              exact ⟨rfl, h2, h3⟩
            | writeRead => exact ⟨rfl, h2, h3⟩
          | true =>
            obtain ⟨hab2, hs2⟩ := Sched.step_agree H sch1 h3 h2
            have hdoc2 : read (Sched.step a1 sch1).1 (.work o.uri) = some (.doc cks) := by
              rw [hab2.2 _ hHo, hfr]; exact hrb
            have hgoal : Sim H
                (createOpsS L m sid (write (artPath sid o.uri) (.doc cks) (Sched.step a1 sch1).1) (Sched.step a1 sch1).2 r)
                (createOps L sid (write (artPath sid o.uri) (.doc cks) b1) r) := by
              apply ih _ _ _ hs2 (fun o' ho' => hdoc o' (List.mem_cons_of_mem _ ho')) ?_ (hab2.write _ _)
              intro o' ho' fl hfl
              apply hfiles o' (List.mem_cons_of_mem _ ho') fl
              rw [← hfl]
              exact opFiles_congr _ _ _ _ _ _ ((read_write_ne _ _ (sp_ne_work sid o.uri o'.uri)).trans (hfr _)).symm
            have hb1 : read b1 (.work o.uri) = some (.doc cks) := (hfr _).trans hrb
            simp only [↓reduceIte, copyAll_singleton hb1]
            cases m with
            | copyFile =>
              rw [copyAllS_append, hcs]
              simp only [↓reduceIte, copyAllS_singleton hdoc2]
              exact hgoal
            | writeRead => exact hgoal

theorem createArtifactS_sim (L : Lister) (m : DocMode) (H : URI → Prop) (fs : FS) (jobURI : URI) (snap : JobSnap) (sch : Sched)
    (hs : Avoids H sch) (hj : H jobURI) (hdoc : ∀ o ∈ snap.ops, H o.uri)
    (hfiles : ∀ o ∈ snap.ops, ∀ files, opFiles L fs (.work o.uri) o = some files → ∀ u ∈ files, H u) :
    (createArtifactS L m fs jobURI snap sch).2 = (createArtifact L fs jobURI snap).2 ∧
    ∀ p, p.isWork = false → read (createArtifactS L m fs jobURI snap sch).1 p = read (createArtifact L fs jobURI snap).1 p := by
  have hsim := createOpsS_sim L m H snap.id snap.ops fs fs sch hs hdoc hfiles ⟨fun _ _ => rfl, fun _ _ => rfl⟩
  unfold createArtifactS createArtifact
  cases hc : createOps L snap.id fs snap.ops with
  | mk b1 ok =>
    cases hcs : createOpsS L m snap.id fs sch snap.ops with
    | mk a1 rest =>
      obtain ⟨ok', sch1⟩ := rest
      rw [hc, hcs] at hsim
      obtain ⟨h1, h2, h3⟩ := hsim
      dsimp only at h1 h2 h3
      subst h1
      cases ok' with
      | false => exact ⟨rfl, h2.1⟩
      | true =>
        dsimp only
        obtain ⟨hab, _⟩ := Sched.step_agree H sch1 h3 h2
        rw [hab.2 jobURI hj]
        cases hr : read b1 (.work jobURI) with
        | none => exact ⟨rfl, hab.1⟩
        | some c => exact ⟨rfl, (hab.write _ c).1⟩

/-- the entry of the original storage that the savepoint needs of operator checkpoint `o` -/
def origEntry (fs : FS) (o : OpCkpt) : Option CkDoc :=
  match read fs (.work o.uri) with
  | some (.doc cks0) => findCk cks0 o.ckptId
  | _ => none

theorem origEntry_some {fs : FS} {o : OpCkpt} {ck : CkDoc} (h : origEntry fs o = some ck) :
    ∃ cks0, read fs (.work o.uri) = some (.doc cks0) ∧ findCk cks0 o.ckptId = some ck := by
  unfold origEntry at h
  split at h
  · rename_i cks0 hr; exact ⟨cks0, hr, h⟩
  · simp at h

theorem origEntry_congr (fs : FS) {o o' : OpCkpt} (h1 : o.uri = o'.uri) (h2 : o.ckptId = o'.ckptId) :
    origEntry fs o = origEntry fs o' := by
  rw [origEntry, origEntry, h1, h2]

/-- `u` is a WAL or table file of an entry the savepoint needs -/
def DataOf (fs : FS) (snap : JobSnap) (u : URI) : Prop :=
  ∃ o ∈ snap.ops, ∃ ck, origEntry fs o = some ck ∧ u ∈ ck.files

/-- what the running job may do to the working storage while the creation runs: delete anything; write a data file
of the savepoint or its job snapshot only with the content it has; rewrite an operator's document only into a document
that keeps the entry of the savepoint's checkpoint as it is or no longer has it (later entries appended, non-retained
ones dropped); anything else freely -/
def DiscOp (fs : FS) (jobURI : URI) (snap : JobSnap) : WorkOp → Prop
  | .del _ => True
  | .put u c =>
    ((u = jobURI ∨ DataOf fs snap u) → read fs (.work u) = some c) ∧
    (∀ o ∈ snap.ops, u = o.uri → ∃ cks', c = .doc cks' ∧
      (findCk cks' o.ckptId = origEntry fs o ∨ findCk cks' o.ckptId = none))

def Disc (fs : FS) (jobURI : URI) (snap : JobSnap) (sch : Sched) : Prop :=
  ∀ e ∈ sch, ∀ w ∈ e, DiscOp fs jobURI snap w

/-- the working storage during the run: data files and the job snapshot read as originally or not at all; an
operator's document, if it is one, has the original entry for the id or none -/
def WInv (fs : FS) (jobURI : URI) (snap : JobSnap) (a : FS) : Prop :=
  (∀ u, (u = jobURI ∨ DataOf fs snap u) → read a (.work u) = read fs (.work u) ∨ read a (.work u) = none) ∧
  (∀ o ∈ snap.ops, ∀ cks', read a (.work o.uri) = some (.doc cks') →
    findCk cks' o.ckptId = origEntry fs o ∨ findCk cks' o.ckptId = none)

theorem WInv_init (fs : FS) (jobURI : URI) (snap : JobSnap) : WInv fs jobURI snap fs := by
  refine ⟨fun _ _ => Or.inl rfl, ?_⟩
  intro o _ cks' h
  left; simp [origEntry, h]

/-- `WInv` speaks of working files only -/
theorem WInv.write {fs : FS} {jobURI : URI} {snap : JobSnap} {a : FS} (h : WInv fs jobURI snap a)
    (sid : Nat) (v : URI) (c : Content) : WInv fs jobURI snap (write (artPath sid v) c a) := by
  refine ⟨fun u hu => ?_, fun o ho cks' hr => h.2 o ho cks' ?_⟩
  · rw [read_write_ne _ _ (sp_ne_work sid v u)]; exact h.1 u hu
  · rwa [read_write_ne _ _ (sp_ne_work sid v o.uri)] at hr

theorem WInv.applyWork (fs : FS) (jobURI : URI) (snap : JobSnap) (e : List WorkOp) (a : FS)
    (he : ∀ w ∈ e, DiscOp fs jobURI snap w) (h : WInv fs jobURI snap a) : WInv fs jobURI snap (applyWork a e) := by
  refine ⟨fun u hu => ?_, fun o ho cks' hrd => ?_⟩
  · rcases read_applyWork e a (.work u) with h1 | ⟨_, _, _, h1⟩ | ⟨v, c, hv, hp, h1⟩
    · rw [h1]; exact h.1 u hu
    · exact .inr h1
    · cases hp; exact .inl (h1.trans ((he _ hv).1 hu).symm)
  · rcases read_applyWork e a (.work o.uri) with h1 | ⟨_, _, _, h1⟩ | ⟨v, c, hv, hp, h1⟩
    · exact h.2 o ho cks' (h1 ▸ hrd)
    · rw [h1] at hrd; cases hrd
    · cases hp
      obtain ⟨cks'', hc, hprop⟩ := (he _ hv).2 o ho rfl
      rw [h1, hc] at hrd; cases hrd; exact hprop

theorem disc_step (fs : FS) (jobURI : URI) (snap : JobSnap) (sch : Sched) (hd : Disc fs jobURI snap sch) (a : FS)
    (h : WInv fs jobURI snap a) :
    WInv fs jobURI snap (Sched.step a sch).1 ∧ Disc fs jobURI snap (Sched.step a sch).2 ∧
    ∀ p, p.isWork = false → read (Sched.step a sch).1 p = read a p := by
  cases sch with
  | nil => exact ⟨h, hd, fun _ _ => rfl⟩
  | cons e r =>
    exact ⟨WInv.applyWork fs jobURI snap e a (hd e (List.mem_cons_self ..)) h,
      fun e' he' => hd e' (List.mem_cons_of_mem _ he'), fun p hp => applyWork_frame p hp e a⟩

/-- data files of the savepoint that are in the artifact with their original content -/
def DInv (fs : FS) (sid : Nat) (us : List URI) (a : FS) : Prop :=
  ∀ u ∈ us, ∃ c, read fs (.work u) = some c ∧ read a (artPath sid u) = some c

/-- operator checkpoints whose document in the artifact has the original entry -/
def DocInv (fs : FS) (sid : Nat) (done : List OpCkpt) (a : FS) : Prop :=
  ∀ o ∈ done, ∃ ck cksA, origEntry fs o = some ck ∧ read a (artPath sid o.uri) = some (.doc cksA) ∧
    findCk cksA o.ckptId = some ck

theorem DInv.congr {fs : FS} {sid : Nat} {us : List URI} {a b : FS} (h : DInv fs sid us a)
    (hab : ∀ p, p.isWork = false → read b p = read a p) : DInv fs sid us b := by
  intro u hu
  obtain ⟨c, h1, h2⟩ := h u hu
  exact ⟨c, h1, by rw [hab _ rfl]; exact h2⟩

theorem DocInv.congr {fs : FS} {sid : Nat} {done : List OpCkpt} {a b : FS} (h : DocInv fs sid done a)
    (hab : ∀ p, p.isWork = false → read b p = read a p) : DocInv fs sid done b := by
  intro o ho
  obtain ⟨ck, cksA, h1, h2, h3⟩ := h o ho
  exact ⟨ck, cksA, h1, by rw [hab _ rfl]; exact h2, h3⟩

theorem DInv.write {fs : FS} {sid : Nat} {us : List URI} {a : FS} {v : URI} {c : Content}
    (h : DInv fs sid us a) (hv : v ∈ us → read fs (.work v) = some c) :
    DInv fs sid us (write (artPath sid v) c a) := by
  intro u hu
  obtain ⟨c0, h1, h2⟩ := h u hu
  by_cases hvu : v = u
  · subst hvu
    exact ⟨c, hv hu, read_write_eq _ _ _⟩
  · exact ⟨c0, h1, by rw [read_write_ne _ _ (fun hh => hvu (spFile_inj sid _ _ hh))]; exact h2⟩

theorem DocInv.write {fs : FS} {sid : Nat} {done : List OpCkpt} {a : FS} {v : URI} {c : Content}
    (h : DocInv fs sid done a)
    (hv : ∀ o ∈ done, v = o.uri → ∃ cksA, c = .doc cksA ∧ findCk cksA o.ckptId = origEntry fs o) :
    DocInv fs sid done (write (artPath sid v) c a) := by
  intro o ho
  obtain ⟨ck, cksA, h1, h2, h3⟩ := h o ho
  by_cases hvu : v = o.uri
  · obtain ⟨cksB, hc, hf⟩ := hv o ho hvu
    subst hc
    exact ⟨ck, cksB, h1, by rw [hvu]; exact read_write_eq _ _ _, by rw [hf, h1]⟩
  · exact ⟨ck, cksA, h1, by rw [read_write_ne _ _ (fun hh => hvu (spFile_inj sid _ _ hh))]; exact h2, h3⟩

/-- copying the data files of a needed entry while the job goes on (discipline): everything already in the artifact
(`D`: data files copied so far, `done`: operator checkpoints whose document is written) stays right, and on success the
copied files are in the artifact with their original content -/
theorem copyAllS_disc (fs : FS) (jobURI : URI) (snap : JobSnap) (sid : Nat)
    (hsep : ∀ o ∈ snap.ops, ¬ DataOf fs snap o.uri) :
    ∀ (us : List URI) (a : FS) (sch : Sched) (D : List URI) (done : List OpCkpt),
    (∀ u ∈ us, DataOf fs snap u) → (∀ u ∈ D, DataOf fs snap u) → (∀ o ∈ done, o ∈ snap.ops) →
    Disc fs jobURI snap sch → WInv fs jobURI snap a → DInv fs sid D a → DocInv fs sid done a →
    Disc fs jobURI snap (copyAllS .work (artPath sid) a sch us).2.2 ∧
    WInv fs jobURI snap (copyAllS .work (artPath sid) a sch us).1 ∧
    DInv fs sid D (copyAllS .work (artPath sid) a sch us).1 ∧
    DocInv fs sid done (copyAllS .work (artPath sid) a sch us).1 ∧
    ((copyAllS .work (artPath sid) a sch us).2.1 = true → DInv fs sid us (copyAllS .work (artPath sid) a sch us).1) := by
  intro us
  induction us with
  | nil =>
    intro a sch D done _ _ _ hd hw hD hdoc
    exact ⟨hd, hw, hD, hdoc, fun _ u hu => by cases hu⟩
  | cons u r ih =>
    intro a sch D done hus hDd hdone hd hw hD hdoc
    obtain ⟨hw1, hd1, hfr⟩ := disc_step fs jobURI snap sch hd a hw
    have hD1 := hD.congr hfr
    have hdoc1 := hdoc.congr hfr
    have hu := hus u (List.mem_cons_self ..)
    simp only [copyAllS]
    cases hr : read (Sched.step a sch).1 (.work u) with
    | none => exact ⟨hd1, hw1, hD1, hdoc1, fun h => by simp at h⟩
    | some c =>
      dsimp only
      have horig : read fs (.work u) = some c := by
        rcases hw1.1 u (Or.inr hu) with h | h
        · rw [← h]; exact hr
        · rw [h] at hr; simp at hr
      have hD2 : DInv fs sid (u :: D) (write (artPath sid u) c (Sched.step a sch).1) := by
        intro v hv
        rcases List.mem_cons.mp hv with rfl | hv
        · exact ⟨c, horig, read_write_eq _ _ _⟩
        · exact hD1.write (fun _ => horig) v hv
      obtain ⟨hdR, hwR, hDR, hdocR, hrR⟩ := ih _ _ (u :: D) done (fun v hv => hus v (List.mem_cons_of_mem _ hv))
        (fun v hv => (List.mem_cons.mp hv).elim (· ▸ hu) (hDd v)) hdone hd1 (hw1.write sid u c) hD2
        (hdoc1.write fun o ho huo => absurd (huo ▸ hu) (hsep o (hdone o ho)))
      refine ⟨hdR, hwR, fun v hv => hDR v (List.mem_cons_of_mem _ hv), hdocR, ?_⟩
      intro hok v hv
      rcases List.mem_cons.mp hv with rfl | hv
      · exact hDR _ (List.mem_cons_self ..)
      · exact hrR hok v hv

/-- the per-operator loop of the repaired creation while the job goes on (discipline): on success every operator
checkpoint processed has, in the artifact, a document with its original entry and that entry's files with their original
content; what was there before stays right -/
theorem createOpsS_disc (fs : FS) (jobURI : URI) (snap : JobSnap) (sid : Nat)
    (hsep : ∀ o ∈ snap.ops, ¬ DataOf fs snap o.uri)
    (hdocs : ∀ o ∈ snap.ops, ∀ o' ∈ snap.ops, o.uri = o'.uri → o.ckptId = o'.ckptId) :
    ∀ (todo : List OpCkpt) (a : FS) (sch : Sched) (D : List URI) (done : List OpCkpt),
    (∀ o ∈ todo, o ∈ snap.ops) → (∀ u ∈ D, DataOf fs snap u) → (∀ o ∈ done, o ∈ snap.ops) →
    Disc fs jobURI snap sch → WInv fs jobURI snap a → DInv fs sid D a → DocInv fs sid done a →
    (createOpsS .byId .writeRead sid a sch todo).2.1 = true →
    Disc fs jobURI snap (createOpsS .byId .writeRead sid a sch todo).2.2 ∧
    WInv fs jobURI snap (createOpsS .byId .writeRead sid a sch todo).1 ∧
    DInv fs sid D (createOpsS .byId .writeRead sid a sch todo).1 ∧
    DocInv fs sid done (createOpsS .byId .writeRead sid a sch todo).1 ∧
    DocInv fs sid todo (createOpsS .byId .writeRead sid a sch todo).1 ∧
    ∀ o ∈ todo, ∀ ck, origEntry fs o = some ck → DInv fs sid ck.files (createOpsS .byId .writeRead sid a sch todo).1 := by
  intro todo
  induction todo with
  | nil =>
    intro a sch D done _ _ _ hd hw hD hdoc _
    refine ⟨hd, hw, hD, hdoc, ?_, ?_⟩
    · intro o ho; cases ho
    · intro o ho; cases ho
  | cons o r ih =>
    intro a sch D done htodo hDd hdone hd hw hD hdoc hok
    have ho := htodo o (List.mem_cons_self ..)
    obtain ⟨cks', files, a2, sch2, hr, hl, hcs, heq⟩ := createOpsS_writeRead_ok hok
    rw [heq] at hok ⊢
    obtain ⟨ck', hfind, rfl⟩ := listFiles_byId_some hl
    -- first storage call: the document is read; it still has the original entry
    obtain ⟨hw1, hd1, hfr⟩ := disc_step fs jobURI snap sch hd a hw
    have horigE : origEntry fs o = some ck' := by
      rcases hw1.2 o ho cks' hr with h | h
      · rw [← h]; exact hfind
      · rw [h] at hfind; cases hfind
    have hdata : ∀ u ∈ ck'.files, DataOf fs snap u := fun u hu => ⟨o, ho, ck', horigE, hu⟩
    have hDd' : ∀ u ∈ ck'.files ++ D, DataOf fs snap u := fun u hu =>
      (List.mem_append.mp hu).elim (hdata u) (hDd u)
    have hcopied := copyAllS_disc fs jobURI snap sid hsep ck'.files _ _ D done hdata hDd hdone hd1 hw1
      (hD.congr hfr) (hdoc.congr hfr)
    rw [hcs] at hcopied
    obtain ⟨hd2, hw2, hD2, hdoc2, hfiles2⟩ := hcopied
    -- last storage call for `o`: the document as read is written
    obtain ⟨hw3, hd3, hfr3⟩ := disc_step fs jobURI snap sch2 hd2 a2 hw2
    have hentry : ∀ o2 ∈ snap.ops, o.uri = o2.uri → findCk cks' o2.ckptId = origEntry fs o2 := by
      intro o2 ho2 huri
      have hid := hdocs o ho o2 ho2 huri
      rw [← origEntry_congr fs huri hid, ← hid, horigE]; exact hfind
    have hD4 : DInv fs sid (ck'.files ++ D) (write (artPath sid o.uri) (.doc cks') (Sched.step a2 sch2).1) := by
      apply DInv.write _ (fun hu => absurd (hDd' _ hu) (hsep o ho))
      intro u hu
      exact (List.mem_append.mp hu).elim ((hfiles2 rfl).congr hfr3 u) (hD2.congr hfr3 u)
    have hdoc4 : DocInv fs sid (o :: done) (write (artPath sid o.uri) (.doc cks') (Sched.step a2 sch2).1) := by
      intro o2 ho2
      rcases List.mem_cons.mp ho2 with rfl | ho2
      · exact ⟨ck', cks', horigE, read_write_eq _ _ _, hfind⟩
      · exact (hdoc2.congr hfr3).write (fun x hx huri => ⟨cks', rfl, hentry x (hdone x hx) huri⟩) o2 ho2
    obtain ⟨hdR, hwR, hDR, hdoneR, htodoR, hfilesR⟩ := ih _ _ (ck'.files ++ D) (o :: done)
      (fun x hx => htodo x (List.mem_cons_of_mem _ hx)) hDd'
      (fun x hx => (List.mem_cons.mp hx).elim (fun h => h ▸ ho) (hdone x)) hd3 (hw3.write sid o.uri (.doc cks')) hD4 hdoc4 hok
    refine ⟨hdR, hwR, fun u hu => hDR u (List.mem_append_right _ hu),
      fun x hx => hdoneR x (List.mem_cons_of_mem _ hx), ?_, ?_⟩
    · intro x hx
      rcases List.mem_cons.mp hx with rfl | hx
      · exact hdoneR _ (List.mem_cons_self ..)
      · exact htodoR x hx
    · intro x hx ck hck
      rcases List.mem_cons.mp hx with rfl | hx
      · rw [horigE] at hck; injection hck with hck; subst hck
        exact fun u hu => hDR u (List.mem_append_left _ hu)
      · exact hfilesR x hx ck hck

theorem createArtifactS_disc (fs fs1 : FS) (jobURI : URI) (snap : JobSnap) (sch : Sched)
    (hdisc : Disc fs jobURI snap sch)
    (hsep : ∀ o ∈ snap.ops, ¬ DataOf fs snap o.uri)
    (hdocs : ∀ o ∈ snap.ops, ∀ o' ∈ snap.ops, o.uri = o'.uri → o.ckptId = o'.ckptId)
    (hc : createArtifactS .byId .writeRead fs jobURI snap sch = (fs1, true)) :
    read fs1 (.spJob snap.id) = read fs (.work jobURI) ∧ ∀ o ∈ snap.ops, OpArtifactOK fs fs1 snap.id o := by
  rw [createArtifactS] at hc
  cases hco : createOpsS .byId .writeRead snap.id fs sch snap.ops with
  | mk a1 rest =>
    obtain ⟨ok, sch1⟩ := rest
    rw [hco] at hc
    cases ok with
    | false => cases hc
    | true =>
      dsimp only at hc
      have hrun := createOpsS_disc fs jobURI snap snap.id hsep hdocs snap.ops fs sch [] []
        (fun o ho => ho) (fun u hu => nomatch hu) (fun o ho => nomatch ho) hdisc (WInv_init fs jobURI snap)
        (fun u hu => nomatch hu) (fun o ho => nomatch ho) (by rw [hco])
      rw [hco] at hrun
      obtain ⟨hd1, hw1, _, _, hdocinv, hfiles⟩ := hrun
      -- last storage call: the job snapshot is copied
      obtain ⟨hw2, _, hfr2⟩ := disc_step fs jobURI snap sch1 hd1 a1 hw1
      cases hr : read (Sched.step a1 sch1).1 (.work jobURI) with
      | none => rw [hr] at hc; cases hc
      | some c =>
        rw [hr] at hc
        simp only [Prod.mk.injEq, and_true] at hc
        subst hc
        have hart : ∀ u, read (write (.spJob snap.id) c (Sched.step a1 sch1).1) (artPath snap.id u) = read a1 (artPath snap.id u) :=
          fun u => (read_write_ne _ _ (by intro hh; cases hh)).trans (hfr2 _ rfl)
        constructor
        · rw [read_write_eq, ← hr]
          rcases hw2.1 jobURI (Or.inl rfl) with h | h
          · exact h
          · rw [h] at hr; cases hr
        · intro o ho
          obtain ⟨ck, cksA, h1, h2, h3⟩ := hdocinv o ho
          obtain ⟨cks0, h4, h5⟩ := origEntry_some h1
          refine ⟨cks0, cksA, ck, h4, h5, by rw [hart]; exact h2, h3, fun u hu => ?_⟩
          obtain ⟨cu, hc1, hc2⟩ := hfiles o ho ck h1 u hu
          exact ⟨cu, hc1, by rw [hart]; exact hc2⟩

theorem jobIdOf_jobURI (id : Nat) : jobIdOf (jobURI id) = some id := by
  simp [jobIdOf, jobURI, Nat.toNat?_repr]

theorem newestLocalId_work (u : URI) (c : Content) (r : FS) :
    newestLocalId ((.work u, c) :: r) =
      match jobIdOf u with
      | some id => max id (newestLocalId r)
      | none => newestLocalId r := rfl

theorem le_newestLocalId (id : Nat) : ∀ (fs : FS) (c : Content), read fs (.work (jobURI id)) = some c →
    id ≤ newestLocalId fs := by
  intro fs
  induction fs with
  | nil => intro c h; cases h
  | cons e r ih =>
    intro c h
    obtain ⟨q, c'⟩ := e
    by_cases hq : q = .work (jobURI id)
    · subst hq
      rw [newestLocalId_work, jobIdOf_jobURI]
      exact Nat.le_max_left _ _
    · rw [read_cons, if_neg hq] at h
      have := ih c h
      cases q with
      | work u =>
        rw [newestLocalId_work]
        split
        · exact Nat.le_trans this (Nat.le_max_right _ _)
        · exact this
      | sp i d b => exact this
      | spJob i => exact this

theorem le_newestSavepointId (id : Nat) : ∀ (fs : FS) (c : Content), read fs (.spJob id) = some c →
    id ≤ newestSavepointId fs := by
  intro fs
  induction fs with
  | nil => intro c h; cases h
  | cons e r ih =>
    intro c h
    obtain ⟨q, c'⟩ := e
    by_cases hq : q = .spJob id
    · subst hq; exact Nat.le_max_left _ _
    · rw [read_cons, if_neg hq] at h
      have := ih c h
      cases q with
      | work u => exact this
      | sp i d b => exact this
      | spJob i => exact Nat.le_trans this (Nat.le_max_right _ _)

theorem le_startCounter (cs : Bool) (fs : FS) (s : JobSnap) :
    s.id ≤ startCounter cs fs s ∧ newestLocalId fs ≤ startCounter cs fs s ∧
      (cs = true → newestSavepointId fs ≤ startCounter cs fs s) := by
  unfold startCounter
  refine ⟨Nat.le_max_left _ _, Nat.le_trans (Nat.le_max_left _ _) (Nat.le_max_right _ _), fun h => ?_⟩
  rw [h, if_pos rfl]
  exact Nat.le_trans (Nat.le_max_right _ _) (Nat.le_max_right _ _)

theorem startStoreWith_some {cs : Bool} {L : Lister} {fs fs' : FS} {sid : Nat} {s : JobSnap} {st : Store}
    (h : startStoreWith cs L fs sid = (fs', some (s, st))) :
    st = { pending := none, ckptId := startCounter cs fs' s } := by
  unfold startStoreWith at h
  cases hl : loadFromSavepoint L fs sid with
  | mk w r =>
    rw [hl] at h
    cases r with
    | none => cases h
    | some s' =>
      simp only [Prod.mk.injEq, Option.some.injEq] at h
      obtain ⟨rfl, rfl, rfl⟩ := h
      rfl

theorem read_fresh_of_le {fs : FS} {f : Nat → Path} {n : Nat} (h : ∀ id c, read fs (f id) = some c → id ≤ n) :
    (∀ id c, read fs (f id) = some c → id < n + 1) ∧ read fs (f (n + 1)) = none := by
  refine ⟨fun id c hc => Nat.lt_succ_of_le (h id c hc), ?_⟩
  cases hr : read fs (f (n + 1)) with
  | none => rfl
  | some c => exact absurd (h _ c hr) (Nat.not_succ_le_self n)

theorem createSavepoint_of_pending {s : Store} {p : Pending} (n : Nat) (hp : s.pending = some p) :
    createSavepoint s n =
      if p.isSp then (s, .spAlready) else ({ s with pending := some { p with isSp := true } }, .sp p.id false) := by
  rw [createSavepoint, hp]

end Rxn.Savepoint
