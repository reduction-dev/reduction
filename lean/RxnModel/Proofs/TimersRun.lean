import RxnModel.Proofs.TimersRefine
import RxnModel.Proofs.TimersOp
/-! Histories: the refinement step lemmas lifted to arbitrary action sequences, for timers not before 1970 and, where the
reported watermarks are not before 1970, for timers at any `int64` timestamp; restore. -/
namespace Rxn.Timers
open Rxn Rxn.Bytes

/-- the outputs of two runs agree action by action: same timers (as a set, each once), in non-decreasing timestamp order -/
def OutputsAgree : List (List (Bytes × Int)) → List (List (Bytes × Int)) → Prop
  | [], [] => True
  | f :: fs, g :: gs => (f.Perm g ∧ f.Pairwise (fun a b => a.2 ≤ b.2) ∧ f.Nodup) ∧ OutputsAgree fs gs
  | _, _ => False

theorem step_refines (r : Registry) (sp : Spec) (kgc start stop : Nat) (h : Rel r sp)
    (hsh : Shape r.store kgc start stop) (op : ROp) (hv : op.valid kgc start stop) :
    Rel (r.step op).1 (sp.step op).1 ∧ Shape (r.step op).1.store kgc start stop ∧
    ((r.step op).2.Perm (sp.step op).2 ∧ (r.step op).2.Pairwise (fun a b => a.2 ≤ b.2) ∧ (r.step op).2.Nodup) := by
  cases op with
  | set key t =>
    obtain ⟨s1, s2⟩ := setTimer_refines r sp kgc start stop h hsh key t hv
    exact ⟨s1, s2, List.Perm.refl _, List.Pairwise.nil, List.nodup_nil⟩
  | adv s v => exact advance_refines r sp kgc start stop h hsh s v
  | touch i =>
    have hst := touch_spec r.store h.inv i
    have hkeys : ∀ x, x ∈ (r.store.touch i).timerKeys ↔ x ∈ r.store.timerKeys := fun x => by
      rw [mem_timerKeys_step h.inv hst, mem_timerKeys]
    exact ⟨h.of_keys hst.inv hst.kgc hkeys h.ups h.wm, hsh.of_step hst,
      List.Perm.refl _, List.Pairwise.nil, List.nodup_nil⟩

theorem run_refines (ops : List ROp) (r : Registry) (sp : Spec) (kgc start stop : Nat) (h : Rel r sp)
    (hsh : Shape r.store kgc start stop) (hv : ∀ op ∈ ops, op.valid kgc start stop) :
    Rel (r.run ops).1 (sp.run ops).1 ∧ Shape (r.run ops).1.store kgc start stop ∧
    OutputsAgree (r.run ops).2 (sp.run ops).2 := by
  induction ops generalizing r sp with
  | nil => exact ⟨h, hsh, trivial⟩
  | cons op ops ih =>
    obtain ⟨s1, s2, s3⟩ := step_refines r sp kgc start stop h hsh op (hv op List.mem_cons_self)
    obtain ⟨i1, i2, i3⟩ := ih (r.step op).1 (sp.step op).1 s1 s2 (fun o ho => hv o (List.mem_cons_of_mem _ ho))
    exact ⟨i1, i2, s3, i3⟩

/-- like `ROp.valid`, but a timer may lie before 1970 (any `int64` of nanoseconds), and reported watermarks are ≥ 0 -/
def ROp.validNN (kgc start stop : Nat) : ROp → Prop
  | .set key t => start ≤ KeySpace.keyGroup kgc key ∧ KeySpace.keyGroup kgc key < stop ∧
      -9223372036854775808 ≤ t ∧ t < 9223372036854775808
  | .adv _ wm => 0 ≤ wm
  | .touch _ => True

def WmNonneg (r : Registry) : Prop := 0 ≤ r.wm ∧ ∀ k x, (k, x) ∈ r.ups → 0 ≤ x

theorem wmNonneg_new (store : Store) (ids : List String) : WmNonneg (Registry.new store ids) :=
  ⟨Int.le_of_eq Wm.regInit_eq.symm,
   List.foldlRecOn (motive := fun u : Wm.Ups => ∀ k x, (k, x) ∈ u → 0 ≤ x) ids _ nofun
     (fun _ hu id _ => Wm.Ups.forall_set hu id (Int.le_of_eq Wm.upstreamInit_eq.symm))⟩

theorem wmNonneg_step (r : Registry) (hnn : WmNonneg r) (kgc start stop : Nat) (op : ROp) (hv : op.validNN kgc start stop) :
    WmNonneg (r.step op).1 := by
  cases op with
  | set key t =>
    have := setTimer_ups_wm r key t
    exact ⟨by rw [Registry.step, this.2]; exact hnn.1, by rw [Registry.step, this.1]; exact hnn.2⟩
  | adv s v =>
    have hall : ∀ k x, (k, x) ∈ r.ups.set s v → 0 ≤ x := Wm.Ups.forall_set hnn.2 s hv
    -- the composite is one of the entries
    obtain ⟨_, k, x, hm, hx⟩ := Wm.Ups.composite_spec (r.ups.set s v) (Wm.Ups.set_ne_nil r.ups s v)
    exact ⟨show 0 ≤ (r.ups.set s v).composite by rw [hx]; exact hall k x hm, hall⟩
  | touch i => exact hnn

theorem step_refines_nn (r : Registry) (sp : Spec) (kgc start stop : Nat) (h : Rel r sp)
    (hsh : Shape r.store kgc start stop) (hnn : WmNonneg r) (op : ROp) (hv : op.validNN kgc start stop) :
    Rel (r.step op).1 (sp.step op).1 ∧ Shape (r.step op).1.store kgc start stop ∧ WmNonneg (r.step op).1 ∧
    ((r.step op).2.Perm (sp.step op).2 ∧ (r.step op).2.Pairwise (fun a b => a.2 ≤ b.2) ∧ (r.step op).2.Nodup) := by
  have hnn' := wmNonneg_step r hnn kgc start stop op hv
  have ok := step_refines r sp kgc start stop h hsh op
  cases op with
  | set key t =>
    obtain ⟨v1, v2, v3, v4⟩ := hv
    by_cases ht : 0 ≤ t
    · have st := ok ⟨v1, v2, ht, v4⟩
      exact ⟨st.1, st.2.1, hnn', st.2.2⟩
    · -- a timer before 1970 while the watermark is at or after it
      obtain ⟨hr, hs⟩ := setTimer_ignored h key (t := t) (by have := hnn.1; omega)
      simp only [Registry.step, Spec.step, hr, hs]
      exact ⟨h, hsh, hnn, List.Perm.refl _, List.Pairwise.nil, List.nodup_nil⟩
  | adv s v =>
    have st := ok trivial
    exact ⟨st.1, st.2.1, hnn', st.2.2⟩
  | touch i =>
    have st := ok trivial
    exact ⟨st.1, st.2.1, hnn', st.2.2⟩

theorem run_refines_nn (ops : List ROp) (r : Registry) (sp : Spec) (kgc start stop : Nat) (h : Rel r sp)
    (hsh : Shape r.store kgc start stop) (hnn : WmNonneg r) (hv : ∀ op ∈ ops, op.validNN kgc start stop) :
    Rel (r.run ops).1 (sp.run ops).1 ∧ Shape (r.run ops).1.store kgc start stop ∧
    OutputsAgree (r.run ops).2 (sp.run ops).2 := by
  induction ops generalizing r sp with
  | nil => exact ⟨h, hsh, trivial⟩
  | cons op ops ih =>
    obtain ⟨s1, s2, s3, s4⟩ := step_refines_nn r sp kgc start stop h hsh hnn op (hv op List.mem_cons_self)
    obtain ⟨i1, i2, i3⟩ := ih (r.step op).1 (sp.step op).1 s1 s2 s3 (fun o ho => hv o (List.mem_cons_of_mem _ ho))
    exact ⟨i1, i2, s4, i3⟩

/-- restore: a registry rebuilt with fresh caches (of any size) over the DB content of a related registry stands for the
same pending set; the watermark starts over -/
theorem restore_rel (r : Registry) (sp : Spec) (kgc start stop : Nat) (h : Rel r sp)
    (hsh : Shape r.store kgc start stop) (hstop : stop ≤ 65536) (maxCache : Nat) (ids : List String) :
    Rel (Registry.new (Store.new r.store.db kgc start stop maxCache) ids) ⟨sp.pending, Wm.Ups.init ids, Wm.regInit⟩ := by
  have hinv := sinv_new r.store.db h.inv.db kgc start stop maxCache hsh.hle hstop
  refine h.of_keys hinv hsh.hkgc.symm (fun x => ?_) rfl rfl
  rw [mem_timerKeys, mem_timerKeys, ownsKey_iff hinv (shape_new _ kgc start stop maxCache hsh.hle), ownsKey_iff h.inv hsh]
  rfl

/-- restore into a different key-group range (rescale): a registry rebuilt with fresh caches over the same DB content for
a sub-range `[start', stop')` of the old range stands for exactly the pending timers whose key group lies in the new range -/
theorem restore_rel_subrange (r : Registry) (sp : Spec) (kgc start stop start' stop' : Nat) (h : Rel r sp)
    (hsh : Shape r.store kgc start stop) (hk0 : 0 < kgc) (hk1 : kgc ≤ 65536) (hstop : stop ≤ 65536)
    (hs1 : start ≤ start') (hs2 : start' ≤ stop') (hs3 : stop' ≤ stop) (maxCache : Nat) (ids : List String) :
    Rel (Registry.new (Store.new r.store.db kgc start' stop' maxCache) ids)
      ⟨sp.pending.filter (fun p => decide (start' ≤ KeySpace.keyGroup kgc p.1) && decide (KeySpace.keyGroup kgc p.1 < stop')),
       Wm.Ups.init ids, Wm.regInit⟩ := by
  have hinv := sinv_new r.store.db h.inv.db kgc start' stop' maxCache hs2 (Nat.le_trans hs3 hstop)
  have hwf : ∀ x ∈ r.store.timerKeys, WF kgc x := fun x hx => hsh.hkgc ▸ h.wf x hx
  refine h.filter hinv hsh.hkgc.symm _ (fun x => ?_) rfl rfl
  rw [mem_timerKeys, ownsKey_iff hinv (shape_new _ kgc start' stop' maxCache hs2), Bool.and_eq_true, decide_eq_true_eq,
    decide_eq_true_eq]
  constructor
  · -- a key group of the new range is one of the old range, so the key is well formed and the group is its own
    rintro ⟨hdb, g, h1, h2, hp⟩
    have hx : x ∈ r.store.timerKeys :=
      (mem_timerKeys _ x).mpr ⟨hdb, (ownsKey_iff h.inv hsh x).mpr ⟨g, Nat.le_trans hs1 h1, Nat.lt_of_lt_of_le h2 hs3, hp⟩⟩
    rw [← (wf_prefix_iff (hwf x hx) hk0 hk1 g (Nat.lt_of_lt_of_le h2 (Nat.le_trans hs3 hstop))).mp hp]
    exact ⟨hx, h1, h2⟩
  · rintro ⟨hx, h1, h2⟩
    exact ⟨((mem_timerKeys _ x).mp hx).1, _, h1, h2, (hwf x hx).hasPrefix⟩

end Rxn.Timers
