import RxnModel.Proofs.CkptSpec
/-!
A handle that is not `unlisted` (`SpecSt.unlisted`: every other handle at the moment the database was reopened from
one of them) is always listed by the running instance and completed there, hence restorable.
-/
namespace Rxn.Ckpt
open Rxn Rxn.Lsm

def UInv (s : State) (sp : SpecSt) : Prop :=
  ∀ id ∈ sp.handles, id ∉ sp.unlisted → id ∈ s.done ∧ ∃ c ∈ s.ckpts, c.id = id

theorem uinv_same {s s' : State} {sp : SpecSt} (h : UInv s sp) (hd : s'.done = s.done) (hc : s'.ckpts = s.ckpts) :
    UInv s' sp := by
  intro id hid hl
  rw [hd, hc]
  exact h id hid hl

theorem uinv_reopen {s s' : State} {sp : SpecSt} {id : Nat} {c : Ckpt} (hcid : c.id = id)
    (hd : s'.done = [c.id]) (hc : s'.ckpts = [c]) : UInv s' (stepSpec s sp (.openBegin id)) := by
  intro i hi hl
  simp only [stepSpec, List.mem_filter, List.mem_append, bne_iff_ne, ne_eq] at hi hl
  have heq : i = id := Decidable.byContradiction fun hne => hl (Or.inr ⟨hi, hne⟩)
  rw [heq, hd, hc, hcid]
  exact ⟨List.mem_singleton_self _, c, List.mem_singleton_self _, hcid⟩

theorem uinv_step (s s' : State) (sp : SpecSt) (a : Act) (h : UInv s sp) (hg : guardOk s a = true)
    (hs : step s a = some s') : UInv s' (stepSpec s sp a) := by
  cases a with
  | write del k v rot =>
    have fr := writeStep_frame (step_write.mp hs).2.2
    exact uinv_same h fr.done fr.ckpts
  | flushBegin n =>
    obtain ⟨_, _, rfl⟩ := step_flushBegin hs
    exact uinv_same h rfl rfl
  | flushCommit =>
    obtain ⟨_, _, _, _, rfl⟩ := step_flushCommit hs
    exact uinv_same h rfl rfl
  | compact rm lvl add =>
    obtain ⟨_, _, rfl⟩ := step_compact hs
    exact uinv_same h rfl rfl
  | saveWal id =>
    obtain ⟨_, _, _, rfl⟩ := step_saveWal hs
    exact uinv_same h rfl rfl
  | replayOne rot =>
    obtain ⟨_, _, _, s1, _, h1, rfl⟩ := step_replayOne.mp hs
    have fr := writeStep_frame h1
    exact uinv_same h fr.done fr.ckpts
  | saveList =>
    rw [step_saveList hs]
    exact uinv_same h rfl rfl
  | destroy =>
    obtain ⟨_, _, _, rfl⟩ := step_destroy hs
    exact uinv_same h rfl rfl
  | orphan id run =>
    rw [(step_orphan hs).2]
    exact uinv_same h rfl rfl
  | crash =>
    rw [step_crash hs]
    exact uinv_same h rfl rfl
  | openBegin id' =>
    obtain ⟨c, _, hc, _, rfl⟩ := step_openBegin hs
    exact uinv_reopen (loadCkpt_some hc).1 rfl rfl
  | «open» id' rots =>
    obtain ⟨c, hc, hr⟩ := step_open.mp hs
    obtain ⟨recs, _, hrep⟩ := restore_some.mp hr
    have fr := replay_frame _ _ _ _ hrep
    rw [stepSpec_open]
    exact uinv_reopen (loadCkpt_some hc).1 fr.done fr.ckpts
  | checkpoint id' =>
    -- the handles with the new id are given up; the others stay listed
    obtain ⟨_, _, rfl⟩ := step_checkpoint hs
    intro id hid hl
    simp only [stepSpec, List.mem_filter, bne_iff_ne, ne_eq] at hid hl
    obtain ⟨hd, c, hc, hcid⟩ := h id hid.1 (fun hm => hl ⟨hm, hid.2⟩)
    exact ⟨hd, c, List.mem_append_left _ hc, hcid⟩
  | saveDoc id' =>
    -- the handle is returned, and counts if the record is still listed
    obtain ⟨_, _, _, _, rfl⟩ := step_saveDoc hs
    intro id hid hl
    simp only [stepSpec] at hid hl
    show id ∈ id' :: s.done ∧ ∃ c ∈ s.ckpts, c.id = id
    have old : id ∈ sp.handles → id ∈ id' :: s.done ∧ ∃ c ∈ s.ckpts, c.id = id := fun hid =>
      (h id hid hl).imp_left (List.mem_cons_of_mem _)
    split at hid
    · rename_i hany
      rcases List.mem_cons.mp hid with rfl | hid
      · exact ⟨List.mem_cons_self, by simpa using hany⟩
      · exact old hid
    · exact old hid
  | retain ids =>
    rw [step_retain hs]
    intro id hid hl
    simp only [stepSpec, List.mem_filter] at hid hl
    obtain ⟨hd, c, hc, hcid⟩ := h id hid.1 (fun hm => hl ⟨hm, hid.2⟩)
    exact ⟨hd, c, List.mem_filter.mpr ⟨hc, by rw [hcid]; exact hid.2⟩, hcid⟩

theorem uinv_run (as : List Act) (s : State) (sp : SpecSt) (hr : runSpec {} {} as = some (s, sp)) : UInv s sp :=
  runSpec_induct uinv_step as {} s {} sp (by intro i hi; cases hi) hr

theorem open_of_retained (s : State) (sp : SpecSt) (h : SInv s sp) (id : Nat) (rots : List Nat)
    (hr : id ∈ s.done ∧ ∃ c ∈ s.ckpts, c.id = id) :
    ∃ r, step s (.open id rots) = some r ∧
      ∀ k, answer (Lsm.get r.db k) = answer (Spec.get (specAt sp.saved id) k) := by
  obtain ⟨hd, c, hc, rfl⟩ := hr
  obtain ⟨sc, hisc, hcap, hsc⟩ := h.ckptsOk c hc
  obtain ⟨r, hst, _, _, hg⟩ := open_of_listed h.finv hisc (by rw [← hcap]; exact hc) hd rots
  exact ⟨r, hst, fun k => (hg k).trans (holds_get hsc k)⟩

end Rxn.Ckpt
