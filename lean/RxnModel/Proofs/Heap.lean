import RxnModel.Model.Heap
/-! The heap order `Inv` (no parent above its child) is kept by `push`, `pop` and `fix`, which permute the contents, and
puts a minimum at the root. `up` and `down` are proved on arrays whose order may fail around one position (`UpInv`,
`DownInv`). -/
namespace Rxn.Heap
variable {α : Type}

/-- what the heap needs from `compare(a, b) < 0`: a strict weak order -/
structure StrictWeak (lt : α → α → Bool) : Prop where
  asymm : ∀ a b, lt a b = true → lt b a = false
  ntrans : ∀ a b c, lt a b = false → lt b c = false → lt a c = false

def le (lt : α → α → Bool) (a b : α) : Prop := lt b a = false

theorem le.trans {lt : α → α → Bool} {a b c : α} (h1 : le lt a b) (sw : StrictWeak lt) (h2 : le lt b c) : le lt a c :=
  sw.ntrans c b a h2 h1

theorem le_of_lt {lt : α → α → Bool} (sw : StrictWeak lt) {a b : α} (h : lt a b = true) : le lt a b := sw.asymm a b h

theorem le.refl {lt : α → α → Bool} (sw : StrictWeak lt) (a : α) : le lt a a := by
  unfold le
  cases h : lt a a with
  | false => rfl
  | true => have := sw.asymm a a h; rw [h] at this; cases this

/-- read through `a[·]?`: a position outside the array makes it hold, and no bound proofs are carried -/
def Rel (lt : α → α → Bool) (a : Array α) (p j : Nat) : Prop :=
  ∀ x y, a[p]? = some x → a[j]? = some y → le lt x y

/-- the parent of `j` is not above `j` -/
def OkPair (lt : α → α → Bool) (a : Array α) (j : Nat) : Prop := 0 < j → Rel lt a ((j - 1) / 2) j

def Inv (lt : α → α → Bool) (a : Array α) : Prop := ∀ j, OkPair lt a j

theorem lt_size_of_get? {a : Array α} {k : Nat} {x : α} (h : a[k]? = some x) : k < a.size := by
  obtain ⟨h', _⟩ := Array.getElem?_eq_some_iff.mp h; exact h'

section
variable {lt : α → α → Bool} {a : Array α} {p j k : Nat}

theorem Rel.of_le (hp : p < a.size) (hj : j < a.size) (h : le lt a[p] a[j]) : Rel lt a p j := by
  intro x y hx hy
  rw [Array.getElem?_eq_getElem hp] at hx; rw [Array.getElem?_eq_getElem hj] at hy
  cases hx; cases hy; exact h

theorem Rel.of_lt (sw : StrictWeak lt) (hp : p < a.size) (hj : j < a.size) (h : lt a[p] a[j] = true) : Rel lt a p j :=
  .of_le hp hj (le_of_lt sw h)

theorem Rel.of_not_lt (hp : p < a.size) (hj : j < a.size) (h : ¬ lt a[j] a[p] = true) : Rel lt a p j :=
  .of_le hp hj ((Bool.not_eq_true _).mp h)

theorem Rel.of_size_le (hj : a.size ≤ j) : Rel lt a p j :=
  fun _ _ _ hy => absurd (lt_size_of_get? hy) (Nat.not_lt.mpr hj)

theorem Rel.refl (sw : StrictWeak lt) : Rel lt a p p := by
  intro x y hx hy
  rw [hx] at hy; cases hy; exact le.refl sw x

theorem Rel.trans (sw : StrictWeak lt) (h1 : Rel lt a p j) (hj : j < a.size) (h2 : Rel lt a j k) : Rel lt a p k :=
  fun x z hx hz => (h1 x a[j] hx (Array.getElem?_eq_getElem hj)).trans sw (h2 a[j] z (Array.getElem?_eq_getElem hj) hz)

theorem Rel.congr {b : Array α} {p' j' : Nat} (h : Rel lt a p' j') (ep : b[p]? = a[p']?) (ej : b[j]? = a[j']?) :
    Rel lt b p j := by
  unfold Rel; rw [ep, ej]; exact h

end

theorem inv_empty (lt : α → α → Bool) : Inv lt #[] := fun _ _ => .of_size_le (Nat.zero_le _)

section
variable {a : Array α} {i j k : Nat} {hi : i < a.size} {hj : j < a.size}

theorem swap_get_left : (a.swap i j hi hj)[i]? = a[j]? := by
  rw [Array.getElem?_eq_getElem hj, Array.getElem?_eq_getElem (by rw [Array.size_swap]; exact hi), Array.getElem_swap_left]

theorem swap_get_right : (a.swap i j hi hj)[j]? = a[i]? := by
  rw [Array.getElem?_eq_getElem hi, Array.getElem?_eq_getElem (by rw [Array.size_swap]; exact hj), Array.getElem_swap_right]

theorem swap_get_ne (hki : k ≠ i) (hkj : k ≠ j) : (a.swap i j hi hj)[k]? = a[k]? := by
  rw [Array.getElem?_swap, if_neg (Ne.symm hkj), if_neg (Ne.symm hki)]

end

/-! The arithmetic of `(j - 1) / 2` is done here; the proofs below use these three facts only. -/

theorem parent_lt {j : Nat} (h : 0 < j) : (j - 1) / 2 < j :=
  Nat.lt_of_le_of_lt (Nat.div_le_self _ _) (Nat.sub_lt h Nat.one_pos)

theorem parent_of_child {i m : Nat} (h : m = 2 * i + 1 ∨ m = 2 * i + 2) : (m - 1) / 2 = i := by
  rcases h with rfl | rfl
  · exact Nat.mul_div_cancel_left i (by decide : 0 < 2)
  · exact (Nat.mul_add_div (by decide : 0 < 2) i 1).trans (Nat.add_zero i)

theorem child_cases {i s : Nat} (h0 : 0 < s) (h : (s - 1) / 2 = i) : s = 2 * i + 1 ∨ s = 2 * i + 2 := by
  -- `s - 1` is `2 * i` plus a remainder 0 or 1
  have hs : s = (s - 1) + 1 := (Nat.sub_add_cancel h0).symm
  have hd : 2 * i + (s - 1) % 2 = s - 1 := h ▸ Nat.div_add_mod (s - 1) 2
  rcases Nat.mod_two_eq_zero_or_one (s - 1) with hm | hm
  · left; rw [hs, ← hd, hm]
  · right; rw [hs, ← hd, hm]

/-- what the pairs at `i` would give by transitivity, kept while those pairs may be wrong -/
def ParentLeChildren (lt : α → α → Bool) (a : Array α) (i : Nat) : Prop :=
  0 < i → ∀ c, 0 < c → (c - 1) / 2 = i → Rel lt a ((i - 1) / 2) c

/-- precondition of `up(i)`: only the pair (parent i, i) may be wrong -/
def UpInv (lt : α → α → Bool) (a : Array α) (i : Nat) : Prop :=
  (∀ j, j ≠ i → OkPair lt a j) ∧ ParentLeChildren lt a i

/-- precondition of `down(i)` / `Fix(i)`: only pairs with `i` as parent or child may be wrong -/
def DownInv (lt : α → α → Bool) (a : Array α) (i : Nat) : Prop :=
  (∀ j, j ≠ i → (j - 1) / 2 ≠ i → OkPair lt a j) ∧ ParentLeChildren lt a i

theorem UpInv.inv {lt : α → α → Bool} {a : Array α} {i : Nat} (h : UpInv lt a i) (hi : OkPair lt a i) : Inv lt a := by
  intro j
  by_cases hji : j = i
  · rw [hji]; exact hi
  · exact h.1 j hji

theorem DownInv.upInv {lt : α → α → Bool} {a : Array α} {i : Nat} (h : DownInv lt a i)
    (hc : ∀ c, 0 < c → (c - 1) / 2 = i → Rel lt a i c) : UpInv lt a i := by
  refine ⟨fun j hji => ?_, h.2⟩
  by_cases hpi : (j - 1) / 2 = i
  · intro hj0; rw [hpi]; exact hc j hj0 hpi
  · exact h.1 j hji hpi

/-- `Fix(i)`'s precondition once the element at `i` is replaced; the order may change as well (`lt'`), as long as
only comparisons with that element notice. -/
theorem downInv_of_inv {lt lt' : α → α → Bool} (sw : StrictWeak lt) {a a' : Array α} {i : Nat} (h : Inv lt a)
    (hi : i < a.size) (hget : ∀ k, k ≠ i → a'[k]? = a[k]?)
    (hle : ∀ p j, p ≠ i → j ≠ i → Rel lt a p j → Rel lt' a p j) : DownInv lt' a' i := by
  constructor
  · intro j hji hpi hj0
    exact (hle _ _ hpi hji (h j hj0)).congr (hget _ hpi) (hget _ hji)
  · intro hi0 c hc0 hcp
    have hpc : Rel lt a ((i - 1) / 2) c := (h i hi0).trans sw hi (by rw [← hcp]; exact h c hc0)
    have hp : (i - 1) / 2 ≠ i := Nat.ne_of_lt (parent_lt hi0)
    have hc : c ≠ i := Nat.ne_of_gt (hcp ▸ parent_lt hc0)
    exact (hle _ _ hp hc hpc).congr (hget _ hp) (hget _ hc)

theorem up_perm (lt : α → α → Bool) (a : Array α) (i : Nat) : (up lt a i).toList.Perm a.toList := by
  fun_induction up lt a i with
  | case2 a i _ _ _ ih => exact ih.trans (Array.swap_perm _ _).toList
  | _ => exact .refl _

theorem down_perm (lt : α → α → Bool) (a : Array α) (i : Nat) : (down lt a i).1.toList.Perm a.toList := by
  fun_induction down lt a i with
  | case1 a i _ _ _ ih => exact ih.trans (Array.swap_perm _ _).toList
  | _ => exact .refl _

theorem size_up (lt : α → α → Bool) (a : Array α) (i : Nat) : (up lt a i).size = a.size :=
  (up_perm lt a i).length_eq

theorem up_inv {lt : α → α → Bool} (sw : StrictWeak lt) (a : Array α) (i : Nat) (h : UpInv lt a i) :
    Inv lt (up lt a i) := by
  fun_induction up lt a i with
  | case1 a => exact h.inv (fun h0 => absurd h0 (Nat.lt_irrefl 0))
  | case2 a i h0 hi hlt ih =>
    -- every pair of the swapped array is a pair of `a`, or a chain of two
    have hi0 : 0 < i := Nat.pos_of_ne_zero h0
    have hpi : (i - 1) / 2 < i := parent_lt hi0
    have hp : (i - 1) / 2 < a.size := Nat.lt_trans hpi hi
    have hip : Rel lt a i ((i - 1) / 2) := .of_lt sw hi hp hlt
    apply ih
    constructor
    · intro j hjp hj0
      by_cases hji : j = i
      · rw [hji]; exact hip.congr swap_get_right swap_get_left
      · by_cases hc : (j - 1) / 2 = i
        · rw [hc]; exact (h.2 hi0 j hj0 hc).congr swap_get_left (swap_get_ne hji hjp)
        · by_cases hs : (j - 1) / 2 = (i - 1) / 2
          · rw [hs]
            exact (hip.trans sw hp (by rw [← hs]; exact h.1 j hji hj0)).congr swap_get_right (swap_get_ne hji hjp)
          · exact (h.1 j hji hj0).congr (swap_get_ne hc hs) (swap_get_ne hji hjp)
    · intro hp0 c hc0 hcp
      have hgp : ((i - 1) / 2 - 1) / 2 < (i - 1) / 2 := parent_lt hp0
      have hg : (a.swap i ((i - 1) / 2) hi hp)[((i - 1) / 2 - 1) / 2]? = a[((i - 1) / 2 - 1) / 2]? :=
        swap_get_ne (Nat.ne_of_lt (Nat.lt_trans hgp hpi)) (Nat.ne_of_lt hgp)
      have hpp : Rel lt a (((i - 1) / 2 - 1) / 2) ((i - 1) / 2) := h.1 _ (Nat.ne_of_lt hpi) hp0
      by_cases hci : c = i
      · rw [hci]; exact hpp.congr hg swap_get_left
      · exact (hpp.trans sw hp (by rw [← hcp]; exact h.1 c hci hc0)).congr hg
          (swap_get_ne hci (Nat.ne_of_gt (hcp ▸ parent_lt hc0)))
  | case3 a i h0 hi hlt =>
    exact h.inv (fun hi0 => .of_not_lt (Nat.lt_trans (parent_lt hi0) hi) hi hlt)
  | case4 a i h0 hi => exact h.inv (fun _ => .of_size_le (Nat.le_of_not_lt hi))

theorem minChild_rel {lt : α → α → Bool} (sw : StrictWeak lt) {a : Array α} {i : Nat} (h : 2 * i + 1 < a.size)
    {s : Nat} (hs0 : 0 < s) (hsp : (s - 1) / 2 = i) : Rel lt a (minChild lt a i h) s := by
  by_cases hs : s < a.size
  · unfold minChild
    rcases child_cases hs0 hsp with e | e <;> subst e
    · split
      next hr =>
        split
        next hlt => exact .of_lt sw hr h hlt
        next => exact .refl sw
      next => exact .refl sw
    · rw [dif_pos hs]
      split
      next => exact .refl sw
      next hlt => exact .of_not_lt h hs hlt
  · exact .of_size_le (Nat.le_of_not_lt hs)

/-- After `down` at most the pair (parent, final position) is wrong; not even that one if the element moved
(`fix` then skips `up`) or the pair was fine before (`pop`, at the root). -/
theorem down_spec {lt : α → α → Bool} (sw : StrictWeak lt) (a : Array α) (i : Nat) (h : DownInv lt a i) :
    i ≤ (down lt a i).2 ∧ UpInv lt (down lt a i).1 (down lt a i).2 ∧
    (OkPair lt a i ∨ i < (down lt a i).2 → OkPair lt (down lt a i).1 (down lt a i).2) := by
  fun_induction down lt a i with
  | case1 a i hl hb hlt ih =>
    obtain ⟨hm, him, hmc⟩ := hb
    have hi : i < a.size := Nat.lt_trans him hm
    have hmp : (minChild lt a i hl - 1) / 2 = i := parent_of_child hmc
    have hok : OkPair lt (a.swap i (minChild lt a i hl) hi hm) (minChild lt a i hl) := by
      intro _; rw [hmp]
      exact (Rel.of_lt sw hm hi hlt).congr swap_get_left swap_get_right
    -- the smaller child moves up to `i`: it is not above its sibling (`minChild_rel`) and `i`'s parent is not above it (`h.2`)
    have hd : DownInv lt (a.swap i (minChild lt a i hl) hi hm) (minChild lt a i hl) := by
      constructor
      · intro j hjm hpm hj0
        by_cases hji : j = i
        · have hpi : (i - 1) / 2 < i := parent_lt (hji ▸ hj0)
          rw [hji]
          exact (h.2 (hji ▸ hj0) _ (Nat.zero_lt_of_lt him) hmp).congr
            (swap_get_ne (Nat.ne_of_lt hpi) (Nat.ne_of_lt (Nat.lt_trans hpi him))) swap_get_left
        · by_cases hpi : (j - 1) / 2 = i
          · rw [hpi]; exact (minChild_rel sw hl hj0 hpi).congr swap_get_left (swap_get_ne hji hjm)
          · exact (h.1 j hji hpi hj0).congr (swap_get_ne hpi hpm) (swap_get_ne hji hjm)
      · intro _ c hc0 hcp
        have hmc : minChild lt a i hl < c := hcp ▸ parent_lt hc0
        have hci : c ≠ i := Nat.ne_of_gt (Nat.lt_trans him hmc)
        rw [hmp]
        have : Rel lt a (minChild lt a i hl) c := by
          rw [← hcp]; exact h.1 c hci (by rw [hcp]; exact Nat.ne_of_gt him) hc0
        exact this.congr swap_get_left (swap_get_ne hci (Nat.ne_of_gt hmc))
    obtain ⟨r1, r2, r3⟩ := ih hd
    exact ⟨Nat.le_trans (Nat.le_of_lt him) r1, r2, fun _ => r3 (.inl hok)⟩
  | case2 a i hl hb hlt =>
    refine ⟨Nat.le_refl i, h.upInv fun c hc0 hcp => ?_, fun ho => ho.elim id (absurd · (Nat.lt_irrefl i))⟩
    exact (Rel.of_not_lt (Nat.lt_trans hb.2.1 hb.1) hb.1 hlt).trans sw hb.1 (minChild_rel sw hl hc0 hcp)
  | case3 a i hl =>
    refine ⟨Nat.le_refl i, h.upInv fun c hc0 hcp => .of_size_le ?_, fun ho => ho.elim id (absurd · (Nat.lt_irrefl i))⟩
    rcases child_cases hc0 hcp with e | e
    · rw [e]; exact Nat.le_of_not_lt hl
    · rw [e]; exact Nat.le_succ_of_le (Nat.le_of_not_lt hl)

theorem root_min {lt : α → α → Bool} (sw : StrictWeak lt) (a : Array α) (h : Inv lt a) (j : Nat) : Rel lt a 0 j := by
  induction j using Nat.strongRecOn with
  | _ j ih =>
    by_cases hj : j = 0
    · rw [hj]; exact .refl sw
    · by_cases hjs : j < a.size
      · have hj0 : 0 < j := Nat.pos_of_ne_zero hj
        exact (ih _ (parent_lt hj0)).trans sw (Nat.lt_trans (parent_lt hj0) hjs) (h j hj0)
      · exact .of_size_le (Nat.le_of_not_lt hjs)

theorem root_le_all {lt : α → α → Bool} (sw : StrictWeak lt) (a : Array α) (h : Inv lt a) (x : α) (hx : a[0]? = some x) :
    ∀ y ∈ a.toList, le lt x y := by
  intro y hy
  obtain ⟨k, hk, hky⟩ := Array.getElem_of_mem (Array.mem_toList_iff.mp hy)
  exact root_min sw a h k x y hx (by rw [Array.getElem?_eq_getElem hk, hky])

theorem push_inv {lt : α → α → Bool} (sw : StrictWeak lt) (a : Array α) (x : α) (h : Inv lt a) :
    Inv lt (push lt a x) := by
  have hget : ∀ k, k ≠ a.size → (a.push x)[k]? = a[k]? := fun k hk => by rw [Array.getElem?_push, if_neg hk]
  -- the new slot is the last one: it has no children, and a position behind it holds nothing
  refine up_inv sw _ _ ⟨fun j hj hj0 => ?_, fun _ c hc0 hcp => .of_size_le ?_⟩
  · by_cases hjs : j < a.size
    · exact (h j hj0).congr (hget _ (Nat.ne_of_lt (Nat.lt_trans (parent_lt hj0) hjs))) (hget _ hj)
    · refine .of_size_le ?_
      rw [Array.size_push]
      exact Nat.lt_of_le_of_ne (Nat.le_of_not_lt hjs) (Ne.symm hj)
  · rw [Array.size_push]
    exact hcp ▸ parent_lt hc0

theorem push_perm (lt : α → α → Bool) (a : Array α) (x : α) : (push lt a x).toList.Perm (x :: a.toList) := by
  unfold push
  refine (up_perm lt _ _).trans ?_
  rw [Array.toList_push]
  exact List.perm_append_singleton x a.toList

theorem fix_inv {lt : α → α → Bool} (sw : StrictWeak lt) (a : Array α) (i : Nat) (h : DownInv lt a i) :
    Inv lt (fix lt a i) := by
  obtain ⟨r1, r2, r3⟩ := down_spec sw a i h
  unfold fix
  by_cases hm : (down lt a i).2 > i
  · simp only [hm, if_true]
    exact r2.inv (r3 (.inr hm))
  · simp only [hm, if_false]
    rw [Nat.le_antisymm (Nat.le_of_not_lt hm) r1] at r2
    exact up_inv sw _ _ r2

theorem fix_perm (lt : α → α → Bool) (a : Array α) (i : Nat) : (fix lt a i).toList.Perm a.toList := by
  unfold fix
  simp only
  split
  · exact down_perm lt a i
  · exact (up_perm lt _ _).trans (down_perm lt a i)

theorem pop_none (lt : α → α → Bool) (a : Array α) : pop lt a = none ↔ a.size = 0 := by
  unfold pop
  by_cases h : 0 < a.size
  · rw [dif_pos h]
    constructor
    · intro e; cases e
    · intro e; exact absurd e (Nat.ne_of_gt h)
  · rw [dif_neg h]
    exact ⟨fun _ => Nat.eq_zero_of_not_pos h, fun _ => rfl⟩

theorem Inv.pop {lt : α → α → Bool} {a : Array α} (h : Inv lt a) : Inv lt a.pop := by
  have hsub : ∀ (k : Nat) (x : α), a.pop[k]? = some x → a[k]? = some x := by
    intro k x hk
    rw [Array.getElem?_pop] at hk
    split at hk
    · exact hk
    · cases hk
  exact fun j hj0 x y hx hy => h j hj0 x y (hsub _ _ hx) (hsub _ _ hy)

theorem pop_perm (a : Array α) (h0 : 0 < a.size) :
    a.toList.Perm (a[0] :: ((a.set 0 (a[a.size - 1]'(by omega))).pop).toList) := by
  -- as lists: `x :: t` becomes `last t :: dropLast t` (nothing when `t` is empty)
  obtain ⟨l⟩ := a
  cases l with
  | nil => cases h0
  | cons x t =>
    simp only [List.size_toArray, List.length_cons, Nat.add_sub_cancel, List.getElem_toArray, List.getElem_cons_zero,
      List.set_toArray, List.set_cons_zero, List.pop_toArray]
    refine (List.perm_cons x).mpr ?_
    cases t with
    | nil => exact .refl _
    | cons y t' =>
      have hne : y :: t' ≠ [] := List.cons_ne_nil _ _
      have hl : (x :: y :: t')[(y :: t').length]'(by simp) = (y :: t').getLast hne := by
        rw [List.getLast_eq_getElem]; rfl
      rw [List.dropLast_cons_cons]
      simp only [hl]
      exact ((List.perm_append_singleton _ _).symm.trans (by rw [List.dropLast_concat_getLast])).symm

theorem pop_spec {lt : α → α → Bool} (sw : StrictWeak lt) (a : Array α) (h : Inv lt a) (x : α) (a' : Array α)
    (hp : pop lt a = some (x, a')) :
    Inv lt a' ∧ a.toList.Perm (x :: a'.toList) ∧ ∀ y ∈ a.toList, le lt x y := by
  unfold pop at hp
  by_cases h0 : 0 < a.size
  · rw [dif_pos h0] at hp
    simp only [Option.some.injEq, Prod.mk.injEq] at hp
    obtain ⟨hx, ha'⟩ := hp
    subst hx
    refine ⟨?_, ?_, root_le_all sw a h _ (Array.getElem?_eq_getElem h0)⟩
    · by_cases hn : 0 < a.size - 1
      · rw [if_pos hn] at ha'
        have hd : DownInv lt ((a.set 0 (a[a.size - 1]'(by omega))).pop) 0 :=
          downInv_of_inv sw h.pop (by rw [Array.size_pop]; exact hn)
            (fun k hk => by
              rw [Array.getElem?_pop, Array.getElem?_pop, Array.size_set, Array.getElem?_set, if_neg (Ne.symm hk)])
            (fun _ _ _ _ hr => hr)
        obtain ⟨_, r2, r3⟩ := down_spec sw _ 0 hd
        rw [← ha']
        exact r2.inv (r3 (.inl (fun hh => absurd hh (Nat.lt_irrefl 0))))
      · rw [if_neg hn] at ha'
        rw [← ha']
        refine fun j _ => .of_size_le ?_
        rw [Array.size_pop, Array.size_set]
        exact Nat.le_trans (Nat.le_of_not_lt hn) (Nat.zero_le j)
    · refine (pop_perm a h0).trans ((List.perm_cons _).mpr ?_)
      rw [← ha']
      split
      · exact (down_perm lt _ 0).symm
      · exact .refl _
  · rw [dif_neg h0] at hp; cases hp

end Rxn.Heap
