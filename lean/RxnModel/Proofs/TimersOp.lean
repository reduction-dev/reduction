import RxnModel.Model.Timers
import RxnModel.Proofs.Watermark
/-! Lemmas about the operator event loop model (`Timers.Op`): what a flush tells the handler, conservation of events. -/
namespace Rxn.Timers
open Rxn

theorem setTimer_ups_wm (r : Registry) (k : Bytes) (t : Int) :
    (r.setTimer k t).ups = r.ups ∧ (r.setTimer k t).wm = r.wm := by
  unfold Registry.setTimer
  split
  · exact ⟨rfl, rfl⟩
  · exact ⟨rfl, rfl⟩

/-- what `Op.flush` does to the registry for one event of the batch -/
def handlerFold (r : Registry) (e : HEv) : Registry :=
  match e with
  | .keyed k ts => ts.foldl (fun r t => r.setTimer k t) r
  | .expired _ _ => r

theorem handlerFold_ups_wm (es : List HEv) (r : Registry) :
    (es.foldl handlerFold r).ups = r.ups ∧ (es.foldl handlerFold r).wm = r.wm := by
  let P (r' : Registry) := r'.ups = r.ups ∧ r'.wm = r.wm
  have hset (k : Bytes) (r' : Registry) (t : Int) (h : P r') : P (r'.setTimer k t) :=
    ⟨(setTimer_ups_wm r' k t).1.trans h.1, (setTimer_ups_wm r' k t).2.trans h.2⟩
  refine List.foldlRecOn (motive := P) es handlerFold ⟨rfl, rfl⟩ (fun r' h e _ => ?_)
  cases e with
  | keyed k ts => exact List.foldlRecOn (motive := P) ts _ h (fun r'' h' t _ => hset k r'' t h')
  | expired _ _ => exact h

/-- all events that reached the handler or are still batched -/
def allEvents (reqs : List Req) (o : Op) : List HEv := reqs.flatMap (·.events) ++ o.batch

structure KeepsWm (u : Wm.Ups) (w : Int) (res : Op × List Req) : Prop where
  ups : res.1.reg.ups = u
  wm : res.1.reg.wm = w
  told : ∀ r ∈ res.2, r.told = w

theorem KeepsWm.refl (o : Op) : KeepsWm o.reg.ups o.reg.wm (o, []) := ⟨rfl, rfl, nofun⟩

theorem KeepsWm.trans {u : Wm.Ups} {w : Int} {a r : Op × List Req} (ha : KeepsWm u w a)
    (hr : KeepsWm a.1.reg.ups a.1.reg.wm r) : KeepsWm u w (r.1, a.2 ++ r.2) := by
  refine ⟨hr.ups.trans ha.ups, hr.wm.trans ha.wm, fun x hx => ?_⟩
  rcases List.mem_append.mp hx with h | h
  · exact ha.told x h
  · exact (hr.told x h).trans ha.wm

theorem flush_ok (o : Op) : KeepsWm o.reg.ups o.reg.wm o.flush ∧ allEvents o.flush.2 o.flush.1 = o.batch := by
  unfold Op.flush
  by_cases h : o.batch.isEmpty
  · simp only [h, if_true]
    exact ⟨KeepsWm.refl o, by simp [allEvents]⟩
  · simp only [h]
    have hm := handlerFold_ups_wm o.batch o.reg
    refine ⟨⟨hm.1, hm.2, ?_⟩, by simp [allEvents]⟩
    intro r hr
    have hr' : r = ⟨o.batch, o.reg.wm⟩ := by simpa using hr
    subst hr'; rfl

theorem flush_reg (o : Op) : o.flush.1.reg = o.batch.foldl handlerFold o.reg ∧ o.flush.1.batch = [] := by
  by_cases h : o.batch.isEmpty = true
  · have hf : o.flush = (o, []) := by unfold Op.flush; rw [if_pos h]
    have hb : o.batch = [] := List.isEmpty_iff.mp h
    rw [hf, hb]
    exact ⟨rfl, rfl⟩
  · have hf : o.flush.1 = { o with reg := o.batch.foldl handlerFold o.reg, batch := [] } := by
      unfold Op.flush; rw [if_neg h]; rfl
    rw [hf]
    exact ⟨rfl, rfl⟩

theorem add_ok (o : Op) (e : HEv) :
    KeepsWm o.reg.ups o.reg.wm (o.add e) ∧ allEvents (o.add e).2 (o.add e).1 = o.batch ++ [e] := by
  unfold Op.add
  by_cases h : ({ o with batch := o.batch ++ [e] } : Op).batch.length ≥ ({ o with batch := o.batch ++ [e] } : Op).maxBatch
  · simp only [h, if_true]
    exact flush_ok ({ o with batch := o.batch ++ [e] } : Op)
  · simp only [h, if_false]
    exact ⟨⟨rfl, rfl, nofun⟩, by simp [allEvents]⟩

theorem allEvents_append (r1 r2 : List Req) (o : Op) :
    allEvents (r1 ++ r2) o = r1.flatMap (·.events) ++ allEvents r2 o := by
  simp [allEvents, List.flatMap_append]

theorem allEvents_step (o : Op) (e : HEv) {r : Op × List Req} {new : List HEv}
    (hr : allEvents r.2 r.1 = (o.add e).1.batch ++ new) :
    allEvents ((o.add e).2 ++ r.2) r.1 = o.batch ++ e :: new := by
  rw [allEvents_append, hr, ← List.append_assoc, ← allEvents, (add_ok o e).2, List.append_assoc]
  rfl

theorem Op.fireLoop_done (comp : Int) {o : Op} (h : o.reg.store.nextDue comp = none) (n : Nat) : Op.fireLoop comp n o = (o, []) := by
  cases n with
  | zero => rfl
  | succ n =>
    rcases nextDue_eq_none.mp h with he | ⟨k, he, hk⟩
    · simp only [Op.fireLoop, he]
    · simp only [Op.fireLoop, he, (Wm.fireStop_iff _ _).mpr hk, if_true]

theorem Op.fireLoop_fire (comp : Int) {o : Op} {k : Bytes} (h : o.reg.store.nextDue comp = some k) (n : Nat) :
    Op.fireLoop comp (n + 1) o =
      let a := ({ o with reg := { o.reg with store := o.reg.store.deleteKey k } } : Op).add (.expired (timerOf k).1 (timerOf k).2)
      ((Op.fireLoop comp n a.1).1, a.2 ++ (Op.fireLoop comp n a.1).2) := by
  obtain ⟨he, hc⟩ := nextDue_eq_some.mp h
  have : ¬ Wm.timeCond Facts.fireStopCond (timerOf k).2 comp = true := fun e =>
    Int.not_lt.mpr hc ((Wm.fireStop_iff _ _).mp e)
  simp only [Op.fireLoop, he, this, Bool.false_eq_true, if_false]

theorem opFireLoop_ok (comp : Int) (n : Nat) (o : Op) :
    KeepsWm o.reg.ups o.reg.wm (Op.fireLoop comp n o) ∧
    ∃ new, allEvents (Op.fireLoop comp n o).2 (Op.fireLoop comp n o).1 = o.batch ++ new ∧
      ∀ e ∈ new, ∃ k t, e = HEv.expired k t ∧ t ≤ comp := by
  induction n generalizing o with
  | zero => exact ⟨KeepsWm.refl o, [], (List.append_nil _).symm, nofun⟩
  | succ n ih =>
    cases he : o.reg.store.nextDue comp with
    | none =>
      rw [Op.fireLoop_done comp he]
      exact ⟨KeepsWm.refl o, [], by simp [allEvents], nofun⟩
    | some k =>
      rw [Op.fireLoop_fire comp he]
      have hle := (nextDue_eq_some.mp he).2
      let o1 : Op := { o with reg := { o.reg with store := o.reg.store.deleteKey k } }
      have ha := (add_ok o1 (.expired (timerOf k).1 (timerOf k).2)).1
      obtain ⟨hr, new, hnew, hall⟩ := ih (o1.add (.expired (timerOf k).1 (timerOf k).2)).1
      -- deleting the key leaves the upstream map and the watermark of `o` in `o1`
      refine ⟨ha.trans hr, (HEv.expired (timerOf k).1 (timerOf k).2) :: new, allEvents_step o1 _ hnew, ?_⟩
      intro e he
      rcases List.mem_cons.mp he with h | h
      · exact ⟨_, _, h, hle⟩
      · exact hall e h

/-- the registry's upstream map and watermark are those of a deployment with runners `s.1` that has received the messages `s.2` -/
def Tracks (o : Op) (s : List String × List (String × Int)) : Prop :=
  (o.reg.ups, o.reg.wm) = Wm.reportAll (Wm.Ups.init s.1, Wm.regInit) s.2

theorem KeepsWm.tracks {o : Op} {res : Op × List Req} (hk : KeepsWm o.reg.ups o.reg.wm res)
    {s : List String × List (String × Int)} (h : Tracks o s) :
    Tracks res.1 s ∧ ∀ r ∈ res.2, r.told = (Wm.reportAll (Wm.Ups.init s.1, Wm.regInit) s.2).2 := by
  unfold Tracks at h ⊢
  refine ⟨by rw [hk.ups, hk.wm]; exact h, fun r hr => ?_⟩
  rw [hk.told r hr, ← h]

open Rxn.Wm in
theorem step_tracks (o : Op) (s : List String × List (String × Int)) (h : Tracks o s) (e : OpEv) :
    Tracks (o.step e).1 (epochOf s [e]) ∧
    ∀ r ∈ (o.step e).2, r.told = (reportAll (Ups.init (epochOf s [e]).1, regInit) (epochOf s [e]).2).2 := by
  obtain ⟨ids, ms⟩ := s
  cases e with
  | keyed k ts => exact (add_ok o (.keyed k ts)).1.tracks h
  | wmark sd v =>
    have h1 : Tracks { o with reg := { o.reg with ups := (o.reg.ups.report sd v).1, wm := (o.reg.ups.report sd v).2 } }
        (ids, ms ++ [(sd, v)]) := by
      unfold Tracks at h ⊢
      rw [reportAll_append, ← h]; rfl
    exact (opFireLoop_ok _ _ _).1.tracks h1
  | redeploy st ids' => exact ⟨rfl, nofun⟩
  | complete sd => exact (flush_ok o).1.tracks h
  | barrier => exact (flush_ok o).1.tracks h

theorem epochOf_append (s : List String × List (String × Int)) (a b : List OpEv) :
    epochOf s (a ++ b) = epochOf (epochOf s a) b := by
  induction a generalizing s with
  | nil => rfl
  | cons e a ih =>
    obtain ⟨ids, ms⟩ := s
    cases e with
    | keyed k ts => exact ih _
    | wmark sd v => exact ih _
    | redeploy st ids' => exact ih _
    | complete sd => exact ih _
    | barrier => exact ih _

theorem runState_tracks (evs : List OpEv) (o : Op) (s : List String × List (String × Int)) (h : Tracks o s) :
    Tracks (o.runState evs) (epochOf s evs) := by
  induction evs generalizing o s with
  | nil => exact h
  | cons e es ih =>
    have := ih (o.step e).1 (epochOf s [e]) (step_tracks o s h e).1
    rw [← epochOf_append] at this
    exact this

end Rxn.Timers
