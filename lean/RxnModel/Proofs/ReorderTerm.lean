import RxnModel.Proofs.Reorder
/-! Progress and termination of the internal actions of `Model/Reorder.lean` (for C20). -/
namespace Rxn.Reorder
variable {α ρ β : Type}

def rank : Pc α → Nat
  | .idle => 0
  | .added => 6
  | .enter => 4
  | .locked => 3
  | .mid _ => 2

def Pc.isMid : Pc α → Bool
  | .mid _ => true
  | _ => false

/-- fetches that will fail and have not reported their error yet -/
def pendErr (fails : Nat → Bool) (s : St α ρ) : Nat :=
  (s.inflight.filter (fun p => fails p.1 && !s.errored.contains p.1)).length

/-- lexicographic measure: (work of the two flushers and an unflushed batch, fetches in flight, unreported errors,
batches not yet dequeued, results not yet received, drain bookkeeping).
A batch waiting for the idle producer's `pFlush` weighs 5, more than the `enter` that `pFlush` leads to; `added` weighs 6,
more than that 5, since `pIsFull` may leave the producer idle with a non-empty batch. `fetchDone` raises `drainers` and
`drainNext` may raise `curOf drainer`, but each lowers an earlier component. `send` moves a result from `curOf drainer`
(counted twice) to `outq` (once); ending the drain gives up a `drainers` (counted twice) for `drainer = none` (once). -/
def mu (fails : Nat → Bool) (s : St α ρ) : Nat × Nat × Nat × Nat × Nat × Nat :=
  ((if !s.b.batch.isEmpty && s.pp.isIdle then 5 else 0) + rank s.pp + rank s.tp,
   s.inflight.length, pendErr fails s, s.nextSeq - s.drainedSeq,
   2 * (curOf s.drainer).length + s.outq.length,
   2 * s.drainers + (if s.drainer.isNone then 1 else 0))

abbrev Lt6 : (Nat × Nat × Nat × Nat × Nat × Nat) → (Nat × Nat × Nat × Nat × Nat × Nat) → Prop :=
  Prod.Lex (· < ·) (Prod.Lex (· < ·) (Prod.Lex (· < ·) (Prod.Lex (· < ·) (Prod.Lex (· < ·) (· < ·)))))

theorem lt6_wf : WellFounded Lt6 :=
  (Prod.lex Nat.lt_wfRel (Prod.lex Nat.lt_wfRel (Prod.lex Nat.lt_wfRel (Prod.lex Nat.lt_wfRel
    (Prod.lex Nat.lt_wfRel Nat.lt_wfRel))))).wf

/-- the actions that need neither new input nor a timer expiry (`tmoRecv`, the timeout goroutine taking an expired token,
counts with the expiry); the producer's explicit `Flush` only while there is something to flush -/
def internalAct (s : St α ρ) : Act α → Bool
  | .pAdd _ => false
  | .fire => false
  | .stale => false
  | .tmoRecv => false
  | .pFlush => !s.b.batch.isEmpty
  | _ => true

theorem inputOf_internal (s : St α ρ) (a : Act α) (h : internalAct s a = true) : inputOf a = [] :=
  inputOf_eq_nil fun _ e => by rw [e] at h; cases h

/-- what progress and termination need beyond `Inv`: `Reserve` has at least one slot, the timeout goroutine never calls
`batcher.Add`, and while the producer is between `batcher.Flush` and `Reserve` nobody adds, so the batch stays empty -/
structure Ctl (s : St α ρ) : Prop where
  cap : 0 < s.cap
  tmo : s.tp ≠ .added
  mid : s.pp.isMid = true → s.b.batch = []

theorem init_ctl (maxSize : Nat) (hasDelay : Bool) (bufferSize : Nat) :
    Ctl (init maxSize hasDelay bufferSize : St α ρ) :=
  ⟨by simp only [init]; split <;> omega, by simp [init], by simp [init, Pc.isMid]⟩

theorem ctl_step {f : List α → List ρ} {fails : Nat → Bool} {b : Bool} {s s' : St α ρ} {a : Act α} {o : List ρ}
    (h : Ctl s) (hs : step f fails b s a = some (s', o)) : Ctl s' := by
  cases Step.of_step hs with
  | pAdd _ _ | pFlush _ => exact ⟨h.cap, h.tmo, by simp [Pc.isMid]⟩
  | pIsFull hp => exact ⟨h.cap, h.tmo, by dsimp only; split <;> simp [Pc.isMid]⟩
  | tmoRecv hp hn => exact ⟨h.cap, by simp, h.mid⟩
  | flushA t hp =>
    cases t
    · exact ⟨h.cap, h.tmo, fun _ => Batcher.flush_cur_batch _⟩
    · exact ⟨h.cap, by simp [setPc], fun _ => Batcher.flush_cur_batch _⟩
  | lock t _ _ | unlock t _ | reserve t _ _ =>
    cases t
    · exact ⟨h.cap, h.tmo, by simp [setPc, Pc.isMid]⟩
    · exact ⟨h.cap, by simp [setPc], h.mid⟩
  | _ => exact ⟨h.cap, h.tmo, h.mid⟩

theorem inv_ctl_of_exec_init {f : List α → List ρ} {fails : Nat → Bool} {maxSize : Nat} {hasDelay : Bool} {bufferSize : Nat}
    {as : List (Act α)} {r : Run α ρ} (hrun : exec f fails true { st := init maxSize hasDelay bufferSize } as = some r) :
    (∃ hist, Inv f fails r hist) ∧ Ctl r.st :=
  ⟨exec_inv f fails as _ r [] (init_inv f fails maxSize hasDelay bufferSize) hrun,
   exec_induction (P := fun r => Ctl r.st) (fun _ _ _ _ h hs => ctl_step h hs) as _ r hrun
     (init_ctl maxSize hasDelay bufferSize)⟩

def bufAct (s : St α ρ) (a : Act α) : Prop :=
  a = .drainStart ∨ a = .drainNext ∨ a = .send ∨ a = .recv ∨ a = .fetchErr s.drainedSeq ∨ a = .fetchDone s.drainedSeq

theorem bufAct_internal {s : St α ρ} {a : Act α} (h : bufAct s a) : internalAct s a = true := by
  rcases h with rfl | rfl | rfl | rfl | rfl | rfl <;> rfl

section
variable {f : List α → List ρ} {fails : Nat → Bool} {r : Run α ρ} {hist : List (Nat × List α)}

theorem Inv.drainer_moves (h : Inv f fails r hist) {l : List ρ} (hd : r.st.drainer = some l) :
    ∃ a : Act α, bufAct r.st a ∧ (step f fails true r.st a).isSome = true := by
  cases l with
  | nil =>
    refine ⟨.drainNext, .inr (.inl rfl), ?_⟩
    cases hx : r.st.items r.st.drainedSeq with
    | some x =>
      -- the number it dequeues was reserved, so `<-b.reserved` does not block
      obtain ⟨_, p, hp, _⟩ := h.buf.itm _ x hx
      have := getElem?_lt_of_some hp
      obtain ⟨n, hn⟩ := Nat.exists_eq_succ_of_ne_zero (n := r.st.reserved) (by have := h.buf.len; have := h.buf.hres; omega)
      exact (Step.drainTake hd hx hn).enabled
    | none =>
      obtain ⟨n, hn⟩ := Nat.exists_eq_succ_of_ne_zero (Nat.ne_of_gt (h.buf.dact (by simp [hd])))
      exact (Step.drainEnd hd hx hn).enabled
  | cons x rest =>
    by_cases hroom : r.st.outq.length < r.st.ocap
    · exact ⟨.send, .inr (.inr (.inl rfl)), (Step.send hd hroom).enabled⟩
    · refine ⟨.recv, .inr (.inr (.inr (.inl rfl))), ?_⟩
      cases hq : r.st.outq with
      | cons y q => exact (Step.recvQ hq).enabled
      | nil => exact (Step.recvDirect hq (by simpa [hq] using hroom) hd).enabled

theorem Inv.buf_progress (h : Inv f fails r hist) (hp : r.st.drainedSeq < r.st.nextSeq) :
    ∃ a : Act α, bufAct r.st a ∧ (step f fails true r.st a).isSome = true := by
  cases hd : r.st.drainer with
  | some l => exact h.drainer_moves hd
  | none =>
    rcases h.buf.cover _ (Nat.le_refl _) hp with hc | ⟨e, he⟩
    · obtain ⟨n, hn⟩ := Nat.exists_eq_succ_of_ne_zero (Nat.ne_of_gt (h.buf.live hc))
      exact ⟨.drainStart, .inl rfl, (Step.drainStart hd hn).enabled⟩
    · obtain ⟨evs, hl⟩ := lookupSeq_of_mem he
      cases hg : (fails r.st.drainedSeq && !r.st.errored.contains r.st.drainedSeq)
      · exact ⟨.fetchDone _, .inr (.inr (.inr (.inr (.inr rfl)))), (Step.fetchDone _ hd hl hg).enabled⟩
      · exact ⟨.fetchErr _, .inr (.inr (.inr (.inr (.inl rfl)))), (Step.fetchErr _ hl hg).enabled⟩

theorem Inv.buf_moves_or_rest (h : Inv f fails r hist) :
    (∃ a : Act α, bufAct r.st a ∧ (step f fails true r.st a).isSome = true) ∨
    (r.st.inflight = [] ∧ r.st.drainers = 0 ∧ r.st.outq = []) := by
  by_cases hp : r.st.drainedSeq < r.st.nextSeq
  · exact .inl (h.buf_progress hp)
  cases hd : r.st.drainer with
  | some l => exact .inl (h.drainer_moves hd)
  | none =>
    cases hn : r.st.drainers with
    | succ n => exact .inl ⟨.drainStart, .inl rfl, (Step.drainStart hd hn).enabled⟩
    | zero =>
      cases hq : r.st.outq with
      | cons y q => exact .inl ⟨.recv, .inr (.inr (.inr (.inl rfl))), (Step.recvQ hq).enabled⟩
      | nil =>
        refine .inr ⟨?_, rfl, rfl⟩
        -- a fetch in flight has a reserved number that is not dequeued
        cases hi : r.st.inflight with
        | nil => rfl
        | cons x xs =>
          obtain ⟨_, h2, _⟩ := h.buf.infl x.1 x.2 (by rw [hi]; exact List.mem_cons_self)
          have := getElem?_lt_of_some h2
          have := h.buf.len; omega

theorem Inv.holder_moves (h : Inv f fails r hist) (hc : Ctl r.st) (t : Tid) (ht : (pc r.st t).holds = true) :
    ∃ a : Act α, internalAct r.st a = true ∧ (step f fails true r.st a).isSome = true := by
  cases hpc : pc r.st t with
  | locked => exact ⟨.flushA t, rfl, (Step.flushA t hpc).enabled⟩
  | mid evs =>
    cases evs with
    | nil => exact ⟨.flushB t, rfl, (Step.unlock t hpc).enabled⟩
    | cons e es =>
      by_cases hroom : r.st.reserved < r.st.cap
      · exact ⟨.flushB t, rfl, (Step.reserve t hpc hroom).enabled⟩
      -- `Reserve` blocks: the buffer is full and its capacity positive, so the buffer side moves
      · obtain ⟨a, ha, he⟩ := h.buf_progress (by have := h.buf.hres; have := hc.cap; omega)
        exact ⟨a, bufAct_internal ha, he⟩
  | idle | added | enter => rw [hpc] at ht; cases ht

theorem Inv.flusher_moves (h : Inv f fails r hist) (hc : Ctl r.st) (t : Tid) (ht : ¬ (pc r.st t).isIdle = true) :
    ∃ a : Act α, internalAct r.st a = true ∧ (step f fails true r.st a).isSome = true := by
  cases hpc : pc r.st t with
  | idle => rw [hpc] at ht; exact absurd rfl ht
  | added =>
    cases t with
    | prod => exact ⟨.pIsFull, rfl, (Step.pIsFull hpc).enabled⟩
    | tmo => exact absurd hpc hc.tmo
  | enter =>
    cases ho : (pc r.st (other t)).holds with
    | true => exact h.holder_moves hc (other t) ho   -- `flushMu` is held by the other flusher, which can move
    | false => exact ⟨.lock t, rfl, (Step.lock t hpc (by rw [ho]; rfl)).enabled⟩
  | locked => exact h.holder_moves hc t (by rw [hpc]; rfl)
  | mid evs => exact h.holder_moves hc t (by rw [hpc]; rfl)

theorem Inv.progress (h : Inv f fails r hist) (hc : Ctl r.st) (hnq : ¬ quiescent r.st) :
    ∃ a : Act α, internalAct r.st a = true ∧ (step f fails true r.st a).isSome = true := by
  by_cases hp : r.st.pp.isIdle = true
  · by_cases ht : r.st.tp.isIdle = true
    · by_cases hbatch : r.st.b.batch = []
      · rcases h.buf_moves_or_rest with ⟨a, ha, he⟩ | ⟨h1, h2, h3⟩
        · exact ⟨a, bufAct_internal ha, he⟩
        · exact absurd ⟨hp, ht, hbatch, h1, h2, h3⟩ hnq
      · exact ⟨.pFlush, by simp [internalAct, hbatch], (Step.pFlush (Pc.eq_idle hp)).enabled⟩
    · exact h.flusher_moves hc .tmo ht
  · exact h.flusher_moves hc .prod hp

end

theorem lex_left {a a' : Nat} {R : β → β → Prop} {b b' : β} (h : a' < a) : Prod.Lex (· < ·) R (a', b') (a, b) :=
  Prod.Lex.left _ _ h

theorem lex_right {a a' : Nat} {R : β → β → Prop} {b b' : β} (h : a' = a) (hb : R b' b) : Prod.Lex (· < ·) R (a', b') (a, b) := by
  subst h; exact Prod.Lex.right _ hb

theorem length_filter_lt_of_imp {l : List β} {p q : β → Bool} (hqp : ∀ y, q y = true → p y = true) {x : β}
    (hx : x ∈ l) (hpx : p x = true) (hqx : q x = false) : (l.filter q).length < (l.filter p).length := by
  have : l.filter q = (l.filter p).filter q := by
    rw [List.filter_filter]
    exact List.filter_congr fun y _ => by cases hq : q y <;> simp [hqp y, hq]
  rw [this]
  exact List.length_filter_lt_length_iff_exists.mpr ⟨x, List.mem_filter.mpr ⟨hx, hpx⟩, by simp [hqx]⟩

/-- of the invariants only `Ctl.mid` (`hmid`) and `BufInv.hres` (`hres`) are needed -/
theorem step_decreases (f : List α → List ρ) (fails : Nat → Bool) (s s' : St α ρ) (a : Act α) (o : List ρ)
    (hs : step f fails true s a = some (s', o)) (hint : internalAct s a = true)
    (hmid : s.pp.isMid = true → s.b.batch = [])
    (hres : s.reserved = s.nextSeq - s.drainedSeq) :
    Lt6 (mu fails s') (mu fails s) := by
  cases Step.of_step hs with
  | pAdd _ _ | fire _ | stale _ | tmoRecv _ _ => cases hint
  | pIsFull hp =>
    refine lex_left ?_
    cases Batcher.isFull s.b with
    | true => simp [hp, rank, Pc.isIdle]
    | false =>
      simp [hp, rank, Pc.isIdle]
      split <;> omega
  | pFlush hp =>
    have : s.b.batch.isEmpty = false := by simpa [internalAct] using hint
    exact lex_left (by simp [hp, rank, Pc.isIdle, this])
  | lock t hp hfree =>
    cases t with
    | prod => exact lex_left (by simp [setPc, show s.pp = .enter from hp, rank, Pc.isIdle])
    | tmo => exact lex_left (by simp [setPc, show s.tp = .enter from hp, rank])
  | flushA t hp =>
    cases t with
    | prod => exact lex_left (by simp [setPc, show s.pp = .locked from hp, rank, Pc.isIdle])
    | tmo =>
      -- the batch is empty afterwards, so its 5 can only go
      refine lex_left ?_
      simp [setPc, show s.tp = .locked from hp, rank, Batcher.flush_cur_batch]
      split <;> omega
  | unlock t hp | reserve t hp _ =>
    cases t with
    | prod =>
      -- the producer is back at `idle`, but its batch is empty (`hmid`)
      have hp' : s.pp = .mid _ := hp
      exact lex_left (by simp [setPc, hp', rank, Pc.isIdle, hmid (by rw [hp']; rfl)])
    | tmo => exact lex_left (by simp [setPc, show s.tp = .mid _ from hp, rank])
  | fetchErr q hl hf =>
    -- the entry for `q` was counted and is not any more; nothing new is counted
    refine lex_right rfl (lex_right rfl (lex_left ?_))
    refine length_filter_lt_of_imp (x := (q, _)) (fun y hy => ?_) (mem_of_lookupSeq hl) hf (by simp)
    simp only [Bool.and_eq_true, Bool.not_eq_true', List.contains_cons, Bool.or_eq_false_iff] at hy ⊢
    exact ⟨hy.1, hy.2.2⟩
  | fetchDone q hd hl hf =>
    exact lex_right rfl (lex_left (List.length_filter_lt_length_iff_exists.mpr ⟨(q, _), mem_of_lookupSeq hl, by simp⟩))
  | drainStart hd hn =>
    exact lex_right rfl (lex_right rfl (lex_right rfl (lex_right rfl (lex_right (by simp [hd, curOf]) (by simp [hd])))))
  | drainTake hd hx hr =>
    -- a slot is held (`hr`), so by `hres` a reserved batch is not dequeued yet
    have hlt : s.drainedSeq < s.nextSeq := by omega
    exact lex_right rfl (lex_right rfl (lex_right rfl (lex_left (Nat.sub_succ_lt_self _ _ hlt))))
  | drainEnd hd hx hn =>
    exact lex_right rfl (lex_right rfl (lex_right rfl (lex_right rfl (lex_right (by simp [hd, curOf]) (by simp [hd, hn]; omega)))))
  | send hd hroom => exact lex_right rfl (lex_right rfl (lex_right rfl (lex_right rfl (lex_left (by simp [hd, curOf]; omega)))))
  | recvQ hq => exact lex_right rfl (lex_right rfl (lex_right rfl (lex_right rfl (lex_left (by simp [hq])))))
  | recvDirect hq hc hd =>
    exact lex_right rfl (lex_right rfl (lex_right rfl (lex_right rfl (lex_left (by simp [hd, curOf, hq])))))

/-- the continuation is built from internal actions only; the statement keeps of this that they add no input -/
theorem can_quiesce (f : List α → List ρ) (fails : Nat → Bool) (r : Run α ρ) (hist : List (Nat × List α))
    (h : Inv f fails r hist) (hc : Ctl r.st) :
    ∃ (cs : List (Act α)) (r' : Run α ρ), inputs cs = [] ∧ exec f fails true r cs = some r' ∧ quiescent r'.st := by
  generalize hm : mu fails r.st = m
  induction m using lt6_wf.induction generalizing r hist with
  | _ m ih =>
    by_cases hq : quiescent r.st
    · exact ⟨[], r, rfl, rfl, hq⟩
    · obtain ⟨a, ha, he⟩ := h.progress hc hq
      obtain ⟨⟨s', o⟩, hs⟩ := Option.isSome_iff_exists.mp he
      obtain ⟨hist', h'⟩ := inv_step f fails r hist h a s' o hs
      have hdec := step_decreases f fails r.st s' a o hs ha hc.mid h.buf.hres
      obtain ⟨cs, r', h0, h1, h2⟩ := ih _ (hm ▸ hdec) _ hist' h' (ctl_step hc hs) rfl
      refine ⟨a :: cs, r', ?_, by rw [exec_cons, hs]; exact h1, h2⟩
      rw [inputs_cons, inputOf_internal _ a ha, h0]; rfl

end Rxn.Reorder
