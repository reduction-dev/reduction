import RxnModel.Proofs.PipelineInv
/-!
# C01: every key's log of a reachable state is also produced by a run without failures

`FF cfg s s'`: `s'` is reachable from `s` by actions none of which is a failure (`kill` / `restart` / `redeployLive`).
The replay reads every split up to the records in the log, delivering each record right after reading it.
-/
namespace Rxn.Pipeline
variable {σ : Type}

theorem not_live_of_not_failure (a : Act) (h : a.isFailure = false) : a.isLiveRedeploy = false := by
  cases a with
  | redeployLive _ => cases h
  | _ => rfl

def FF (cfg : Cfg σ) (s s' : State σ) : Prop :=
  ∃ as obs, runFrom cfg s as = some (s', obs) ∧ ∀ a ∈ as, a.isFailure = false

theorem FF.refl (cfg : Cfg σ) (s : State σ) : FF cfg s s :=
  ⟨[], [], rfl, fun _ h => by cases h⟩

theorem FF.trans {cfg : Cfg σ} {s1 s2 s3 : State σ} (h1 : FF cfg s1 s2) (h2 : FF cfg s2 s3) : FF cfg s1 s3 := by
  obtain ⟨as1, o1, hr1, hf1⟩ := h1
  obtain ⟨as2, o2, hr2, hf2⟩ := h2
  refine ⟨as1 ++ as2, o1 ++ o2, runFrom_append hr1 hr2, ?_⟩
  intro a ha
  rcases List.mem_append.1 ha with h | h
  · exact hf1 a h
  · exact hf2 a h

theorem FF.step {cfg : Cfg σ} {s s' : State σ} {a : Act} {g : List (Given σ)} (h : step cfg s a = some (s', g))
    (hf : a.isFailure = false) : FF cfg s s' := by
  refine ⟨[a], g ++ [], runFrom_cons h rfl, fun b hb => ?_⟩
  cases List.mem_singleton.1 hb
  exact hf

theorem read_deliver (cfg : Cfg σ) (s : State σ) (hn : 0 < s.n) (hq : ∀ r o, s.queue r o = []) (sp : Nat) :
    ∃ s', FF cfg s s' ∧ s'.n = s.n ∧ (∀ r o, s'.queue r o = []) ∧ s'.cursor sp = s.cursor sp + 1 ∧
      (∀ x, x ≠ sp → s'.cursor x = s.cursor x) ∧
      (∀ a k, s'.log a k = if a = cfg.route s.n (cfg.key sp (s.cursor sp)) ∧ k = cfg.key sp (s.cursor sp)
        then s.log a k ++ [(sp, s.cursor sp)] else s.log a k) := by
  have h1 : step cfg s (.read sp) = some (readS cfg s sp, []) := by rw [step_read, if_pos hn]
  have hqr : (readS cfg s sp).queue (cfg.assign s.n sp) (cfg.route s.n (cfg.key sp (s.cursor sp))) =
      [Item.ev ⟨cfg.key sp (s.cursor sp), sp, s.cursor sp⟩] := by
    dsimp only [readS]
    rw [if_pos ⟨rfl, rfl⟩, hq]
    rfl
  have h2 := step_deliver_of_head (cfg := cfg) hqr
  have hff : FF cfg s (delivS cfg (readS cfg s sp) _ _ _ []) := (FF.step h1 rfl).trans (FF.step h2 rfl)
  have hcur : (readS cfg s sp).cursor sp = s.cursor sp + 1 := if_pos rfl
  have hoth : ∀ x, x ≠ sp → (readS cfg s sp).cursor x = s.cursor x := fun x hx => if_neg hx
  refine ⟨_, hff, rfl, ?_, hcur, hoth, ?_⟩
  · intro r o
    dsimp only [delivS, readS]
    split
    · rfl
    · exact hq r o
  · intro a k
    dsimp only [delivS, readS]
    split
    · rename_i h
      rw [h.1, h.2]
    · rfl

theorem read_deliver_skip (cfg : Cfg σ) (k sp : Nat) (m : Nat) (s : State σ) (hn : 0 < s.n) (hq : ∀ r o, s.queue r o = [])
    (hk : ∀ j, s.cursor sp ≤ j → j < s.cursor sp + m → cfg.key sp j ≠ k) :
    ∃ s', FF cfg s s' ∧ s'.n = s.n ∧ (∀ r o, s'.queue r o = []) ∧ s'.cursor sp = s.cursor sp + m ∧
      (∀ x, x ≠ sp → s'.cursor x = s.cursor x) ∧ (∀ a, s'.log a k = s.log a k) := by
  induction m with
  | zero => exact ⟨s, FF.refl cfg s, rfl, hq, rfl, fun _ _ => rfl, fun _ => rfl⟩
  | succ m ih =>
    obtain ⟨s1, hff1, hn1, hq1, hc1, hx1, hl1⟩ := ih fun j h1 h2 => hk j h1 (Nat.lt_succ_of_lt h2)
    obtain ⟨s2, hff2, hn2, hq2, hc2, hx2, hl2⟩ := read_deliver cfg s1 (by rw [hn1]; exact hn) hq1 sp
    have hn' : s2.n = s.n := by rw [hn2, hn1]
    have hc' : s2.cursor sp = s.cursor sp + (m + 1) := by rw [hc2, hc1, Nat.add_assoc]
    refine ⟨s2, hff1.trans hff2, hn', hq2, hc', ?_, ?_⟩
    · intro x hx
      rw [hx2 x hx, hx1 x hx]
    · intro a
      rw [hl2 a k, hc1, if_neg, hl1 a]
      exact fun hh => hk _ (Nat.le_add_right _ m) (Nat.lt_succ_self _) hh.2.symm

/-- replay of a key's log: if per split the log (after the part `P` already replayed) is a prefix of the key's
records of the split, a failure-free run from a state with empty channels produces it -/
theorem replay (cfg : Cfg σ) (k n : Nat) (hn : 0 < n) (C : Nat → Nat) (L : List (Nat × Nat)) :
    ∀ (P : List (Nat × Nat)) (s1 : State σ), s1.n = n → (∀ r o, s1.queue r o = []) →
      s1.log (cfg.route n k) k = P → (∀ sp, idxOf sp P = routed cfg k sp (s1.cursor sp)) →
      (∀ sp, ∃ B, idxOf sp (P ++ L) ++ B = routed cfg k sp (C sp)) →
      ∃ s2, FF cfg s1 s2 ∧ s2.n = n ∧ s2.log (cfg.route n k) k = P ++ L := by
  induction L with
  | nil =>
    intro P s1 hn1 _ hl _ _
    exact ⟨s1, FF.refl cfg s1, hn1, by rw [hl, List.append_nil]⟩
  | cons p L ih =>
    obtain ⟨sp, i⟩ := p
    intro P s1 hn1 hq hl hidx hB
    -- `(sp, i)` is the next record of key `k` in split `sp` at or after the cursor
    obtain ⟨B, hB1⟩ := hB sp
    rw [idxOf_append, idxOf_cons, if_pos rfl, List.append_assoc, List.append_assoc, List.singleton_append] at hB1
    obtain ⟨hP, hki⟩ := routed_split hB1.symm
    have hrr : routed cfg k sp (s1.cursor sp) = routed cfg k sp i := by rw [← hidx sp, hP]
    have hle : s1.cursor sp ≤ i := Nat.le_of_not_lt fun hlt => routed_eq_gap hrr.symm (Nat.le_refl i) hlt hki
    obtain ⟨m, rfl⟩ := Nat.le.dest hle
    have hnk : ∀ j, s1.cursor sp ≤ j → j < s1.cursor sp + m → cfg.key sp j ≠ k := fun j => routed_eq_gap hrr
    obtain ⟨s2, hff2, hn2, hq2, hc2, hx2, hl2⟩ := read_deliver_skip cfg k sp m s1 (by rw [hn1]; exact hn) hq hnk
    obtain ⟨s3, hff3, hn3, hq3, hc3, hx3, hl3⟩ := read_deliver cfg s2 (by rw [hn2, hn1]; exact hn) hq2 sp
    have hl3' : s3.log (cfg.route n k) k = P ++ [(sp, s1.cursor sp + m)] := by
      rw [hl3, hc2, hki, hn2, hn1, if_pos ⟨rfl, rfl⟩, hl2, hl]
    have hidx3 : ∀ sp', idxOf sp' (P ++ [(sp, s1.cursor sp + m)]) = routed cfg k sp' (s3.cursor sp') := by
      intro sp'
      rw [idxOf_snoc]
      by_cases hs : sp = sp'
      · subst hs
        rw [if_pos rfl, hc3, hc2, routed_succ, if_pos hki, hP]
      · have hs' : sp' ≠ sp := fun e => hs e.symm
        rw [if_neg hs, List.append_nil, hx3 sp' hs', hx2 sp' hs']
        exact hidx sp'
    have hB3 : ∀ sp', ∃ B, idxOf sp' ((P ++ [(sp, s1.cursor sp + m)]) ++ L) ++ B = routed cfg k sp' (C sp') := by
      intro sp'
      rw [List.append_assoc, List.singleton_append]
      exact hB sp'
    obtain ⟨s4, hff4, hn4, hl4⟩ := ih (P ++ [(sp, s1.cursor sp + m)]) s3 (by rw [hn3, hn2, hn1]) hq3 hl3' hidx3 hB3
    rw [List.append_assoc, List.singleton_append] at hl4
    exact ⟨s4, (hff2.trans hff3).trans hff4, hn4, hl4⟩

/-- `Rxn.C01.failure_free_realizable_partial` on a state with `Inv`: the replay of the key's log from the empty deployment -/
theorem failure_free_of_inv (cfg : Cfg σ) (wf : cfg.WF) (s : State σ) (hi : Inv cfg s) (hn : 0 < s.n) (k : Nat) :
    ∃ as' s' obs', run cfg as' = some (s', obs') ∧ as'.head? = some (Act.restart s.n false) ∧
      (∀ a ∈ as'.tail, a.isFailure = false) ∧ (∀ a ∈ as', a.isLiveRedeploy = false) ∧ s'.n = s.n ∧
      s'.log (cfg.route s.n k) k = s.log (cfg.route s.n k) k ∧
      s'.st (cfg.route s.n k) k = s.st (cfg.route s.n k) k := by
  have hB : ∀ sp, ∃ B, idxOf sp ([] ++ s.log (cfg.route s.n k) k) ++ B = routed cfg k sp (s.cursor sp) :=
    fun sp => ⟨_, by rw [List.nil_append]; exact hi.main k sp⟩
  obtain ⟨s2, ⟨as2, obs2, hr2, hf2⟩, hn2, hl2⟩ :=
    replay cfg k s.n hn s.cursor (s.log (cfg.route s.n k) k) [] (restore cfg (init cfg) none s.n false)
      rfl (fun _ _ => rfl) rfl (fun _ => rfl) hB
  have h0 : step cfg (init cfg) (Act.restart s.n false) = some (restore cfg (init cfg) none s.n false, []) := by
    rw [step_restart, if_pos hn]
    rfl
  have hrun : run cfg (Act.restart s.n false :: as2) = some (s2, [] ++ obs2) := runFrom_cons h0 hr2
  rw [List.nil_append] at hl2
  have hlive : ∀ a ∈ Act.restart s.n false :: as2, a.isLiveRedeploy = false := by
    intro a ha
    rcases List.mem_cons.1 ha with h | h
    · subst h; rfl
    · exact not_live_of_not_failure a (hf2 a h)
  refine ⟨_, s2, _, hrun, rfl, hf2, hlive, hn2, hl2, ?_⟩
  have hi2 := inv_run cfg wf _ s2 _ hlive hrun
  rw [hi2.hst, hi.hst, hl2]

end Rxn.Pipeline
