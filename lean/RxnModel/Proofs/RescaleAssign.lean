import RxnModel.Model.Rescale
import RxnModel.Proofs.KeySpace
namespace Rxn.Rescale
open Rxn Lsm KeySpace

theorem assignLoop_eq (t : KGRange) : ∀ (fs : List KGRange) (b : Nat),
    assignLoop t fs b = ((fs.zipIdx b).filter (fun p => t.overlaps p.1)).map (·.2)
  | [], _ => rfl
  | f :: fs, b => by
    rw [assignLoop, assignLoop_eq t fs (b + 1), List.zipIdx_cons, List.filter_cons]
    split <;> rfl

theorem mem_assignLoop (t : KGRange) (fs : List KGRange) (j : Nat) :
    j ∈ assignLoop t fs 0 ↔ ∃ f, fs[j]? = some f ∧ t.overlaps f = true := by
  rw [assignLoop_eq, List.mem_map]
  constructor
  · rintro ⟨⟨f, i⟩, hp, rfl⟩
    obtain ⟨hm, ho⟩ := List.mem_filter.mp hp
    exact ⟨f, List.mem_zipIdx_iff_getElem?.mp hm, ho⟩
  · rintro ⟨f, hf, ho⟩
    exact ⟨(f, j), List.mem_filter.mpr ⟨List.mem_zipIdx_iff_getElem?.mpr hf, ho⟩, rfl⟩

theorem assignRanges_get (to frm : List KGRange) (i : Nat) (t : KGRange) (ht : to[i]? = some t) :
    (assignRanges to frm)[i]? = some (assignLoop t frm 0) := by
  simp [assignRanges, ht]

theorem assignRanges_length (to frm : List KGRange) : (assignRanges to frm).length = to.length := by
  simp [assignRanges]

theorem owner_exists (kgc m g : Nat) (hm : 0 < m) (hg : g < kgc) :
    ∃ r, r ∈ ranges kgc m ∧ r.includes g = true := by
  obtain ⟨i, hi, h1, h2⟩ := exists_range kgc m g hm hg
  refine ⟨⟨startOf kgc m i, startOf kgc m (i + 1)⟩, ?_, ?_⟩
  · exact List.mem_of_getElem? (ranges_get kgc m i hi)
  · exact KGRange.includes_iff.mpr ⟨h1, h2⟩

end Rxn.Rescale
