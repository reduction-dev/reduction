import RxnModel.Model.Pipeline
/-!
# C01 (whole-pipeline exactly-once): the list vocabulary of `Model/Pipeline.lean`

What each list function of the model does on `[]`, `::` and `++`, and the membership and multiplicity facts about
`routed` and the ghost logs that the invariant of `Proofs/PipelineInv.lean` is proved with.
-/
namespace Rxn.Pipeline

@[simp] theorem idxOf_nil (sp : Nat) : idxOf sp [] = [] := rfl

theorem idxOf_append (sp : Nat) (l m : List (Nat × Nat)) : idxOf sp (l ++ m) = idxOf sp l ++ idxOf sp m :=
  List.filterMap_append

theorem idxOf_cons (sp a b : Nat) (t : List (Nat × Nat)) :
    idxOf sp ((a, b) :: t) = (if a = sp then [b] else []) ++ idxOf sp t := by
  by_cases h : a = sp
  · rw [if_pos h]; exact List.filterMap_cons_some (if_pos h)
  · rw [if_neg h]; exact List.filterMap_cons_none (if_neg h)

theorem idxOf_snoc (sp a b : Nat) (l : List (Nat × Nat)) :
    idxOf sp (l ++ [(a, b)]) = idxOf sp l ++ (if a = sp then [b] else []) := by
  rw [idxOf_append, idxOf_cons, idxOf_nil, List.append_nil]

theorem count_pair (sp i : Nat) (l : List (Nat × Nat)) : l.count (sp, i) = (idxOf sp l).count i := by
  induction l with
  | nil => rfl
  | cons p t ih =>
    obtain ⟨a, b⟩ := p
    rw [idxOf_cons, List.count_append, List.count_cons, ih, Nat.add_comm]
    by_cases h : a = sp
    · subst h
      by_cases hb : b = i
      · subst hb; simp
      · simp [hb]
    · simp [h]

theorem mem_idxOf {sp i : Nat} {l : List (Nat × Nat)} : i ∈ idxOf sp l ↔ (sp, i) ∈ l := by
  rw [← List.count_pos_iff, ← count_pair, List.count_pos_iff]

@[simp] theorem projI_nil (k sp : Nat) : projI k sp [] = [] := rfl

theorem projI_append (k sp : Nat) (q m : List Item) : projI k sp (q ++ m) = projI k sp q ++ projI k sp m :=
  List.filterMap_append

theorem projI_cons_ev (k sp : Nat) (e : Entry) (q : List Item) :
    projI k sp (Item.ev e :: q) = (if e.key = k ∧ e.split = sp then [e.idx] else []) ++ projI k sp q := by
  by_cases h : e.key = k ∧ e.split = sp
  · rw [if_pos h]; exact List.filterMap_cons_some (if_pos h)
  · rw [if_neg h]; exact List.filterMap_cons_none (if_neg h)

theorem projI_cons_bar (k sp : Nat) (q : List Item) : projI k sp (Item.bar :: q) = projI k sp q :=
  List.filterMap_cons_none rfl

theorem projI_snoc_ev (k sp : Nat) (e : Entry) (q : List Item) :
    projI k sp (q ++ [Item.ev e]) = projI k sp q ++ (if e.key = k ∧ e.split = sp then [e.idx] else []) := by
  rw [projI_append, projI_cons_ev, projI_nil, List.append_nil]

theorem projI_snoc_bar (k sp : Nat) (q : List Item) : projI k sp (q ++ [Item.bar]) = projI k sp q := by
  rw [projI_append, projI_cons_bar, projI_nil, List.append_nil]

theorem projI_dropBar (k sp : Nat) (q : List Item) : projI k sp (dropBar q) = projI k sp q := by
  cases q with
  | nil => rfl
  | cons x t => cases x <;> simp [dropBar, projI_cons_bar]

theorem mem_of_mem_dropBar {x : Item} {q : List Item} (h : x ∈ dropBar q) : x ∈ q := by
  cases q with
  | nil => exact h
  | cons y t =>
    cases y with
    | ev e => exact h
    | bar => exact List.mem_cons_of_mem _ h

theorem projI_eq_nil_of_no_ev (k sp : Nat) (q : List Item) (h : ∀ e, Item.ev e ∉ q) : projI k sp q = [] := by
  rw [projI, List.filterMap_eq_nil_iff]
  intro x hx
  cases x with
  | ev e => exact absurd hx (h e)
  | bar => rfl

@[simp] theorem countBar_nil : countBar [] = 0 := rfl

theorem countBar_append (q m : List Item) : countBar (q ++ m) = countBar q + countBar m :=
  List.count_append

theorem countBar_cons_ev (e : Entry) (q : List Item) : countBar (Item.ev e :: q) = countBar q :=
  List.count_cons_of_ne (by simp)

theorem countBar_cons_bar (q : List Item) : countBar (Item.bar :: q) = countBar q + 1 :=
  List.count_cons_self

theorem countBar_snoc_ev (e : Entry) (q : List Item) : countBar (q ++ [Item.ev e]) = countBar q := by
  rw [countBar_append, countBar_cons_ev]; rfl

theorem countBar_snoc_bar (q : List Item) : countBar (q ++ [Item.bar]) = countBar q + 1 := by
  rw [countBar_append, countBar_cons_bar]; rfl

theorem preProj_cons_ev (k sp : Nat) (e : Entry) (q : List Item) :
    preProj k sp (Item.ev e :: q) = (if e.key = k ∧ e.split = sp then [e.idx] else []) ++ preProj k sp q := rfl

theorem preProj_cons_bar (k sp : Nat) (q : List Item) : preProj k sp (Item.bar :: q) = [] := rfl

theorem preProj_append_of_bar (k sp : Nat) (q m : List Item) (h : 1 ≤ countBar q) :
    preProj k sp (q ++ m) = preProj k sp q := by
  induction q with
  | nil => cases h
  | cons x t ih =>
    cases x with
    | bar => rfl
    | ev e =>
      rw [countBar_cons_ev] at h
      rw [List.cons_append, preProj_cons_ev, preProj_cons_ev, ih h]

theorem preProj_snoc_bar_nobar (k sp : Nat) (q : List Item) (h : countBar q = 0) :
    preProj k sp (q ++ [Item.bar]) = projI k sp q := by
  induction q with
  | nil => rfl
  | cons x t ih =>
    cases x with
    | bar => rw [countBar_cons_bar] at h; cases h
    | ev e =>
      rw [countBar_cons_ev] at h
      rw [projI_cons_ev, ← ih h]
      rfl

theorem head_bar_cases {q : List Item} (h : (q.head? == some Item.bar) = true) : ∃ t, q = Item.bar :: t := by
  cases q with
  | nil => simp at h
  | cons x t =>
    cases x with
    | bar => exact ⟨t, rfl⟩
    | ev e => simp at h

@[simp] theorem routed_zero {σ : Type} (cfg : Cfg σ) (k sp : Nat) : routed cfg k sp 0 = [] := rfl

theorem routed_succ {σ : Type} (cfg : Cfg σ) (k sp c : Nat) :
    routed cfg k sp (c + 1) = routed cfg k sp c ++ (if cfg.key sp c = k then [c] else []) := by
  by_cases h : cfg.key sp c = k <;> simp [routed, List.range_succ, List.filter_append, h]

theorem mem_routed {σ : Type} (cfg : Cfg σ) (k sp c i : Nat) :
    i ∈ routed cfg k sp c ↔ i < c ∧ cfg.key sp i = k := by
  simp [routed]

theorem routed_nodup {σ : Type} (cfg : Cfg σ) (k sp c : Nat) : (routed cfg k sp c).Nodup :=
  List.nodup_range.sublist List.filter_sublist

theorem count_routed {σ : Type} (cfg : Cfg σ) (k sp c i : Nat) :
    (routed cfg k sp c).count i = if i < c ∧ cfg.key sp i = k then 1 else 0 := by
  rw [List.Nodup.count (routed_nodup cfg k sp c)]
  simp only [mem_routed]

theorem routed_split {σ : Type} {cfg : Cfg σ} {k sp c : Nat} {A B : List Nat} {i : Nat}
    (h : routed cfg k sp c = A ++ i :: B) : A = routed cfg k sp i ∧ cfg.key sp i = k := by
  induction c generalizing B with
  | zero =>
    rw [routed_zero] at h
    cases A <;> cases h
  | succ c ih =>
    rw [routed_succ] at h
    by_cases hk : cfg.key sp c = k
    · rw [if_pos hk] at h
      rcases List.eq_nil_or_concat B with hB | ⟨B', b, hB⟩
      · subst hB
        obtain ⟨h1, h2⟩ := List.append_inj' h rfl
        cases h2
        exact ⟨h1.symm, hk⟩
      · subst hB
        have h' : routed cfg k sp c ++ [c] = (A ++ i :: B') ++ [b] := by simpa using h
        exact ih (List.append_inj' h' rfl).1
    · rw [if_neg hk, List.append_nil] at h
      exact ih h

theorem routed_eq_gap {σ : Type} {cfg : Cfg σ} {k sp c d : Nat} (h : routed cfg k sp c = routed cfg k sp d)
    {j : Nat} (h1 : c ≤ j) (h2 : j < d) : cfg.key sp j ≠ k := by
  intro hj
  have hm : j ∈ routed cfg k sp d := (mem_routed cfg k sp d j).2 ⟨h2, hj⟩
  rw [← h, mem_routed] at hm
  exact Nat.not_lt.2 h1 hm.1

@[simp] theorem foldLog_nil {σ : Type} (cfg : Cfg σ) (k : Nat) : foldLog cfg k [] = cfg.init := rfl

theorem foldLog_snoc {σ : Type} (cfg : Cfg σ) (k a b : Nat) (l : List (Nat × Nat)) :
    foldLog cfg k (l ++ [(a, b)]) = cfg.h (foldLog cfg k l) ⟨k, a, b⟩ := by
  simp [foldLog, List.foldl_append]

theorem newest_cons {σ : Type} (c : Ckpt σ) (cs : List (Ckpt σ)) :
    newest (c :: cs) = match newest cs with
      | none => some c
      | some d => if d.id < c.id then some c else some d := rfl

theorem newest_mem {σ : Type} {l : List (Ckpt σ)} {c : Ckpt σ} (h : newest l = some c) : c ∈ l := by
  induction l generalizing c with
  | nil => cases h
  | cons x t ih =>
    rw [newest_cons] at h
    split at h
    · cases h; exact List.mem_cons_self
    · rename_i d hd
      split at h
      · cases h; exact List.mem_cons_self
      · cases h; exact List.mem_cons_of_mem _ (ih hd)

theorem complete_iff {σ : Type} (p : Pend σ) (n : Nat) :
    p.complete n = true ↔ (∀ i, i < n → i ∈ p.rAck) ∧ (∀ i, i < n → i ∈ p.oAck) := by
  simp only [Pend.complete, Bool.and_eq_true, List.all_eq_true, List.mem_range, decide_eq_true_eq]

end Rxn.Pipeline
