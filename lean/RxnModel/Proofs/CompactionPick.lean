import RxnModel.Proofs.CompactionView
/-!
The compactor's picks (`compact`: major, minor level 0, minor deeper) lie in the safe family. The major pick is an
initial segment of the candidates in the order they are visited, hence closed towards the older tables; with distinct
ids that gives the structural shape `StructOK`.
-/
namespace Rxn.Compaction
open Rxn Rxn.Lsm

theorem chunkNE_flatten (cs : List Nat) (r : Run) : (chunkNE cs r).flatten = r := by
  fun_induction chunkNE cs r with
  | case1 => rfl
  | case2 r h => simp
  | case3 c cs e r ih =>
    simp only [List.flatten_cons, ih, List.cons_append, List.take_append_drop]

theorem chunkNE_nonempty (cs : List Nat) (r : Run) : ∀ x ∈ chunkNE cs r, x ≠ [] := by
  fun_induction chunkNE cs r with
  | case1 => intro x hx; cases hx
  | case2 r h =>
    intro x hx
    simp only [List.mem_singleton] at hx
    subst hx
    intro h0; exact h h0
  | case3 c cs e r ih =>
    intro x hx
    cases hx with
    | head => simp
    | tail _ hx => exact ih x hx

theorem chunk_flatten (cs : List Nat) (r : Run) : (chunk cs r).flatten = r := by
  unfold chunk
  split
  · rename_i h; simp [List.isEmpty_iff.mp h]
  · exact chunkNE_flatten cs r

theorem chunk_ok (cs : List Nat) (r : Run) : (∀ x ∈ chunk cs r, x ≠ []) ∨ chunk cs r = [[]] := by
  unfold chunk
  split
  · exact Or.inr rfl
  · exact Or.inl (chunkNE_nonempty cs r)

theorem insertByAge_perm (t : Tbl) (l : List Tbl) : (insertByAge t l).Perm (t :: l) := by
  fun_induction insertByAge t l with
  | case1 => exact List.Perm.refl _
  | case2 => exact List.Perm.refl _
  | case3 x xs _ ih => exact (List.Perm.cons x ih).trans (List.Perm.swap t x xs)

theorem sortByAge_perm (l : List Tbl) : (sortByAge l).Perm l := by
  induction l with
  | nil => exact List.Perm.refl _
  | cons x xs ih =>
    show (insertByAge x (sortByAge xs)).Perm (x :: xs)
    exact (insertByAge_perm x _).trans (List.Perm.cons x ih)

theorem mem_sortByAge {l : List Tbl} {t : Tbl} : t ∈ sortByAge l ↔ t ∈ l := (sortByAge_perm l).mem_iff

/-- when the ages already increase in stored order (level 0 built by flushes) the age order is the stored order -/
theorem sortByAge_eq_self {l : List Tbl} (h : l.Pairwise (fun a b => age a < age b)) : sortByAge l = l := by
  induction l with
  | nil => rfl
  | cons x xs ih =>
    have ⟨h1, h2⟩ := List.pairwise_cons.mp h
    show insertByAge x (sortByAge xs) = x :: xs
    rw [ih h2]
    cases xs with
    | nil => rfl
    | cons y ys =>
      unfold insertByAge
      rw [if_pos (Nat.le_of_lt (h1 y List.mem_cons_self))]

theorem insertByAge_sorted (t : Tbl) {l : List Tbl} (h : l.Pairwise (fun a b => age a ≤ age b)) :
    (insertByAge t l).Pairwise (fun a b => age a ≤ age b) := by
  fun_induction insertByAge t l with
  | case1 => exact List.pairwise_singleton _ _
  | case2 x xs hle =>
    refine List.pairwise_cons.mpr ⟨fun b hb => ?_, h⟩
    rcases List.mem_cons.mp hb with rfl | hb
    · exact hle
    · exact Nat.le_trans hle ((List.pairwise_cons.mp h).1 b hb)
  | case3 x xs hle ih =>
    have ⟨h1, h2⟩ := List.pairwise_cons.mp h
    refine List.pairwise_cons.mpr ⟨fun b hb => ?_, ih h2⟩
    rcases List.mem_cons.mp ((insertByAge_perm t xs).mem_iff.mp hb) with rfl | hb
    · exact Nat.le_of_lt (Nat.lt_of_not_le hle)
    · exact h1 b hb

theorem sortByAge_sorted (l : List Tbl) : (sortByAge l).Pairwise (fun a b => age a ≤ age b) := by
  induction l with
  | nil => exact List.Pairwise.nil
  | cons x xs ih => exact insertByAge_sorted x ih

theorem orderOK_sortByAge : OrderOK sortByAge := ⟨sortByAge_perm, sortByAge_sorted⟩

theorem takeUntil_prefix (met : Nat → Bool) (n : Nat) (l : List Tbl) : (takeUntil met n l).1 <+: l := by
  fun_induction takeUntil met n l with
  | case1 => exact List.prefix_refl _
  | case2 => exact List.cons_prefix_cons.mpr ⟨rfl, List.nil_prefix⟩
  | case3 n t ts _ r ih => exact List.cons_prefix_cons.mpr ⟨rfl, ih⟩

/-- without the `break` the whole level was taken -/
theorem takeUntil_all (met : Nat → Bool) (n : Nat) (l : List Tbl) (h : (takeUntil met n l).2 = false) :
    (takeUntil met n l).1 = l := by
  fun_induction takeUntil met n l with
  | case1 => rfl
  | case2 => cases h
  | case3 n t ts _ r ih => exact congrArg (t :: ·) (ih h)

theorem takeUntil_nonempty (met : Nat → Bool) (n : Nat) {l : List Tbl} (h : l ≠ []) : (takeUntil met n l).1 ≠ [] := by
  fun_cases takeUntil met n l with
  | case1 => exact absurd rfl h
  | case2 => exact List.cons_ne_nil _ _
  | case3 => exact List.cons_ne_nil _ _

theorem takeUntil_ne_nil_of_break (met : Nat → Bool) (n : Nat) (l : List Tbl) (h : (takeUntil met n l).2 = true) :
    (takeUntil met n l).1 ≠ [] :=
  takeUntil_nonempty met n (fun hl => by subst hl; exact Bool.false_ne_true h)

theorem majorPickWith_prefix (order : List Tbl → List Tbl) (met : Nat → Bool) (n : Nat) (ls : List (List Tbl)) :
    majorPickWith order met n ls <+: (ls.map order).flatten := by
  fun_induction majorPickWith order met n ls with
  | case1 => exact List.prefix_refl _
  | case2 n l ls r hm => exact (takeUntil_prefix met n (order l)).trans (List.prefix_append _ _)
  | case3 n l ls r hm ih =>
    have hall : r.1 = order l := takeUntil_all met n (order l) (Bool.eq_false_iff.mpr hm)
    rw [List.map_cons, List.flatten_cons, ← hall]
    exact (List.prefix_append_right_inj _).mpr ih

theorem prefix_closed_front {α : Type} {p l : List α} (hp : p <+: l) (hnd : l.Nodup) :
    l.Pairwise (fun a b => b ∈ p → a ∈ p) := by
  obtain ⟨s, rfl⟩ := hp
  have ⟨_, _, hdis⟩ := List.nodup_append.mp hnd
  refine List.pairwise_append.mpr ⟨List.pairwise_of_forall_mem_list (fun a ha _ _ _ => ha), ?_, fun a ha _ _ _ => ha⟩
  exact List.pairwise_of_forall_mem_list (fun a _ b hb hbp => absurd rfl (hdis b hbp b hb))

theorem candidates_perm {order : List Tbl → List Tbl} (hp : ∀ l, (order l).Perm l) (ls : List (List Tbl)) :
    ((ls.map order).flatten).Perm ls.flatten := by
  induction ls with
  | nil => exact List.Perm.refl _
  | cons l ls ih => exact (hp l).append ih

theorem majorPickWith_sub (order : List Tbl → List Tbl) (hp : ∀ l, (order l).Perm l) (met : Nat → Bool) (n : Nat)
    (ls : List (List Tbl)) : ∀ t ∈ majorPickWith order met n ls, ∃ l ∈ ls, t ∈ l := fun _ ht =>
  List.mem_flatten.mp ((candidates_perm hp ls).mem_iff.mp ((majorPickWith_prefix order met n ls).subset ht))

theorem majorPick_sub (met : Nat → Bool) (n : Nat) (ls : List (List Tbl)) :
    ∀ t ∈ majorPick met n ls, ∃ l ∈ ls, t ∈ l := majorPickWith_sub sortByAge sortByAge_perm met n ls

theorem majorPickWith_ne_nil (order : List Tbl → List Tbl) (hp : ∀ l, (order l).Perm l) (met : Nat → Bool) (n : Nat)
    (ls : List (List Tbl)) (h : ∃ l ∈ ls, l ≠ []) : majorPickWith order met n ls ≠ [] := by
  fun_induction majorPickWith order met n ls with
  | case1 => obtain ⟨l, hl, _⟩ := h; cases hl
  | case2 n l ls r hm => exact takeUntil_ne_nil_of_break met n (order l) hm
  | case3 n l ls r hm ih =>
    intro h0
    obtain ⟨h1, h2⟩ := List.append_eq_nil_iff.mp h0
    -- nothing was taken from `l`, so it is empty and a later level is not
    have hl : l = [] := by
      by_cases hol : order l = []
      · exact (hol ▸ (hp l).symm).eq_nil
      · exact absurd h1 (takeUntil_nonempty met n hol)
    obtain ⟨l', hl', hne⟩ := h
    rcases List.mem_cons.mp hl' with rfl | hl'
    · exact hne hl
    · exact ih ⟨l', hl', hne⟩ h2

theorem ids_inj {L : Levels} (h : (L.flatten.map (·.id)).Nodup) {a b : Tbl} (ha : a ∈ L.flatten)
    (hb : b ∈ L.flatten) (hid : a.id = b.id) : a = b := by
  rcases pairwise_or (List.pairwise_map.mp h) ha hb with h1 | h1 | h1
  · exact h1
  · exact absurd hid h1
  · exact absurd hid.symm h1

theorem level_unique {L : Levels} (h : (L.flatten.map (·.id)).Nodup) {i j : Nat} {t : Tbl}
    (hi : t ∈ L.getD i []) (hj : t ∈ L.getD j []) : i = j := by
  obtain ⟨hi', hti⟩ := mem_getD.mp hi
  obtain ⟨hj', htj⟩ := mem_getD.mp hj
  have hp := List.pairwise_iff_getElem.mp (List.pairwise_flatten.mp (List.pairwise_map.mp h)).2
  rcases Nat.lt_trichotomy i j with hlt | heq | hlt
  · exact absurd rfl (hp i j hi' hj' hlt t hti t htj)
  · exact heq
  · exact absurd rfl (hp j i hj' hi' hlt t htj t hti)

theorem rmP_of_mem {ts : List Tbl} {t : Tbl} (h : t ∈ ts) : rmP (ts.map (·.id)) t = true := by
  unfold rmP
  rw [List.contains_iff_mem]
  exact List.mem_map.mpr ⟨t, h, rfl⟩

theorem rmP_iff {L : Levels} (h : (L.flatten.map (·.id)).Nodup) {ts : List Tbl} (hsub : ∀ t ∈ ts, t ∈ L.flatten)
    {t : Tbl} (ht : t ∈ L.flatten) : rmP (ts.map (·.id)) t = true ↔ t ∈ ts := by
  refine ⟨fun hp => ?_, rmP_of_mem⟩
  obtain ⟨t', ht', hid⟩ := List.mem_map.mp (List.contains_iff_mem.mp hp)
  rw [← ids_inj h (hsub t' ht') ht hid]; exact ht'

/-- `kv.MergeEntries` keeps the version with the largest sequence number: on a valid layout the order in which
the picked tables are handed to it does not matter -/
theorem merge_order_irrelevant {L : Levels} (hv : WeakValid L) (hid : (L.flatten.map (·.id)).Nodup)
    {ts : List Tbl} (hsub : ∀ t ∈ ts, t ∈ L.flatten) :
    mergeAll (ts.map (·.run)) = mergeAll (((readOrder L).filter (rmP (ts.map (·.id)))).map (·.run)) := by
  have hs1 : ∀ r ∈ ts.map (·.run), Run.Sorted r := List.forall_mem_map.mpr fun t ht => hv.sorted t (hsub t ht)
  have hs2 : ∀ r ∈ ((readOrder L).filter (rmP (ts.map (·.id)))).map (·.run), Run.Sorted r :=
    List.forall_mem_map.mpr fun t ht => hv.sorted t ((readOrder_mem _ t).mp (List.mem_filter.mp ht).1)
  apply run_ext (mergeAll_sorted hs1) (mergeAll_sorted hs2)
  intro k
  have hna : NewerAbove (((readOrder L).filter (rmP (ts.map (·.id)))).map (·.run)) :=
    (newerAbove_map_iff _).mpr (hv.newer.sublist List.filter_sublist)
  have hm : ∀ r, r ∈ ((readOrder L).filter (rmP (ts.map (·.id)))).map (·.run) ↔ r ∈ ts.map (·.run) := by
    intro r
    simp only [List.mem_map, List.mem_filter]
    constructor
    · rintro ⟨t, ⟨ht, hp⟩, rfl⟩
      exact ⟨t, (rmP_iff hid hsub ((readOrder_mem _ t).mp ht)).mp hp, rfl⟩
    · rintro ⟨t, ht, rfl⟩
      exact ⟨t, ⟨(readOrder_mem _ t).mpr (hsub t ht), rmP_of_mem ht⟩, rfl⟩
  rw [lookup_mergeAll_eq_firstHit hs1 hna hm, lookup_mergeAll_eq_firstHit hs2 hna (fun _ => Iff.rfl)]

/-- with distinct ids `rmP (ts.map (·.id))` is membership in `ts` (`rmP_iff`): the clauses of `StructOK` for a set of picked
tables, stated for membership -/
theorem struct_of_picked {L : Levels} {ts : List Tbl} {lvl : Nat} (o : Oracle)
    (hv : WeakValid L) (hid : (L.flatten.map (·.id)).Nodup)
    (hsub : ∀ t ∈ ts, t ∈ L.flatten)
    (h1 : 1 ≤ lvl) (h2 : lvl < L.length)
    (htarget : ∀ t ∈ L.getD lvl [], t ∈ ts)
    (hbelow : ∀ i, lvl < i → ∀ t ∈ L.getD i [], t ∉ ts)
    (hl0 : (L.headD []).Pairwise (fun older newer => newer ∈ ts → older ∉ ts → DisjointKeys newer.run older.run))
    (hclosed : ∀ i j, i < j → j < lvl → (∃ t ∈ L.getD i [], t ∈ ts) → ∀ t ∈ L.getD j [], t ∈ ts) :
    StructOK L (ts.map (·.id)) lvl (mergeWrite o ts) := by
  refine ⟨h1, h2, ?_, ?_, ?_, ?_, ?_, ?_⟩
  · intro t ht; exact rmP_of_mem (htarget t ht)
  · intro i hi t ht
    exact Bool.eq_false_iff.mpr (fun hr => hbelow i hi t ht ((rmP_iff hid hsub (getD_mem_flatten ht)).mp hr))
  · refine List.Pairwise.imp_of_mem ?_ hl0
    intro a b _ hb hab hpb hpa
    refine hab ((rmP_iff hid hsub (headD_mem_flatten hb)).mp hpb) ?_
    intro hin
    rw [rmP_of_mem hin] at hpa; cases hpa
  · intro i j hij hj hex t ht
    obtain ⟨x, hx, hpx⟩ := hex
    exact rmP_of_mem (hclosed i j hij hj ⟨x, hx, (rmP_iff hid hsub (getD_mem_flatten hx)).mp hpx⟩ t ht)
  · unfold mergeWrite
    rw [chunk_flatten]
    exact merge_order_irrelevant hv hid hsub
  · exact chunk_ok _ _

theorem getLastD_eq_getD (L : Levels) : L.getLastD [] = L.getD (L.length - 1) [] := by
  rw [List.getLastD_eq_getLast?, List.getLast?_eq_getElem?, List.getD_eq_getElem?_getD]

/-- the tables `Compact` hands to `kv.MergeEntries` and the level the result is written to, per branch -/
inductive Picked (order : List Tbl → List Tbl) (c : Compactor) (L : Levels) (o : Oracle) : List Tbl → Nat → Prop
  | major : o.overAmp = true →
      Picked order c L o (majorPickWith order o.goalMet 0 L.dropLast.reverse ++ L.getLastD []) (L.length - 1)
  | minor0 : c.minorLevel = 0 → o.l0Few = false → Picked order c L o (L.getD 0 [] ++ L.getD 1 []) 1
  | minor (i : Nat) : 1 ≤ i → i + 1 < L.length → o.levelOver i = true →
      Picked order c L o (L.getD i [] ++ L.getD (i + 1) []) (i + 1)

theorem minorDeep_some {L : Levels} {o : Oracle} {cs : ChangeSet} {c' : Compactor} {fuel cur : Nat}
    (h : minorDeep L o fuel cur = (some cs, c')) :
    ∃ i, cur ≤ i ∧ i + 1 < L.length ∧ o.levelOver i = true ∧
      cs = ⟨(L.getD i [] ++ L.getD (i + 1) []).map (·.id), i + 1, mergeWrite o (L.getD i [] ++ L.getD (i + 1) [])⟩ := by
  fun_induction minorDeep L o fuel cur with
  | case1 => cases h
  | case2 fuel cur hlt hover =>
    exact ⟨cur, Nat.le_refl _, Nat.add_lt_of_lt_sub hlt, hover, (Option.some.inj (Prod.mk.inj h).1).symm⟩
  | case3 fuel cur hlt hover ih =>
    obtain ⟨i, hi, rest⟩ := ih h
    exact ⟨i, Nat.le_of_succ_le hi, rest⟩
  | case4 => cases h

theorem compactWith_some {order : List Tbl → List Tbl} {c : Compactor} {L : Levels} {o : Oracle} {cs : ChangeSet}
    {c' : Compactor} (h : compactWith order c L o = (some cs, c')) :
    ∃ ts lvl, Picked order c L o ts lvl ∧ cs = ⟨ts.map (·.id), lvl, mergeWrite o ts⟩ := by
  by_cases hfew : c.minorLevel = 0 ∧ o.l0Few = true
  · rw [compactWith, if_pos hfew] at h; cases h
  · rw [compactWith, if_neg hfew] at h
    by_cases hamp : o.overAmp = true
    · rw [if_pos hamp] at h
      exact ⟨_, _, .major hamp, (Option.some.inj (Prod.mk.inj h).1).symm⟩
    · rw [if_neg hamp, minorCompaction] at h
      by_cases hc0 : c.minorLevel = 0
      · rw [if_pos hc0] at h
        have hf : o.l0Few = false := Bool.eq_false_iff.mpr (fun hf => hfew ⟨hc0, hf⟩)
        exact ⟨_, _, .minor0 hc0 hf, (Option.some.inj (Prod.mk.inj h).1).symm⟩
      · rw [if_neg hc0] at h
        obtain ⟨i, hi, hlen, hover, rfl⟩ := minorDeep_some h
        exact ⟨_, _, .minor i (Nat.lt_of_lt_of_le (Nat.pos_of_ne_zero hc0) hi) hlen hover, rfl⟩

theorem minor_sub (L : Levels) (i : Nat) : ∀ t ∈ L.getD i [] ++ L.getD (i + 1) [], t ∈ L.flatten := by
  intro t ht
  cases List.mem_append.mp ht with
  | inl h => exact getD_mem_flatten h
  | inr h => exact getD_mem_flatten h

theorem major_sub {order : List Tbl → List Tbl} (hp : ∀ l, (order l).Perm l) (met : Nat → Bool) (L : Levels) :
    ∀ t ∈ majorPickWith order met 0 L.dropLast.reverse ++ L.getLastD [], t ∈ L.flatten := by
  intro t ht
  cases List.mem_append.mp ht with
  | inl h =>
    obtain ⟨l, hl, htl⟩ := majorPickWith_sub order hp _ _ _ t h
    exact List.mem_flatten.mpr ⟨l, List.dropLast_subset L (List.mem_reverse.mp hl), htl⟩
  | inr h => rw [getLastD_eq_getD] at h; exact getD_mem_flatten h

theorem minor_struct {L : Levels} (o : Oracle) (hv : WeakValid L) (hid : (L.flatten.map (·.id)).Nodup)
    {i : Nat} (hi : i + 1 < L.length) :
    StructOK L ((L.getD i [] ++ L.getD (i + 1) []).map (·.id)) (i + 1)
      (mergeWrite o (L.getD i [] ++ L.getD (i + 1) [])) := by
  have hlev : ∀ {j t}, t ∈ L.getD j [] → t ∈ L.getD i [] ++ L.getD (i + 1) [] → j = i ∨ j = i + 1 := by
    intro j t ht hts
    cases List.mem_append.mp hts with
    | inl h => exact Or.inl (level_unique hid ht h)
    | inr h => exact Or.inr (level_unique hid ht h)
  apply struct_of_picked o hv hid (minor_sub L i) (Nat.le_add_left 1 i) hi
  · intro t ht; exact List.mem_append_right _ ht
  · intro j hj t ht hts
    rcases hlev ht hts with rfl | rfl
    · exact Nat.lt_irrefl _ (Nat.lt_trans (Nat.lt_succ_self _) hj)
    · exact Nat.lt_irrefl _ hj
  · -- level 0 is merged entirely (`i = 0`) or not at all
    rw [List.headD_eq_getD]
    apply List.pairwise_of_forall_mem_list
    intro a ha b hb hts hna
    rcases hlev hb hts with rfl | h0
    · exact absurd (List.mem_append_left _ ha) hna
    · cases h0
  · intro j k hjk hk hex t ht
    obtain ⟨x, hx, hxs⟩ := hex
    rcases hlev hx hxs with rfl | rfl
    · exact absurd hk (Nat.not_lt_of_le hjk)
    · exact absurd (Nat.lt_trans hjk hk) (Nat.lt_irrefl _)

theorem oldest_first {order : List Tbl → List Tbl} (ho : OrderOK order) {l : List Tbl} {P : Tbl → Prop}
    (hage : l.Pairwise (fun a b => ¬ DisjointKeys a.run b.run → age a < age b))
    (hcl : (order l).Pairwise (fun a b => P b → P a)) :
    l.Pairwise (fun older newer => P newer → ¬ P older → DisjointKeys newer.run older.run) := by
  refine List.Pairwise.imp_of_mem ?_ hage
  intro a b ha hb hab hPb hPa
  apply Decidable.byContradiction
  intro hnd
  have hlt : age a < age b := hab (fun hd => hnd (fun eb heb ea hea hk => hd ea hea eb heb hk.symm))
  -- in the arrangement `a` comes before `b` (closedness picks it) or after it (ages do not decrease)
  rcases pairwise_or ((ho.sorted l).and hcl) ((ho.perm _).mem_iff.mpr ha) ((ho.perm _).mem_iff.mpr hb) with h | h | h
  · subst h; exact absurd hlt (Nat.lt_irrefl _)
  · exact hPa (h.2 hPb)
  · exact absurd h.1 (Nat.not_le_of_lt hlt)

theorem major_struct {L : Levels} (order : List Tbl → List Tbl) (ho : OrderOK order) (o : Oracle) (hv : WeakValid L)
    (hid : (L.flatten.map (·.id)).Nodup) (hage : L0KeyAgeOrdered L) (h2 : 2 ≤ L.length) :
    StructOK L ((majorPickWith order o.goalMet 0 L.dropLast.reverse ++ L.getLastD []).map (·.id)) (L.length - 1)
      (mergeWrite o (majorPickWith order o.goalMet 0 L.dropLast.reverse ++ L.getLastD [])) := by
  have hsub := major_sub ho.perm o.goalMet L
  rw [getLastD_eq_getD] at hsub ⊢
  generalize hpk : majorPickWith order o.goalMet 0 L.dropLast.reverse = picked at hsub ⊢
  have hlenU : L.dropLast.length = L.length - 1 := List.length_dropLast
  have hupper : ∀ i (hi : i < L.dropLast.length), L.dropLast[i] = L.getD i [] := by
    intro i hi
    rw [List.getElem_dropLast, List.getD_eq_getElem?_getD,
      List.getElem?_eq_getElem (Nat.lt_of_lt_of_le (hlenU ▸ hi) (Nat.sub_le _ _))]
    rfl
  -- the levels visited are a part of `L` in another order
  have hndU : L.dropLast.reverse.flatten.Nodup := by
    obtain ⟨base, hb⟩ := List.dropLast_prefix L
    have hnd : L.flatten.Nodup := hid.of_map _ (fun _ _ hne heq => hne (heq ▸ rfl))
    rw [← hb, List.flatten_append] at hnd
    exact (List.reverse_perm _).flatten.nodup_iff.mpr (List.nodup_append.mp hnd).1
  -- closed towards the front of the candidate sequence: inside a level (`hin`), from a level to those before it (`hacross`)
  have hfront := prefix_closed_front (majorPickWith_prefix order o.goalMet 0 L.dropLast.reverse)
    ((candidates_perm ho.perm _).nodup_iff.mpr hndU)
  rw [hpk] at hfront
  obtain ⟨hin, hacross⟩ := List.pairwise_flatten.mp hfront
  have hnotbase : ∀ i, i < L.length - 1 → ∀ t ∈ L.getD i [], t ∈ picked ++ L.getD (L.length - 1) [] → t ∈ picked := by
    intro i hi t ht hts
    cases List.mem_append.mp hts with
    | inl h => exact h
    | inr h => exact absurd (level_unique hid ht h) (Nat.ne_of_lt hi)
  have h1 : 1 ≤ L.length - 1 := Nat.le_sub_of_add_le h2
  apply struct_of_picked o hv hid hsub h1 (Nat.sub_lt (Nat.lt_of_lt_of_le Nat.two_pos h2) Nat.one_pos)
  · intro t ht; exact List.mem_append_right _ ht
  · intro i hi t ht
    exact absurd (Nat.le_sub_one_of_lt (mem_getD.mp ht).1) (Nat.not_le_of_lt hi)
  · -- level 0: the picked tables are the oldest ones
    rw [List.headD_eq_getD]
    have h0 : 0 < L.dropLast.length := by rw [hlenU]; exact h1
    have hmem0 : L.getD 0 [] ∈ L.dropLast.reverse := by
      rw [List.mem_reverse, ← hupper 0 h0]; exact List.getElem_mem h0
    have hage' : (L.getD 0 []).Pairwise (fun a b => ¬ DisjointKeys a.run b.run → age a < age b) :=
      List.headD_eq_getD ▸ hage
    refine (oldest_first ho hage' (hin _ (List.mem_map.mpr ⟨_, hmem0, rfl⟩))).imp_of_mem ?_
    intro a b _ hb hab hbts hats
    exact hab (hnotbase 0 h1 b hb hbts) (fun hap => hats (List.mem_append_left _ hap))
  · intro i j hij hj hex t ht
    obtain ⟨x, hx, hxs⟩ := hex
    have hxp := hnotbase i (Nat.lt_trans hij hj) x hx hxs
    rw [List.pairwise_map, List.pairwise_reverse] at hacross
    have hj' : j < L.dropLast.length := by rw [hlenU]; exact hj
    have hi' : i < L.dropLast.length := Nat.lt_trans hij hj'
    have := List.pairwise_iff_getElem.mp hacross i j hi' hj' hij
    rw [hupper i hi', hupper j hj'] at this
    exact List.mem_append_left _ (this t ((ho.perm _).mem_iff.mpr ht) x ((ho.perm _).mem_iff.mpr hx) hxp)

/-- what `Compact` returns, whatever arrangement the sort gives to equal ages: a change set of the structural shape whose
removed ids are ids of tables of the level list, and which removes a table when the oracle's answers are sane -/
theorem compactWith_spec {L : Levels} {c : Compactor} {o : Oracle} {order : List Tbl → List Tbl} (ho : OrderOK order)
    (hv : WeakValid L) (hid : (L.flatten.map (·.id)).Nodup) (hage : L0KeyAgeOrdered L) (h2 : 2 ≤ L.length)
    {cs : ChangeSet} {c' : Compactor} (h : compactWith order c L o = (some cs, c')) :
    StructOK L cs.rm cs.lvl cs.add ∧ (∀ i ∈ cs.rm, ∃ t ∈ L.flatten, t.id = i) ∧
      (OracleSane c L o → ∃ t ∈ L.flatten, rmP cs.rm t = true) := by
  obtain ⟨ts, lvl, hpk, rfl⟩ := compactWith_some h
  obtain ⟨hshape, hsub, hne⟩ : StructOK L (ts.map (·.id)) lvl (mergeWrite o ts) ∧ (∀ t ∈ ts, t ∈ L.flatten) ∧
      (OracleSane c L o → ts ≠ []) := by
    cases hpk with
    | major hamp =>
      refine ⟨major_struct order ho o hv hid hage h2, major_sub ho.perm _ L, fun hs => ?_⟩
      obtain ⟨t, ht⟩ := List.exists_mem_of_ne_nil _ (hs.amp hamp)
      obtain ⟨l, hl, htl⟩ := List.mem_flatten.mp ht
      exact List.append_ne_nil_of_left_ne_nil
        (majorPickWith_ne_nil order ho.perm o.goalMet 0 _ ⟨l, List.mem_reverse.mpr hl, List.ne_nil_of_mem htl⟩) _
    | minor0 hc0 hfew =>
      exact ⟨minor_struct o hv hid (show 0 + 1 < L.length from h2), minor_sub L 0,
        fun hs => List.append_ne_nil_of_left_ne_nil (hs.l0 hc0 hfew) _⟩
    | minor i _ hi hover =>
      exact ⟨minor_struct o hv hid hi, minor_sub L i, fun hs => List.append_ne_nil_of_left_ne_nil (hs.level i hover) _⟩
  refine ⟨hshape, fun i hi => ?_, fun hs => ?_⟩
  · obtain ⟨t, ht, rfl⟩ := List.mem_map.mp hi
    exact ⟨t, hsub t ht, rfl⟩
  · obtain ⟨x, hx⟩ := List.exists_mem_of_ne_nil _ (hne hs)
    exact ⟨x, hsub x hx, rmP_of_mem hx⟩

theorem compactWith_safe {L : Levels} {c : Compactor} {o : Oracle} (order : List Tbl → List Tbl) (ho : OrderOK order)
    (hv : WeakValid L) (hid : (L.flatten.map (·.id)).Nodup) (hage : L0KeyAgeOrdered L) (h2 : 2 ≤ L.length)
    {cs : ChangeSet} {c' : Compactor} (h : compactWith order c L o = (some cs, c')) : SafeCS L cs.rm cs.lvl cs.add :=
  safe_of_structOK hv (compactWith_spec ho hv hid hage h2 h).1

/-- what a `Compact` call leaves pending, in `Sys` and in `DB`: the removed ids are below the id counter -/
theorem compact_pending {L : Levels} {n : Nat} {c : Compactor} {o : Oracle} {cs : ChangeSet} (hv : WeakValid L)
    (hf : IdsFresh L n) (hage : L0KeyAgeOrdered L) (h2 : 2 ≤ L.length) (h : (compact c L o).1 = some cs) :
    StructOK L cs.rm cs.lvl cs.add ∧ (∀ i ∈ cs.rm, i < n) ∧
      (OracleSane c L o → ∃ t ∈ L.flatten, rmP cs.rm t = true) := by
  have hc : compact c L o = (some cs, (compact c L o).2) := by rw [← h]
  obtain ⟨hshape, hold, hsome⟩ := compactWith_spec orderOK_sortByAge hv hf.1 hage h2 hc
  refine ⟨hshape, fun i hi => ?_, hsome⟩
  obtain ⟨t, ht, rfl⟩ := hold i hi
  exact hf.2 t ht

end Rxn.Compaction
