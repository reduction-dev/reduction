import RxnModel.Model.Ckpt
import RxnModel.Proofs.Lsm
/-!
`Rxn.Ckpt.step` inverted action by action: from a successful step, the successor state and the part of the guard the
invariant proofs need (an equivalence where the converse is needed to exhibit a step); and the induction principles of
the folds `replay`, `run`, `runSpec`.
-/
namespace Rxn.Ckpt
open Rxn Rxn.Lsm

/-- the logged form of `DB.Put` / `DB.Delete` -/
def wrec (seq : Nat) (del : Bool) (k v : Bytes) : Wal.Rec := ⟨seq, k, del, if del then [] else v⟩

/-- `Writer.Put` / `Writer.Delete` of a record -/
def wapp (w : Wal.Writer) (r : Wal.Rec) : Wal.Writer := { w with active := w.active ++ [r], latest := r.seq }

theorem wapp_entries (w : Wal.Writer) (r : Wal.Rec) : (wapp w r).entries = w.entries ++ [r] := by
  simp only [wapp, Wal.Writer.entries, List.append_assoc]

theorem cut_entries (w : Wal.Writer) : w.cut.entries = w.entries := by
  simp [Wal.Writer.cut, Wal.Writer.entries]

theorem rotate_entries (w : Wal.Writer) : w.rotate.entries = w.entries := by
  simp [Wal.Writer.rotate, Wal.Writer.entries]

theorem lsm_write_some {db db' : Lsm.State} {e : Entry} (h : Lsm.write db e = some db') :
    ∃ sealed active, db.mems = sealed ++ [active] ∧
      db' = { db with seq := db.seq + 1, mems := sealed ++ [active.insert e] } := by
  obtain ⟨_, active, sealedRev, hrev, rfl⟩ := write_eq_some h
  refine ⟨sealedRev.reverse, active, ?_, ?_⟩
  · rw [← List.reverse_reverse db.mems, hrev, List.reverse_cons]
  · rw [List.reverse_cons]

/-- a write lands in the newest memtable, which a point read consults first -/
theorem lsm_write_get {db db' : Lsm.State} {e : Entry} (h : Lsm.write db e = some db') (k : Bytes) :
    Lsm.get db' k = if e.key = k then some e else Lsm.get db k := by
  obtain ⟨_, active, sealedRev, hrev, rfl⟩ := write_eq_some h
  unfold Lsm.get memGet
  rw [List.reverse_reverse, hrev]
  simp only [firstSome, Run.lookup_insert]
  by_cases hk : e.key = k
  · rw [if_pos hk, if_pos hk]
  · rw [if_neg hk, if_neg hk]

theorem lsm_write_enabled {db : Lsm.State} (hrd : db.reading = none) (hne : db.mems ≠ []) (e : Entry) :
    ∃ db', Lsm.write db e = some db' := by
  unfold Lsm.write
  rw [hrd]
  cases hr : db.mems.reverse with
  | nil => exact absurd (List.reverse_eq_nil_iff.mp hr) hne
  | cons a t => exact ⟨_, rfl⟩

theorem writeStep_some {s s' : State} {del : Bool} {k v : Bytes} {rot : Bool}
    (h : writeStep s del k v rot = some s') :
    ∃ db1, Lsm.step s.db (if del then .del k else .put k v) = some db1 ∧
      Lsm.write s.db (recEntry (wrec (s.db.seq + 1) del k v)) = some db1 ∧
      s' = if rot then { s with db := { db1 with mems := db1.mems ++ [[]] },
                                wal := (wapp s.wal (wrec (s.db.seq + 1) del k v)).cut }
           else { s with db := db1, wal := wapp s.wal (wrec (s.db.seq + 1) del k v) } := by
  have hlog : (if del then s.wal.delete k (s.db.seq + 1) else s.wal.put k v (s.db.seq + 1)) =
      wapp s.wal (wrec (s.db.seq + 1) del k v) := by
    cases del
    · rfl
    · rfl
  unfold writeStep at h
  split at h
  · cases h
  · rename_i db1 hdb
    refine ⟨db1, hdb, ?_, ?_⟩
    · rw [← hdb]
      cases del
      · rfl
      · rfl
    · simp only [hlog] at h
      cases rot
      · exact (Option.some.inj h).symm
      · exact (Option.some.inj h).symm

theorem writeStep_enabled {s : State} (hrd : s.db.reading = none) (hne : s.db.mems ≠ []) (del : Bool)
    (k v : Bytes) (rot : Bool) : ∃ s', writeStep s del k v rot = some s' := by
  obtain ⟨db1, h1⟩ := lsm_write_enabled hrd hne (recEntry (wrec (s.db.seq + 1) del k v))
  have h2 : Lsm.step s.db (if del then .del k else .put k v) = some db1 := by
    rw [← h1]
    cases del
    · rfl
    · rfl
  unfold writeStep
  rw [h2]
  cases rot
  · exact ⟨_, rfl⟩
  · exact ⟨_, rfl⟩

theorem writeStep_replaying {s s' : State} {del : Bool} {k v : Bytes} {rot : Bool}
    (h : writeStep s del k v rot = some s') : s'.replaying = s.replaying := by
  obtain ⟨_, _, _, rfl⟩ := writeStep_some h
  cases rot
  · rfl
  · rfl

/-- read-your-write, of any state: nothing but the memtable insert is involved -/
theorem write_reads {s s' : State} {del : Bool} {k v : Bytes} {rot : Bool}
    (h : writeStep s del k v rot = some s') (k' : Bytes) :
    answer (Lsm.get s'.db k') =
      if k = k' then (if del then none else some v) else answer (Lsm.get s.db k') := by
  obtain ⟨db1, _, hw, hs'⟩ := writeStep_some h
  -- the empty memtable a rotation adds answers nothing
  have hrot : Lsm.get s'.db k' = Lsm.get db1 k' := by
    rw [hs']
    cases rot
    · rfl
    · show Lsm.get { db1 with mems := db1.mems ++ [[]] } k' = _
      unfold Lsm.get
      rw [memGet_rotate]
  rw [hrot, lsm_write_get hw k']
  show answer (if k = k' then some (recEntry (wrec (s.db.seq + 1) del k v)) else Lsm.get s.db k') = _
  by_cases hk : k = k'
  · rw [if_pos hk, if_pos hk]
    cases del <;> rfl
  · rw [if_neg hk, if_neg hk]

theorem lsm_flushBegin {db db' : Lsm.State} {n : Nat} (h : Lsm.step db (.flushBegin n) = some db') :
    db' = { db with flushing := some (db.mems.take n) } := by
  cases step_some h
  rfl

theorem lsm_flushCommit {db db' : Lsm.State} {snap : List Run} (hfl : db.flushing = some snap)
    (h : Lsm.step db .flushCommit = some db') :
    db.mems.take snap.length = snap ∧ snap.length < db.mems.length ∧
      db' = { db with levels := addAt db.levels 0 (mkTables db.nextId snap), nextId := db.nextId + snap.length,
                      mems := db.mems.drop snap.length, flushing := none } := by
  cases step_some h with
  | flushCommit hfl' htake hlen =>
    cases hfl.symm.trans hfl'
    exact ⟨htake, hlen, rfl⟩

theorem lsm_compact {db db' : Lsm.State} {rm : List Nat} {lvl : Nat} {add : List Run}
    (h : Lsm.step db (.compact rm lvl add) = some db') :
    safeCS db.levels rm lvl add = true ∧
      db' = { db with levels := addAt (removeIds rm db.levels) lvl (mkTables db.nextId add),
                      nextId := db.nextId + add.length } := by
  cases step_some h with
  | compact _ _ _ hsafe => exact ⟨hsafe, rfl⟩

variable {s s' : State}

/-- the guard `!s.alive || blocked s a` of every action but `open`, not taken -/
theorem not_bnot_or_iff {a b : Bool} : ¬ ((!a || b) = true) ↔ a = true ∧ b = false := by
  cases a <;> cases b <;> decide

theorem step_write {del : Bool} {k v : Bytes} {rot : Bool} :
    step s (.write del k v rot) = some s' ↔
      s.alive = true ∧ s.replaying = [] ∧ writeStep s del k v rot = some s' := by
  simp only [step, Option.ite_none_left_eq_some]
  simp only [blocked, not_bnot_or_iff, Bool.not_eq_false', List.isEmpty_iff, and_assoc]

theorem step_replayOne {rot : Bool} :
    step s (.replayOne rot) = some s' ↔
      s.alive = true ∧ ∃ r rs s1, s.replaying = r :: rs ∧ writeStep s r.del r.key r.val rot = some s1 ∧
        s' = { s1 with replaying := rs } := by
  simp only [step, Option.ite_none_left_eq_some]
  simp only [blocked, not_bnot_or_iff, and_true]
  refine and_congr_right fun _ => ⟨fun h => ?_, fun ⟨r, rs, s1, hr, h1, e⟩ => ?_⟩
  · split at h
    · cases h
    · rename_i r rs hr
      split at h
      · cases h
      · rename_i s1 h1
        exact ⟨r, rs, s1, hr, h1, (Option.some.inj h).symm⟩
  · rw [hr]
    simp only [h1, e]

theorem step_open {id : Nat} {rots : List Nat} :
    step s (.open id rots) = some s' ↔ ∃ c, loadCkpt s.files id = some c ∧ restore s.files c rots = some s' := by
  simp only [step]
  cases loadCkpt s.files id <;> simp

theorem restore_some {f : Files} {c : Ckpt} {rots : List Nat} {r : State} :
    restore f c rots = some r ↔
      ∃ recs, walRead c.recs c.after = some recs ∧ replay (restoreBase f c) recs rots = some r := by
  simp only [restore]
  cases walRead c.recs c.after <;> simp

theorem step_openBegin {id : Nat} (h : step s (.openBegin id) = some s') :
    ∃ c recs, loadCkpt s.files id = some c ∧ walRead c.recs c.after = some recs ∧
      s' = { restoreBase s.files c with replaying := recs } := by
  simp only [step] at h
  split at h
  · cases h
  · rename_i c hc
    split at h
    · cases h
    · rename_i recs hrecs
      exact ⟨c, recs, hc, hrecs, (Option.some.inj h).symm⟩

theorem step_flushBegin {n : Nat} (h : step s (.flushBegin n) = some s') :
    ∃ db', Lsm.step s.db (.flushBegin n) = some db' ∧ s' = { s with db := db' } := by
  simp only [step, Option.ite_none_left_eq_some] at h
  cases hdb : Lsm.step s.db (.flushBegin n) with
  | none => rw [hdb] at h; cases h.2
  | some db' => rw [hdb] at h; exact ⟨db', rfl, (Option.some.inj h.2).symm⟩

theorem step_flushCommit (h : step s .flushCommit = some s') :
    ∃ snap db', s.db.flushing = some snap ∧ Lsm.step s.db .flushCommit = some db' ∧
      s' = { s with db := db', latest := max s.latest (runsMaxSeq snap),
                    wal := s.wal.truncate (max s.latest (runsMaxSeq snap)),
                    files := writeTables s.files (mkTables s.db.nextId snap) } := by
  simp only [step, Option.ite_none_left_eq_some] at h
  replace h := h.2
  split at h
  · rename_i snap db' hfl hdb
    exact ⟨snap, db', hfl, hdb, (Option.some.inj h).symm⟩
  · cases h

theorem step_compact {rm : List Nat} {lvl : Nat} {add : List Run} (h : step s (.compact rm lvl add) = some s') :
    ∃ db', Lsm.step s.db (.compact rm lvl add) = some db' ∧
      s' = { s with db := db', latest := max s.latest (runsMaxSeq add),
                    files := writeTables s.files (mkTables s.db.nextId add) } := by
  simp only [step, Option.ite_none_left_eq_some] at h
  cases hdb : Lsm.step s.db (.compact rm lvl add) with
  | none => rw [hdb] at h; cases h.2
  | some db' => rw [hdb] at h; exact ⟨db', rfl, (Option.some.inj h.2).symm⟩

theorem step_checkpoint {id : Nat} (h : step s (.checkpoint id) = some s') :
    s.replaying = [] ∧ id ∉ s.used ∧
      s' = { s with wal := s.wal.rotate, ckpts := s.ckpts ++ [capture s id],
                    tasks := s.tasks ++ [⟨id, s.wal.id, s.wal.entries, false⟩], used := id :: s.used } := by
  simp only [step, Option.ite_none_left_eq_some, Option.some.injEq] at h
  simp only [blocked, not_bnot_or_iff, Bool.not_eq_false', List.isEmpty_iff] at h
  exact ⟨h.1.2, by simpa using h.2.1, h.2.2.symm⟩

theorem step_saveWal {id : Nat} (h : step s (.saveWal id) = some s') :
    ∃ t ∈ s.tasks, t.id = id ∧
      s' = { s with files := { s.files with wals := (t.walId, t.recs) :: s.files.wals },
                    tasks := s.tasks.map (fun t' => if t'.id == id then { t' with walSaved := true } else t') } := by
  simp only [step, Option.ite_none_left_eq_some] at h
  cases ht : s.tasks.find? (fun t => t.id == id && !t.walSaved) with
  | none => rw [ht] at h; cases h.2
  | some t =>
    rw [ht] at h
    have hp := List.find?_some ht
    rw [Bool.and_eq_true, beq_iff_eq] at hp
    exact ⟨t, List.mem_of_find?_eq_some ht, hp.1, (Option.some.inj h.2).symm⟩

theorem step_saveDoc {id : Nat} (h : step s (.saveDoc id) = some s') :
    ∃ t ∈ s.tasks, t.id = id ∧ t.walSaved = true ∧
      s' = { writeDoc s with tasks := s.tasks.filter (fun t => !(t.id == id)), done := id :: s.done } := by
  simp only [step, Option.ite_none_left_eq_some] at h
  cases ht : s.tasks.find? (fun t => t.id == id && t.walSaved) with
  | none => rw [ht] at h; cases h.2
  | some t =>
    rw [ht] at h
    have hp := List.find?_some ht
    rw [Bool.and_eq_true, beq_iff_eq] at hp
    exact ⟨t, List.mem_of_find?_eq_some ht, hp.1, hp.2, (Option.some.inj h.2).symm⟩

theorem step_retain {ids : List Nat} (h : step s (.retain ids) = some s') :
    s' = { s with ckpts := s.ckpts.filter (fun c => keeps ids c.id),
                  pending := s.pending ++ s.ckpts.filter (fun c => !keeps ids c.id) } := by
  simp only [step, Option.ite_none_left_eq_some, Option.some.injEq] at h
  exact h.2.2.symm

theorem step_saveList (h : step s .saveList = some s') : s' = writeDoc s := by
  simp only [step, Option.ite_none_left_eq_some, Option.some.injEq] at h
  exact h.2.symm

theorem step_destroy (h : step s .destroy = some s') :
    ∃ p ps, s.pending = p :: ps ∧
      s' = { s with files := { s.files with wals := s.files.wals.filter (fun q => !([p.walId]).contains q.1) },
                    pending := ps } := by
  simp only [step, Option.ite_none_left_eq_some, destroyOne] at h
  cases hp : s.pending with
  | nil => rw [hp] at h; cases h.2
  | cons p ps => rw [hp] at h; exact ⟨p, ps, rfl, (Option.some.inj h.2).symm⟩

theorem step_orphan {id : Nat} {run : Run} (h : step s (.orphan id run) = some s') :
    s.db.nextId ≤ id ∧ s' = { s with files := { s.files with tables := (id, run) :: s.files.tables } } := by
  simp only [step, Option.ite_none_left_eq_some, Option.some.injEq] at h
  exact ⟨Nat.le_of_not_lt h.2.1, h.2.2.symm⟩

theorem step_crash (h : step s .crash = some s') : s' = { s with alive := false } := by
  simp only [step, Option.ite_none_left_eq_some, Option.some.injEq] at h
  exact h.2.symm

theorem replay_cons {r : Wal.Rec} {rs : List Wal.Rec} {rots : List Nat} :
    replay s (r :: rs) rots = some s' ↔
      ∃ s1, writeStep s r.del r.key r.val (rots.contains (s.db.seq + 1)) = some s1 ∧ replay s1 rs rots = some s' := by
  show (match writeStep s r.del r.key r.val (rots.contains (s.db.seq + 1)) with
    | none => none
    | some s1 => replay s1 rs rots) = some s' ↔ _
  cases writeStep s r.del r.key r.val (rots.contains (s.db.seq + 1)) <;> simp

theorem replay_induct {P : State → List Wal.Rec → Prop}
    (hw : ∀ (s s' : State) r rs rot, writeStep s r.del r.key r.val rot = some s' → P s (r :: rs) → P s' rs) :
    ∀ (recs : List Wal.Rec) (rots : List Nat) (s s' : State), replay s recs rots = some s' → P s recs → P s' [] := by
  intro recs rots
  induction recs with
  | nil => intro s s' h hp; rw [← Option.some.inj h]; exact hp
  | cons r rs ih =>
    intro s s' h hp
    obtain ⟨s1, h1, h2⟩ := replay_cons.mp h
    exact ih s1 s' h2 (hw _ _ _ _ _ h1 hp)

theorem run_cons {a : Act} {as : List Act} :
    run s (a :: as) = some s' ↔ ∃ s1, step s a = some s1 ∧ run s1 as = some s' := by
  show (match step s a with
    | some s1 => run s1 as
    | none => none) = some s' ↔ _
  cases step s a <;> simp

theorem run_induct {P : State → Prop} (hstep : ∀ (s s' : State) a, P s → step s a = some s' → P s') :
    ∀ (as : List Act) (s s' : State), P s → run s as = some s' → P s' := by
  intro as
  induction as with
  | nil => intro s s' hp h; rw [← Option.some.inj h]; exact hp
  | cons a as ih =>
    intro s s' hp h
    obtain ⟨s1, h1, h2⟩ := run_cons.mp h
    exact ih s1 s' (hstep s s1 a hp h1) h2

theorem stepSpec_open (s : State) (sp : SpecSt) (id : Nat) (rots : List Nat) :
    stepSpec s sp (.open id rots) = stepSpec s sp (.openBegin id) := rfl

theorem runSpec_cons_eq (sp : SpecSt) (a : Act) (as : List Act) :
    runSpec s sp (a :: as) = if guardOk s a then
      match step s a with
      | some s1 => runSpec s1 (stepSpec s sp a) as
      | none => none
    else none := rfl

theorem runSpec_cons {sp sp' : SpecSt} {a : Act} {as : List Act} :
    runSpec s sp (a :: as) = some (s', sp') ↔
      guardOk s a = true ∧ ∃ s1, step s a = some s1 ∧ runSpec s1 (stepSpec s sp a) as = some (s', sp') := by
  rw [runSpec_cons_eq]
  cases guardOk s a <;> cases step s a <;> simp

theorem runSpec_induct {P : State → SpecSt → Prop}
    (hstep : ∀ (s s' : State) sp a, P s sp → guardOk s a = true → step s a = some s' → P s' (stepSpec s sp a)) :
    ∀ (as : List Act) (s s' : State) (sp sp' : SpecSt), P s sp → runSpec s sp as = some (s', sp') → P s' sp' := by
  intro as
  induction as with
  | nil =>
    intro s s' sp sp' hp h
    cases Option.some.inj h
    exact hp
  | cons a as ih =>
    intro s s' sp sp' hp h
    obtain ⟨hg, s1, h1, h2⟩ := runSpec_cons.mp h
    exact ih s1 s' _ sp' (hstep s s1 sp a hp hg h1) h2

theorem runSpec_append (a b : List Act) : ∀ (s : State) (sp : SpecSt),
    runSpec s sp (a ++ b) = (runSpec s sp a).bind fun p => runSpec p.1 p.2 b := by
  induction a with
  | nil => intro s sp; rfl
  | cons x xs ih =>
    intro s sp
    rw [List.cons_append, runSpec_cons_eq, runSpec_cons_eq]
    cases guardOk s x
    · rfl
    · cases step s x with
      | none => rfl
      | some s1 => exact ih s1 _

end Rxn.Ckpt
