import RxnModel.Model.Assembly
import RxnModel.Proofs.KeySpace
import RxnModel.Base.BytesOrder
import RxnModel.Proofs.Lists
/-! What `Props/C05.lean` needs of the deployment model (`Model/Assembly.lean`) and of the key encoders, each function characterised
once (`Deploy` and the two `HandleDeploy` by their value when their guards pass). -/
namespace Rxn

theorem KGRange.mem_keyGroups {r : KGRange} {g : Nat} : g ∈ r.keyGroups ↔ r.includes g = true := by
  rw [includes_iff_lt_size, keyGroups, List.mem_range'_1]

/-- `g - r.start` is `IndexOf(g)` -/
theorem KGRange.keyGroups_getElem? {r : KGRange} {g : Nat} (h : r.includes g = true) :
    r.keyGroups[g - r.start]? = some g := by
  obtain ⟨h1, h2⟩ := includes_iff.mp h
  have hlt : g - r.start < r.size := by
    rw [size_eq]
    exact Nat.sub_lt_sub_right h1 h2
  rw [keyGroups, List.getElem?_range' hlt, Nat.one_mul, Nat.add_sub_cancel' h1]

namespace KeySpace

theorem fillRangeA_toList (i : Nat) : ∀ (c : Nat) (tbl : Array Nat) (j : Nat),
    (fillRangeA tbl i c j).toList = fillRange tbl.toList i c j := by
  intro c
  induction c with
  | zero => intro tbl j; rfl
  | succ c ih => intro tbl j; rw [fillRangeA, fillRange, ih, Array.toList_setIfInBounds]

theorem fillAllA_toList : ∀ (rs : List KGRange) (tbl : Array Nat) (i : Nat),
    (fillAllA tbl i rs).toList = fillAll tbl.toList i rs := by
  intro rs
  induction rs with
  | nil => intro tbl i; rfl
  | cons r rs ih => intro tbl i; rw [fillAllA, fillAll, ih, fillRangeA_toList]

theorem _root_.List.range'_append_sub {a b c : Nat} (hab : a ≤ b) (hbc : b ≤ c) :
    List.range' a (b - a) ++ List.range' b (c - b) = List.range' a (c - a) := by
  have h := List.range'_append_1 (s := a) (m := b - a) (n := c - b)
  rwa [Nat.add_sub_cancel' hab, Nat.add_comm, Nat.sub_add_sub_cancel hbc hab] at h

theorem flatMap_keyGroups_consecutive (f : Nat → Nat) (hf : ∀ i j, i ≤ j → f i ≤ f j) : ∀ (len i : Nat),
    ((List.range' i len).map (fun j => (⟨f j, f (j + 1)⟩ : KGRange))).flatMap KGRange.keyGroups =
      List.range' (f i) (f (i + len) - f i) := by
  intro len
  induction len with
  | zero => intro i; rw [Nat.add_zero, Nat.sub_self]; rfl
  | succ len ih =>
    intro i
    rw [List.range'_succ, List.map_cons, List.flatMap_cons, ih (i + 1), Nat.add_right_comm i 1 len]
    exact List.range'_append_sub (hf i (i + 1) (Nat.le_succ i)) (hf (i + 1) (i + len + 1) (Nat.succ_le_succ (Nat.le_add_right i len)))

end KeySpace

namespace Keys
open KeySpace

/-- `KeyGroupFromBytes` reads back what `PutBytes` wrote: the group `OwnsKey` tests -/
theorem beNat_dbKey {kgc : Nat} (hk : 0 < kgc) (hk2 : kgc ≤ 65536) (k ns d : Bytes) :
    Bytes.beNat ((dbKey kgc k ns d).take 2) = keyGroup kgc k := by
  simp only [dbKey, subjectKey, List.append_assoc]
  exact Bytes.beNat_take2_u16be _ (Nat.lt_of_lt_of_le (Nat.mod_lt _ hk) hk2) _

theorem beNat_timerKey {kgc : Nat} (hk : 0 < kgc) (hk2 : kgc ≤ 65536) (k : Bytes) (t : Nat) :
    Bytes.beNat ((timerKey kgc k t).take 2) = keyGroup kgc k := by
  simp only [timerKey, List.append_assoc]
  exact Bytes.beNat_take2_u16be _ (Nat.lt_of_lt_of_le (Nat.mod_lt _ hk) hk2) _

end Keys

namespace Assembly
open KeySpace

theorem setKey_nodup (keys : List NodeId) (id : NodeId) (h : keys.Nodup) : (setKey keys id).Nodup := by
  unfold setKey
  split
  · exact h
  · rename_i hc
    exact nodup_append_singleton h fun hm => hc (List.contains_iff_mem.mpr hm)

theorem Reg.step_nodup (r : Reg) (s : RegStep) (h : r.ops.Nodup ∧ r.srs.Nodup) : (r.step s).ops.Nodup ∧ (r.step s).srs.Nodup := by
  cases s
  · exact ⟨setKey_nodup _ _ h.1, h.2⟩
  · exact ⟨h.1, setKey_nodup _ _ h.2⟩
  · exact ⟨h.1.erase _, h.2⟩
  · exact ⟨h.1, h.2.erase _⟩

theorem Reg.run_nodup (steps : List RegStep) : (Reg.run steps).ops.Nodup ∧ (Reg.run steps).srs.Nodup := by
  suffices h : ∀ r : Reg, r.ops.Nodup ∧ r.srs.Nodup →
      (steps.foldl Reg.step r).ops.Nodup ∧ (steps.foldl Reg.step r).srs.Nodup from h {} ⟨List.nodup_nil, List.nodup_nil⟩
  induction steps with
  | nil => intro r h; exact h
  | cons s ss ih => intro r h; exact ih _ (r.step_nodup s h)

theorem sorted_take_nodup (keys : List NodeId) (n : Nat) (h : keys.Nodup) : ((sortedIds keys).take n).Nodup :=
  List.Nodup.sublist (List.take_sublist _ _) ((List.mergeSort_perm keys _).nodup_iff.mpr h)

theorem sorted_take_length (keys : List NodeId) (n : Nat) (h : n ≤ keys.length) : ((sortedIds keys).take n).length = n := by
  rw [List.length_take, sortedIds, List.length_mergeSort]
  exact Nat.min_eq_left h

theorem sorted_take_subset (keys : List NodeId) (n : Nat) : ∀ x ∈ (sortedIds keys).take n, x ∈ keys := by
  intro x hx
  exact (List.mergeSort_perm keys _).mem_iff.mp (List.mem_of_mem_take hx)

theorem deploy_eq_some_iff {kgc wc : Nat} {ops srs : List NodeId} {D : Deployment} :
    deploy kgc wc ops srs = some D ↔ (0 < kgc ∧ kgc ≤ 65535 ∧ 0 < wc ∧ ops.length ≤ wc) ∧
      D = ⟨srs.map fun s => (s, ⟨ops, kgc⟩), ops.map fun o => (o, ⟨ops, srs, kgc⟩)⟩ := by
  have hc : ¬ (kgc < 1 ∨ kgc > 65535 ∨ wc < 1 ∨ ops.length > wc) ↔ (0 < kgc ∧ kgc ≤ 65535 ∧ 0 < wc ∧ ops.length ≤ wc) := by
    simp only [not_or, Nat.lt_one_iff, Nat.pos_iff_ne_zero, Nat.not_lt, gt_iff_lt, ne_eq]
  unfold deploy
  split
  · rename_i h; exact ⟨nofun, fun ⟨hw, _⟩ => absurd h (hc.mpr hw)⟩
  · rename_i h
    constructor
    · intro hD; cases hD; exact ⟨hc.mp h, rfl⟩
    · intro ⟨_, hD⟩; rw [hD]

theorem srHandleDeploy_eq {kgc : Nat} (hk : 0 < kgc) (hk2 : kgc ≤ 65535) {ops : List NodeId} (hn : 0 < ops.length) :
    srHandleDeploy ⟨ops, kgc⟩ = some ⟨kgc, ops, lookupTableA kgc ops.length⟩ := by
  simp only [srHandleDeploy]
  rw [if_neg (not_or.mpr ⟨Nat.not_lt_of_le hk, not_or.mpr ⟨Nat.not_lt_of_le hk2, Nat.not_lt_of_le hn⟩⟩)]

theorem opHandleDeploy_eq {kgc : Nat} (hk : 0 < kgc) (hk2 : kgc ≤ 65535) {ops : List NodeId} {o : NodeId} (ho : o ∈ ops)
    (srs : List NodeId) :
    opHandleDeploy o ⟨ops, srs, kgc⟩ = some ⟨kgc, ops.length, ops.idxOf o,
      ⟨startOf kgc ops.length (ops.idxOf o), startOf kgc ops.length (ops.idxOf o + 1)⟩⟩ := by
  have hidx : ops.idxOf o < ops.length := List.idxOf_lt_length_iff.mpr ho
  simp only [opHandleDeploy]
  rw [if_neg (not_or.mpr ⟨Nat.not_le_of_lt hidx, not_or.mpr ⟨Nat.not_lt_of_le hk, Nat.not_lt_of_le hk2⟩⟩),
    List.getD_eq_getElem?_getD, ranges_get kgc ops.length _ hidx]
  rfl

theorem idxOf_eq_iff_of_nodup {l : List NodeId} (h : l.Nodup) {a : NodeId} {i : Nat} (hi : i < l.length) :
    l.idxOf a = i ↔ a = l[i] := by
  constructor
  · intro hai; subst hai; exact (List.getElem_idxOf hi).symm
  · intro ha; subst ha; exact h.idxOf_getElem i hi

theorem map_idxOf_of_nodup {β : Type} (f : Nat → β) {l : List NodeId} (h : l.Nodup) :
    l.map (fun a => f (l.idxOf a)) = (List.range l.length).map f := by
  apply List.ext_getElem
  · rw [List.length_map, List.length_map, List.length_range]
  · intro i h1 h2
    rw [List.getElem_map, List.getElem_map, List.getElem_range, h.idxOf_getElem]

end Assembly
end Rxn
